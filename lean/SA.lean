import SA.Model.Basic
import SA.Model.Threshold
import SA.Spec.C01
import SA.Spec.C02
import SA.Proofs.Bisect
import SA.Proofs.Threshold
import SA.Proofs.Invert
import SA.Proofs.Rescale
import SA.Proofs.Counts
import SA.Proofs.Coherence
import SA.Theorems.C01
import SA.Theorems.C02
import SA.Theorems.C03
import SA.Model.Metrics
import SA.Spec.C04
import SA.Proofs.Rates
import SA.Theorems.C04
import SA.Model.MetricExpr
import SA.Proofs.Checkers
import SA.Theorems.C04Defs
import SA.Model.Bootstrap
import SA.Spec.C13
import SA.Proofs.Quantile
import SA.Theorems.C13
import SA.Model.Fraud
import SA.Spec.C19
import SA.Theorems.C19
import SA.Spec.C08
import SA.Theorems.C08
import SA.Proofs.Easy
import SA.Theorems.C09
import SA.Model.Multiclass
import SA.Spec.C05
import SA.Proofs.Multiclass
import SA.Theorems.C05
import SA.Model.Auc
import SA.Spec.C07
import SA.Model.Eer
import SA.Spec.C06
import SA.Model.Roc
import SA.Spec.C15
import SA.Theorems.C15
import SA.Theorems.C06
import SA.Model.Datasets
import SA.Spec.C20
import SA.Theorems.C20
import SA.Model.History
import SA.Spec.C10
import SA.Theorems.C10
import SA.Model.InvertPL
import SA.Spec.C17
import SA.Proofs.InvertPL
import SA.Theorems.C17
import SA.Model.BootMetric
import SA.Spec.C14
import SA.Proofs.BootMetric
import SA.Theorems.C14
import SA.Proofs.Auc
import SA.Proofs.AucTrap
import SA.Proofs.AucPoints
import SA.Proofs.AucCode
import SA.Proofs.AucWindow
import SA.Proofs.AucStep
import SA.Proofs.AucAxes
import SA.Theorems.C07
import SA.Model.Rng
import SA.Model.Sampling
import SA.Spec.C11
import SA.Proofs.Sampling
import SA.Theorems.C11
import SA.Model.Showbias
import SA.Spec.C18
import SA.Theorems.C18
import SA.Theorems.C08Negate
import SA.Theorems.C06Root
import SA.Model.RocCI
import SA.Spec.C16
import SA.Proofs.RocCI
import SA.Theorems.C16
import SA.Proofs.MwInvariance
import SA.Theorems.C08Auc
import SA.Theorems.C09Auc
import SA.Theorems.C06Affine
import SA.Model.Group
import SA.Spec.C12
import SA.Proofs.Group
import SA.Theorems.C12
import SA.Theorems.C13Nested
import SA.Proofs.EerNegate
import SA.Theorems.C08NegateEer
import SA.Theorems.C11Progress
import SA.Model.FixedWidth
import SA.Spec.C16Fwb
import SA.Proofs.FixedWidth
import SA.Theorems.C16Fwb
import SA.Proofs.ThrLipschitz
import SA.Theorems.C06Delta
import SA.Model.SamplingM
import SA.Model.SamplingPmf
import SA.Proofs.SamplingM
import SA.Proofs.SamplingMix
import SA.Theorems.C11Unbiased
import SA.Model.NdArray
import SA.Model.BootstrapVec
import SA.Spec.C13Vec
import SA.Proofs.ListGetD
import SA.Proofs.NdArray
import SA.Theorems.C13Vec
import SA.Theorems.C13VecSpec
import SA.Theorems.C14Vec
import SA.Model.FloatBound
import SA.Proofs.FloatModel
import SA.Theorems.FloatBounds
import SA.Model.RocCIScript
import SA.Proofs.RocCIScript
import SA.Theorems.C16Script
import SA.Theorems.C12Ties
import SA.Model.ShowbiasScript
import SA.Proofs.ShowbiasScript
import SA.Theorems.C18Script
import SA.Model.Effects
import SA.Theorems.C10Effects
import SA.Model.FloatSum
import SA.Proofs.FloatSum
import SA.Theorems.FloatAuc
import SA.Model.FloatRoc
import SA.Theorems.FloatRoc
import SA.Model.FloatCI
import SA.Theorems.FloatCI
import SA.Model.FloatWSum
import SA.Theorems.FloatWSum
import SA.Model.DecTables
import SA.Theorems.DecTables
import SA.Model.DecTables2
import SA.Theorems.DecTables2
import SA.Model.CmDefs
import SA.Theorems.C05Defs
import SA.Model.CIDefs
import SA.Theorems.C04CIDefs
import SA.Model.DsDefs
import SA.Theorems.C20Defs
import SA.Theorems.C16Defs

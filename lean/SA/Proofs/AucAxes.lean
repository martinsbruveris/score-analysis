/-
The window of `Scores.auc` along a sweep, for the axis pairs of C07: FPR/TPR over the full range
and over a window, exchanged axes over the full range, complemented y-axis, complemented x-axis.
-/
import SA.Proofs.AucStep

namespace SA

/-- over the full range along a sweep: FPR/TPR gives the Mann–Whitney value, the exchanged axes
one minus it (summation by parts turns the exchanged sum into the direct one) -/
theorem aucWindow_full_sweep (s : Scores) (ts : List ℚ) (hw : Sweep s ts)
    (hP : s.pos.length + s.easyPos ≠ 0) (hN : s.neg.length + s.easyNeg ≠ 0) :
    aucWindow (ts.map (fpQ s)) (ts.map (tpQ s)) 0 1 = mwValue s ∧
    aucWindow (ts.map (tpQ s)) (ts.map (fpQ s)) 0 1 = 1 - mwValue s := by
  have h0 := hw.fpQ_head
  have h1 := hw.fpQ_last
  have h2 := hw.tpQ_last hP
  have hr := trapF_rates s ts hw
  cases ts with
  | nil => exact absurd rfl hw.ne
  | cons t0 rest =>
    simp only [List.head_cons] at h0
    constructor
    · rw [aucWindow_full _ _ _ _ (fun t _ => fpQ_nonneg s t) (fun t _ => fpQ_le_one s t), hr, h0,
        h1, h2, zero_mul, zero_add, mul_one, ← mwValue_eq_rates s hP hN]
      exact absR_of_nonneg _ (mwValue_nonneg s)
    · have hparts := trapF_parts (fpQ s) (tpQ s) t0 rest
      rw [h0, h1, h2] at hparts
      have e : ∀ y c R : ℚ, y * 0 + (c * 1 - 0 * y - R) + (1 - 1) * c = 1 - (R + (1 - c)) :=
        fun _ _ _ => by ring
      rw [aucWindow_full _ _ _ _ (fun t _ => tpQ_nonneg s t) (fun t _ => tpQ_le_one s t), h0, h1,
        h2, eq_sub_of_add_eq hparts, e, hr, ← mwValue_eq_rates s hP hN]
      exact absR_of_nonneg _ (sub_nonneg.mpr (mwValue_le_one s))

theorem aucWindow_sweep (s : Scores) (hnt : noCrossTies s = true) (ts : List ℚ) (hw : Sweep s ts)
    (hP : s.pos.length + s.easyPos ≠ 0) (lo hi : ℚ) (h0 : 0 ≤ lo) (hlh : lo ≤ hi) (h1 : hi ≤ 1) :
    aucWindow (ts.map (fpQ s)) (ts.map (tpQ s)) lo hi = stepValue s lo hi := by
  rw [window_eq_clip (fpQ s) (tpQ s) lo hi h0 hlh h1 ts hw.ne (sweep_fpQ_mono s ts hw)
    (sweep_horiz_tail s hnt ts [] hw), trapF_clip_sweep s hnt lo hi hlh ts hw, hw.fpQ_head,
    hw.fpQ_last, hw.tpQ_last hP, overlap_self, zero_mul, zero_add, mul_one]
  exact absR_of_nonneg _ (stepValue_nonneg s lo hi)

/-- FNR against FPR over a window along the sweep of a tie-free data set: window length minus
the step area -/
theorem aucWindow_ycompl_sweep (s : Scores) (hnt : noCrossTies s = true) (ts : List ℚ)
    (hw : Sweep s ts) (hP : s.pos.length + s.easyPos ≠ 0)
    (lo hi : ℚ) (h0 : 0 ≤ lo) (hlh : lo ≤ hi) (h1 : hi ≤ 1) :
    aucWindow (ts.map (fpQ s)) (ts.map (fun t => 1 - tpQ s t)) lo hi =
      (hi - lo) - stepValue s lo hi := by
  have e : trapF (fun t => clipQ lo hi (fpQ s t)) (fun _ => 1) ts - stepAreaAux s lo hi
      (negsByRank s) 0
      = hi - lo - stepValue s lo hi := by
    obtain ⟨t0, rest, rfl⟩ := List.exists_cons_of_ne_nil hw.ne
    have hf0 := hw.fpQ_head
    simp only [List.head_cons] at hf0
    unfold stepValue
    rw [trapF_const_right, hw.fpQ_last, hf0, clipQ_of_le lo hi 0 h0,
      overlap_tail _ _ lo hi hlh h1]
    ring
  rw [window_eq_clip (fpQ s) (fun t => 1 - tpQ s t) lo hi h0 hlh h1 ts hw.ne
      (sweep_fpQ_mono s ts hw)
    (horizStep_compl _ _ 1 ts (sweep_horiz_tail s hnt ts [] hw)), trapF_sub_right,
    trapF_clip_sweep s hnt lo hi hlh ts hw, e, hw.fpQ_head, hw.tpQ_last hP, overlap_self, zero_mul,
    zero_add, sub_self, mul_zero, add_zero]
  exact absR_of_nonneg _ (sub_nonneg.mpr (stepValue_le s lo hi hlh))

/-- TPR against TNR over `[lo, hi]` along the reversed sweep of a tie-free data set: the step
area over the mirrored window `[1 - hi, 1 - lo]` -/
theorem aucWindow_xcompl_sweep (s : Scores) (hnt : noCrossTies s = true) (ts : List ℚ)
    (hw : Sweep s ts) (hP : s.pos.length + s.easyPos ≠ 0)
    (lo hi : ℚ) (h0 : 0 ≤ lo) (hlh : lo ≤ hi) (h1 : hi ≤ 1) :
    aucWindow (ts.reverse.map (fun t => 1 - fpQ s t)) (ts.reverse.map (tpQ s)) lo hi =
      stepValue s (1 - hi) (1 - lo) := by
  have hne' : ts.reverse ≠ [] := by simpa using hw.ne
  have hmono : ts.reverse.Pairwise (fun t t' => (1 - fpQ s t) ≤ (1 - fpQ s t')) := by
    rw [List.pairwise_reverse]
    exact (sweep_fpQ_mono s ts hw).imp (fun {a b} hab => by linarith)
  have hhor := horizStep_reverse (fpQ s) (tpQ s) 1 ts (sweep_horiz_tail s hnt ts [] hw)
  have hclip : (fun t => clipQ lo hi (1 - fpQ s t)) =
      fun t => 1 - clipQ (1 - hi) (1 - lo) (fpQ s t) := by
    funext t; exact clipQ_mirror lo hi _ hlh
  have hov := overlap_mirror ((s.neg.length : ℚ) / ((s.neg.length + s.easyNeg : ℕ) : ℚ)) 1 lo hi
  rw [sub_self] at hov
  rw [window_eq_clip (fun t => 1 - fpQ s t) (tpQ s) lo hi h0 hlh h1 ts.reverse hne' hmono hhor,
    List.head_reverse, List.getLast_reverse, hw.fpQ_head, hw.fpQ_last, hw.tpQ_last hP, hclip,
    trapF_reverse, trapF_sub_left, trapF_clip_sweep s hnt (1 - hi) (1 - lo) (by linarith) ts hw,
    sub_zero, overlap_self, hov, mul_one, zero_mul, add_zero, neg_neg, add_comm]
  exact absR_of_nonneg _ (stepValue_nonneg s _ _)

end SA

/-
From the code-shaped `Scores.auc` to the oriented rate curves (helper lemmas for the
code-shaped part of C07):
rates by counting, `allSome`, the reversal test, and the window.
-/
import SA.Proofs.AucPoints
import SA.Proofs.AucWindow

namespace SA

theorem allSome_map_some (f : ℚ → ℚ) (l : List ℚ) :
    allSome (l.map fun t => some (f t)) = some (l.map f) := by
  induction l with
  | nil => rfl
  | cons a l ih => simp only [List.map_cons, allSome, ih, Option.map_some]

theorem allSome_map_none (l : List ℚ) (hl : l ≠ []) :
    allSome (l.map fun _ => (none : Option ℚ)) = none := by
  cases l with
  | nil => exact absurd rfl hl
  | cons a l => rfl

theorem rate_fpr (s : Scores) (hp : s.pos.Pairwise (· ≤ ·)) (hn : s.neg.Pairwise (· ≤ ·)) (t : ℚ) :
    (s.cm (.fin t)).rate .fpr =
      if s.neg.length + s.easyNeg = 0 then none else some (fpQ s t) := by
  rw [cm_eq_countCM_of_sorted s hp hn]
  show ratio _ (CM.n _) = _
  rw [(countCM_totals _ _ _ _ _ _).2]
  rfl

theorem rate_tpr (s : Scores) (hp : s.pos.Pairwise (· ≤ ·)) (hn : s.neg.Pairwise (· ≤ ·)) (t : ℚ) :
    (s.cm (.fin t)).rate .tpr =
      if s.pos.length + s.easyPos = 0 then none else some (tpQ s t) := by
  rw [cm_eq_countCM_of_sorted s hp hn]
  show ratio _ (CM.p _) = _
  rw [(countCM_totals _ _ _ _ _ _).1]
  rfl

theorem ratio_compl (a b n : ℕ) (h : a + b = n) (hn : n ≠ 0) :
    ratio b n = some (1 - (a : ℚ) / (n : ℚ)) := by
  have hq : (n : ℚ) ≠ 0 := Nat.cast_ne_zero.mpr hn
  rw [ratio, if_neg hn]
  congr 1
  rw [eq_sub_iff_add_eq, ← add_div, div_eq_one_iff_eq hq, ← h]
  push_cast; ring

theorem rate_tnr (s : Scores) (hp : s.pos.Pairwise (· ≤ ·)) (hn : s.neg.Pairwise (· ≤ ·)) (t : ℚ)
    (hN : s.neg.length + s.easyNeg ≠ 0) :
    (s.cm (.fin t)).rate .tnr = some (1 - fpQ s t) := by
  rw [cm_eq_countCM_of_sorted s hp hn]
  show ratio _ (CM.n _) = _
  rw [(countCM_totals _ _ _ _ _ _).2]
  exact ratio_compl _ _ _ (countCM_totals s.pos s.neg s.easyPos s.easyNeg s.cfg (.fin t)).2 hN

theorem rate_fnr (s : Scores) (hp : s.pos.Pairwise (· ≤ ·)) (hn : s.neg.Pairwise (· ≤ ·)) (t : ℚ)
    (hP : s.pos.length + s.easyPos ≠ 0) :
    (s.cm (.fin t)).rate .fnr = some (1 - tpQ s t) := by
  rw [cm_eq_countCM_of_sorted s hp hn]
  show ratio _ (CM.p _) = _
  rw [(countCM_totals _ _ _ _ _ _).1]
  exact ratio_compl _ _ _ (countCM_totals s.pos s.neg s.easyPos s.easyNeg s.cfg (.fin t)).1 hP

theorem auc_unfold (u : Ulp) (s : Scores) (lower upper : ℚ) (xm ym : Metric) :
    s.auc u lower upper xm ym =
      match allSome ((aucPoints u s).map fun t => (s.cm (.fin t)).rate xm),
            allSome ((aucPoints u s).map fun t => (s.cm (.fin t)).rate ym) with
      | some x, some y =>
        if x.length = 0 then none else
        some (aucWindow
          (if decide (x.getD (x.length - 1) 0 < x.getD 0 0) = true then x.reverse else x)
          (if decide (x.getD (x.length - 1) 0 < x.getD 0 0) = true then y.reverse else y)
          lower upper)
      | _, _ => none := rfl

theorem tpQ_orient_last (u : Ulp) (hu : u.Lawful) (s : Scores)
    (hne : orientAuc s.cfg (aucPoints u s) ≠ []) (hP : s.pos.length + s.easyPos ≠ 0) :
    tpQ s ((orientAuc s.cfg (aucPoints u s)).getLast hne) = 1 := by
  unfold tpQ accCount
  rw [List.countP_eq_length.mpr]
  · have hpos : (0 : ℚ) < ((s.pos.length + s.easyPos : ℕ) : ℚ) := by
      exact_mod_cast Nat.pos_of_ne_zero hP
    exact div_self hpos.ne'
  · intro x hx
    exact (accept_orient_ends u hu s hne x (List.mem_append_left _ hx)).2

/-- `Scores.auc` for any pair of axes whose rates are given by total functions -/
theorem auc_of_rates (u : Ulp) (s : Scores) (lower upper : ℚ) (xm ym : Metric) (fx gy : ℚ → ℚ)
    (hx : ∀ t, (s.cm (.fin t)).rate xm = some (fx t))
    (hy : ∀ t, (s.cm (.fin t)).rate ym = some (gy t)) (hpts : aucPoints u s ≠ []) :
    s.auc u lower upper xm ym =
      some (aucWindow
        ((if fx ((aucPoints u s).getLast hpts) < fx ((aucPoints u s).head hpts)
          then (aucPoints u s).reverse else aucPoints u s).map fx)
        ((if fx ((aucPoints u s).getLast hpts) < fx ((aucPoints u s).head hpts)
          then (aucPoints u s).reverse else aucPoints u s).map gy) lower upper) := by
  have ex : ((aucPoints u s).map fun t => (s.cm (.fin t)).rate xm) =
      (aucPoints u s).map fun t => some (fx t) := List.map_congr_left (fun t _ => hx t)
  have ey : ((aucPoints u s).map fun t => (s.cm (.fin t)).rate ym) =
      (aucPoints u s).map fun t => some (gy t) := List.map_congr_left (fun t _ => hy t)
  rw [auc_unfold, ex, ey, allSome_map_some, allSome_map_some]
  have hlen : ((aucPoints u s).map fx).length ≠ 0 := by
    rw [List.length_map]; exact fun h => hpts (List.eq_nil_of_length_eq_zero h)
  simp only [hlen, if_false]
  rw [getD_map_zero _ _ hpts, getD_map_last _ _ hpts]
  by_cases hr : fx ((aucPoints u s).getLast hpts) < fx ((aucPoints u s).head hpts)
  · simp only [hr, decide_true, if_true, List.map_reverse]
  · simp only [hr, decide_false, Bool.false_eq_true, if_false]

/-- the reversal test puts the curves in acceptance order when `fx` grows along it, and in
reverse acceptance order when it falls -/
theorem orient_choice (cfg : Cfg) (pts : List ℚ) (hpts : pts ≠ []) (fx : ℚ → ℚ)
    (hne : orientAuc cfg pts ≠ []) :
    (fx ((orientAuc cfg pts).head hne) < fx ((orientAuc cfg pts).getLast hne) →
      (if fx (pts.getLast hpts) < fx (pts.head hpts) then pts.reverse else pts) =
        orientAuc cfg pts) ∧
    (fx ((orientAuc cfg pts).getLast hne) < fx ((orientAuc cfg pts).head hne) →
      (if fx (pts.getLast hpts) < fx (pts.head hpts) then pts.reverse else pts) =
        (orientAuc cfg pts).reverse) := by
  cases hc : cfg.scoreClass with
  | neg =>
    have e0 : (orientAuc cfg pts).head hne = pts.head hpts := by simp only [orientAuc, hc]
    have e1 : (orientAuc cfg pts).getLast hne = pts.getLast hpts := by simp only [orientAuc, hc]
    rw [e0, e1]
    constructor <;> intro h
    · rw [if_neg (not_lt.mpr h.le)]; simp only [orientAuc, hc]
    · rw [if_pos h]; simp only [orientAuc, hc]
  | pos =>
    have e0 : (orientAuc cfg pts).head hne = pts.getLast hpts := by
      simp only [orientAuc, hc, List.head_reverse]
    have e1 : (orientAuc cfg pts).getLast hne = pts.head hpts := by
      simp only [orientAuc, hc, List.getLast_reverse]
    rw [e0, e1]
    constructor <;> intro h
    · rw [if_pos h]; simp only [orientAuc, hc]
    · rw [if_neg (not_lt.mpr h.le)]; simp only [orientAuc, hc, List.reverse_reverse]

theorem auc_oriented (u : Ulp) (s : Scores) (lower upper : ℚ) (xm ym : Metric) (fx gy : ℚ → ℚ)
    (hx : ∀ t, (s.cm (.fin t)).rate xm = some (fx t))
    (hy : ∀ t, (s.cm (.fin t)).rate ym = some (gy t)) (hpts : aucPoints u s ≠ []) :
    (fx ((orientAuc s.cfg (aucPoints u s)).head (orient_ne_nil _ _ hpts)) <
        fx ((orientAuc s.cfg (aucPoints u s)).getLast (orient_ne_nil _ _ hpts)) →
      s.auc u lower upper xm ym =
        some (aucWindow ((orientAuc s.cfg (aucPoints u s)).map fx)
          ((orientAuc s.cfg (aucPoints u s)).map gy) lower upper)) ∧
    (fx ((orientAuc s.cfg (aucPoints u s)).getLast (orient_ne_nil _ _ hpts)) <
        fx ((orientAuc s.cfg (aucPoints u s)).head (orient_ne_nil _ _ hpts)) →
      s.auc u lower upper xm ym =
        some (aucWindow ((orientAuc s.cfg (aucPoints u s)).reverse.map fx)
          ((orientAuc s.cfg (aucPoints u s)).reverse.map gy) lower upper)) := by
  rw [auc_of_rates u s lower upper xm ym fx gy hx hy hpts]
  exact ⟨fun h => by rw [(orient_choice s.cfg _ hpts fx _).1 h],
    fun h => by rw [(orient_choice s.cfg _ hpts fx _).2 h]⟩

/-- FPR on x, TPR on y, at least one scored negative: `none` without positives, otherwise the
window of the rate curves in acceptance order -/
theorem auc_eq_window_of_sweep (u : Ulp) (s : Scores) (hp : s.pos.Pairwise (· ≤ ·))
    (hn : s.neg.Pairwise (· ≤ ·)) (hneg : s.neg ≠ [])
    (hw : Sweep s (orientAuc s.cfg (aucPoints u s))) (lower upper : ℚ) :
    s.auc u lower upper .fpr .tpr =
      if s.pos.length + s.easyPos = 0 then none else
        some (aucWindow ((orientAuc s.cfg (aucPoints u s)).map (fpQ s))
          ((orientAuc s.cfg (aucPoints u s)).map (tpQ s)) lower upper) := by
  have hN := negTotal_ne_zero hneg
  have hpts := aucPoints_ne_nil u s (by simp [hneg])
  by_cases hP : s.pos.length + s.easyPos = 0
  · have ex : ((aucPoints u s).map fun t => (s.cm (.fin t)).rate .fpr) =
        (aucPoints u s).map fun t => some (fpQ s t) :=
      List.map_congr_left (fun t _ => by rw [rate_fpr s hp hn, if_neg hN])
    have ey : ((aucPoints u s).map fun t => (s.cm (.fin t)).rate .tpr) =
        (aucPoints u s).map fun _ => (none : Option ℚ) :=
      List.map_congr_left (fun t _ => by rw [rate_tpr s hp hn, if_pos hP])
    rw [auc_unfold, ex, ey, allSome_map_some, allSome_map_none _ hpts, if_pos hP]
  · rw [if_neg hP]
    exact (auc_oriented u s lower upper .fpr .tpr (fpQ s) (tpQ s)
      (fun t => by rw [rate_fpr s hp hn, if_neg hN]) (fun t => by rw [rate_tpr s hp hn, if_neg hP])
      hpts).1 (hw.fpQ_lt hneg)

end SA

/-
Structure of the evaluation points of `Scores.auc` (one ulp either side of every score) and the
decomposition of the trapezoid sum into positive/negative pairs (helper lemmas for the
code-shaped part of C07).
-/
import SA.Proofs.Auc
import SA.Proofs.AucTrap
import SA.Proofs.Threshold

namespace SA

/-- the oracle is adjacent with respect to the data: `up a ≤ down b` for data values `a < b`
(stronger than `NeighbourOn`; consecutive floats do not satisfy it) -/
def Ulp.AdjacentOn (u : Ulp) (sc : List ℚ) : Prop :=
  ∀ a ∈ sc, ∀ b ∈ sc, a < b → u.up a ≤ u.down b

/-- the weaker property every `nextafter` has: no data value lies strictly between a data value
and its two neighbours (`up a ≤ b` and `a ≤ down b` for data values `a < b`; consecutive
floats in the data are allowed) -/
def Ulp.NeighbourOn (u : Ulp) (sc : List ℚ) : Prop :=
  ∀ a ∈ sc, ∀ b ∈ sc, a < b → u.up a ≤ b ∧ a ≤ u.down b

theorem Ulp.AdjacentOn.neighbour {u : Ulp} {sc : List ℚ} (h : u.AdjacentOn sc) (hu : u.Lawful) :
    u.NeighbourOn sc := by
  intro a ha b hb hab
  have := h a ha b hb hab
  exact ⟨le_trans this (le_of_lt (hu.down_lt b)), le_trans (le_of_lt (hu.lt_up a)) this⟩

theorem Ulp.NeighbourOn.mono {u : Ulp} {sc sc' : List ℚ} (h : u.NeighbourOn sc)
    (hsub : ∀ x ∈ sc', x ∈ sc) : u.NeighbourOn sc' :=
  fun a ha b hb hab => h a (hsub a ha) b (hsub b hb) hab

/-- the sorted evaluation points of `Scores.auc` -/
def aucPoints (u : Ulp) (s : Scores) : List ℚ :=
  sortQ ((s.pos ++ s.neg).map u.down ++ (s.pos ++ s.neg).map u.up)

theorem lt_down_iff (u : Ulp) (hu : u.Lawful) (sc : List ℚ) (hadj : u.AdjacentOn sc)
    (x v : ℚ) (hx : x ∈ sc) (hv : v ∈ sc) : x < u.down v ↔ x < v :=
  ⟨fun h => h.trans (hu.down_lt v), fun h => (hu.lt_up x).trans_le (hadj x hx v hv h)⟩

theorem le_down_iff (u : Ulp) (hu : u.Lawful) (sc : List ℚ) (hadj : u.AdjacentOn sc)
    (x v : ℚ) (hx : x ∈ sc) (hv : v ∈ sc) : x ≤ u.down v ↔ x < v :=
  ⟨fun h => h.trans_lt (hu.down_lt v), fun h => ((lt_down_iff u hu sc hadj x v hx hv).mpr h).le⟩

theorem le_up_iff (u : Ulp) (hu : u.Lawful) (sc : List ℚ) (hadj : u.AdjacentOn sc)
    (x v : ℚ) (hx : x ∈ sc) (hv : v ∈ sc) : x ≤ u.up v ↔ x ≤ v :=
  ⟨fun h => le_of_not_gt fun hc =>
      absurd (hu.down_lt x) (not_lt.mpr (h.trans (hadj v hv x hx hc))),
    fun h => (h.trans_lt (hu.lt_up v)).le⟩

theorem lt_up_iff (u : Ulp) (hu : u.Lawful) (sc : List ℚ) (hadj : u.AdjacentOn sc)
    (x v : ℚ) (hx : x ∈ sc) (hv : v ∈ sc) : x < u.up v ↔ x ≤ v :=
  ⟨fun h => (le_up_iff u hu sc hadj x v hx hv).mp h.le, fun h => h.trans_lt (hu.lt_up v)⟩

/-- one ulp below a data value `v` every configuration decides like the rule that puts `v`
itself on the high side (`x < v` is the low side) -/
theorem accept_at_down (u : Ulp) (hu : u.Lawful) (sc : List ℚ) (hadj : u.AdjacentOn sc)
    (cfg : Cfg) (x v : ℚ) (hx : x ∈ sc) (hv : v ∈ sc) :
    accept cfg x (.fin (u.down v)) = accept ⟨cfg.scoreClass, cfg.scoreClass⟩ x (.fin v) := by
  obtain ⟨c, e⟩ := cfg
  have h1 := lt_down_iff u hu sc hadj x v hx hv
  have h2 := le_down_iff u hu sc hadj x v hx hv
  cases c <;> cases e <;> simp only [accept, ltE, leE, h1, h2]

/-- one ulp above a data value `v` every configuration decides like the rule that puts `v`
itself on the low side (`x ≤ v` is the low side) -/
theorem accept_at_up (u : Ulp) (hu : u.Lawful) (sc : List ℚ) (hadj : u.AdjacentOn sc)
    (cfg : Cfg) (x v : ℚ) (hx : x ∈ sc) (hv : v ∈ sc) :
    accept cfg x (.fin (u.up v)) = accept ⟨cfg.scoreClass, cfg.scoreClass.flip⟩ x (.fin v) := by
  obtain ⟨c, e⟩ := cfg
  have h1 := lt_up_iff u hu sc hadj x v hx hv
  have h2 := le_up_iff u hu sc hadj x v hx hv
  cases c <;> cases e <;> simp only [accept, ltE, leE, h1, h2, Label.flip]

theorem accept_of_lt (cfg : Cfg) (x t : ℚ) (h : x < t) :
    accept cfg x (.fin t) = decide (cfg.scoreClass = .neg) := by
  obtain ⟨c, e⟩ := cfg
  have h' : x ≤ t := le_of_lt h
  cases c <;> cases e <;> simp [accept, ltE, leE, h, h']

theorem accept_of_gt (cfg : Cfg) (x t : ℚ) (h : t < x) :
    accept cfg x (.fin t) = decide (cfg.scoreClass = .pos) := by
  obtain ⟨c, e⟩ := cfg
  have h1 : ¬ x < t := not_lt.mpr (le_of_lt h)
  have h2 : ¬ x ≤ t := not_le.mpr h
  cases c <;> cases e <;> simp [accept, ltE, leE, h1, h2]

/-- with `score_class = neg` the low side is accepted: acceptance grows with the threshold and
falls with the score -/
theorem accept_mono_neg (cfg : Cfg) (h : cfg.scoreClass = .neg) {x x' t t' : ℚ} (hx : x' ≤ x)
    (ht : t ≤ t') : accept cfg x (.fin t) = true → accept cfg x' (.fin t') = true := by
  obtain ⟨c, e⟩ := cfg
  simp only at h; subst h
  cases e <;> simp only [accept, ltE, leE, decide_eq_true_eq] <;> intro h <;> linarith

theorem accept_mono_pos (cfg : Cfg) (h : cfg.scoreClass = .pos) {x x' t t' : ℚ} (hx : x ≤ x')
    (ht : t' ≤ t) : accept cfg x (.fin t) = true → accept cfg x' (.fin t') = true := by
  obtain ⟨c, e⟩ := cfg
  simp only at h; subst h
  cases e <;> simp only [accept, ltE, leE, Bool.not_eq_true', decide_eq_false_iff_not, not_lt,
    not_le] <;> intro h <;> linarith

def AccMono (cfg : Cfg) (t t' : ℚ) : Prop :=
  ∀ x, accept cfg x (.fin t) = true → accept cfg x (.fin t') = true

/-- the evaluation points in acceptance order -/
def orientAuc (cfg : Cfg) (pts : List ℚ) : List ℚ :=
  match cfg.scoreClass with
  | .neg => pts
  | .pos => pts.reverse

theorem orient_mono (cfg : Cfg) (pts : List ℚ) (hs : pts.Pairwise (· ≤ ·)) :
    (orientAuc cfg pts).Pairwise (AccMono cfg) := by
  unfold orientAuc
  cases h : cfg.scoreClass with
  | neg => exact hs.imp (fun {a b} hab _ => accept_mono_neg cfg h le_rfl hab)
  | pos =>
    simp only
    rw [List.pairwise_reverse]
    exact hs.imp (fun {a b} hab _ => accept_mono_pos cfg h le_rfl hab)

theorem mem_orient (cfg : Cfg) (pts : List ℚ) (t : ℚ) : t ∈ orientAuc cfg pts ↔ t ∈ pts := by
  unfold orientAuc; cases cfg.scoreClass <;> simp

theorem orient_ne_nil (cfg : Cfg) (pts : List ℚ) (h : pts ≠ []) : orientAuc cfg pts ≠ [] := by
  unfold orientAuc; cases cfg.scoreClass <;> simpa using h

theorem mem_aucPoints (u : Ulp) (s : Scores) (t : ℚ) :
    t ∈ aucPoints u s ↔ ∃ v ∈ s.pos ++ s.neg, t = u.down v ∨ t = u.up v := by
  unfold aucPoints
  rw [(sortQ_perm _).mem_iff, List.mem_append, List.mem_map, List.mem_map]
  constructor
  · rintro (⟨v, hv, rfl⟩ | ⟨v, hv, rfl⟩)
    · exact ⟨v, hv, Or.inl rfl⟩
    · exact ⟨v, hv, Or.inr rfl⟩
  · rintro ⟨v, hv, rfl | rfl⟩
    · exact Or.inl ⟨v, hv, rfl⟩
    · exact Or.inr ⟨v, hv, rfl⟩

theorem aucPoints_sorted (u : Ulp) (s : Scores) : (aucPoints u s).Pairwise (· ≤ ·) :=
  sortQ_pairwise _

theorem aucPoints_length (u : Ulp) (s : Scores) :
    (aucPoints u s).length = 2 * (s.pos.length + s.neg.length) := by
  unfold aucPoints; rw [length_sortQ]; simp; omega

theorem aucPoints_ne_nil (u : Ulp) (s : Scores) (h : s.pos ++ s.neg ≠ []) : aucPoints u s ≠ [] := by
  intro h0
  have := aucPoints_length u s
  rw [h0] at this
  have h2 : (s.pos ++ s.neg).length ≠ 0 := fun h0 => h (List.eq_nil_of_length_eq_zero h0)
  simp only [List.length_nil, List.length_append] at this h2
  omega

/-- at the first oriented point nothing scored is accepted, at the last everything -/
theorem accept_orient_ends (u : Ulp) (hu : u.Lawful) (s : Scores)
    (hne : orientAuc s.cfg (aucPoints u s) ≠ []) (x : ℚ) (hx : x ∈ s.pos ++ s.neg) :
    accept s.cfg x (.fin ((orientAuc s.cfg (aucPoints u s)).head hne)) = false ∧
      accept s.cfg x (.fin ((orientAuc s.cfg (aucPoints u s)).getLast hne)) = true := by
  have hpts : aucPoints u s ≠ [] := by
    intro h; apply hne; unfold orientAuc; rw [h]; cases s.cfg.scoreClass <;> rfl
  have lo : (aucPoints u s).head hpts < x :=
    lt_of_le_of_lt ((aucPoints_sorted u s).rel_head
      ((mem_aucPoints u s _).mpr ⟨x, hx, Or.inl rfl⟩)) (hu.down_lt x)
  have hi : x < (aucPoints u s).getLast hpts :=
    lt_of_lt_of_le (hu.lt_up x) ((aucPoints_sorted u s).rel_getLast
      ((mem_aucPoints u s _).mpr ⟨x, hx, Or.inr rfl⟩))
  cases h : s.cfg.scoreClass with
  | neg =>
    have e0 : (orientAuc s.cfg (aucPoints u s)).head hne = (aucPoints u s).head hpts := by
      simp only [orientAuc, h]
    have e1 : (orientAuc s.cfg (aucPoints u s)).getLast hne = (aucPoints u s).getLast hpts := by
      simp only [orientAuc, h]
    rw [e0, e1, accept_of_gt _ _ _ lo, accept_of_lt _ _ _ hi, h]; exact ⟨rfl, rfl⟩
  | pos =>
    have e0 : (orientAuc s.cfg (aucPoints u s)).head hne = (aucPoints u s).getLast hpts := by
      simp only [orientAuc, h, List.head_reverse]
    have e1 : (orientAuc s.cfg (aucPoints u s)).getLast hne = (aucPoints u s).head hpts := by
      simp only [orientAuc, h, List.getLast_reverse]
    rw [e0, e1, accept_of_lt _ _ _ hi, accept_of_gt _ _ _ lo, h]; exact ⟨rfl, rfl⟩

/-- if `x` ranks strictly on the positive side of `y` there is an evaluation point at which
`x` is accepted and `y` is not (which point depends on the tie-breaking convention) -/
theorem separating_point (u : Ulp) (hu : u.Lawful) (s : Scores)
    (hadj : u.NeighbourOn (s.pos ++ s.neg)) (x y : ℚ) (hx : x ∈ s.pos ++ s.neg)
    (hy : y ∈ s.pos ++ s.neg) (h : ranksAbove s.cfg.scoreClass x y = true) :
    ∃ t ∈ orientAuc s.cfg (aucPoints u s),
      accept s.cfg x (.fin t) = true ∧ accept s.cfg y (.fin t) = false := by
  have mdown : ∀ v ∈ s.pos ++ s.neg, u.down v ∈ orientAuc s.cfg (aucPoints u s) :=
    fun v hv => (mem_orient _ _ _).mpr ((mem_aucPoints u s _).mpr ⟨v, hv, Or.inl rfl⟩)
  have mup : ∀ v ∈ s.pos ++ s.neg, u.up v ∈ orientAuc s.cfg (aucPoints u s) :=
    fun v hv => (mem_orient _ _ _).mpr ((mem_aucPoints u s _).mpr ⟨v, hv, Or.inr rfl⟩)
  cases hc : s.cfg.scoreClass with
  | neg =>
    rw [hc] at h
    simp only [ranksAbove, decide_eq_true_eq] at h
    have hn := hadj x hx y hy h
    cases he : s.cfg.equalClass with
    | pos =>
      -- accept is `· ≤ t`: take `t = down y`
      refine ⟨u.down y, mdown y hy, ?_, ?_⟩
      · simp only [accept, hc, he, leE, decide_eq_true_eq]; exact hn.2
      · simp only [accept, hc, he, leE, decide_eq_false_iff_not, not_le]; exact hu.down_lt y
    | neg =>
      -- accept is `· < t`: take `t = up x`
      refine ⟨u.up x, mup x hx, ?_, ?_⟩
      · simp only [accept, hc, he, ltE, decide_eq_true_eq]; exact hu.lt_up x
      · simp only [accept, hc, he, ltE, decide_eq_false_iff_not, not_lt]; exact hn.1
  | pos =>
    rw [hc] at h
    simp only [ranksAbove, decide_eq_true_eq] at h
    have hn := hadj y hy x hx h
    cases he : s.cfg.equalClass with
    | pos =>
      -- accept is `¬ · < t`: take `t = up y`
      refine ⟨u.up y, mup y hy, ?_, ?_⟩
      · simp only [accept, hc, he, ltE, Bool.not_eq_true', decide_eq_false_iff_not, not_lt]
        exact hn.1
      · simp only [accept, hc, he, ltE, Bool.not_eq_false', decide_eq_true_eq]; exact hu.lt_up y
    | neg =>
      -- accept is `¬ · ≤ t`: take `t = down x`
      refine ⟨u.down x, mdown x hx, ?_, ?_⟩
      · simp only [accept, hc, he, leE, Bool.not_eq_true', decide_eq_false_iff_not, not_le]
        exact hu.down_lt x
      · simp only [accept, hc, he, leE, Bool.not_eq_false', decide_eq_true_eq]; exact hn.2

/-- an abstract list of thresholds along which samples get accepted one value at a time,
separated from each other -/
structure Sweep (s : Scores) (ts : List ℚ) : Prop where
  mono : ts.Pairwise (AccMono s.cfg)
  ne : ts ≠ []
  first : ∀ x ∈ s.pos ++ s.neg, accept s.cfg x (.fin (ts.head ne)) = false
  last : ∀ x ∈ s.pos ++ s.neg, accept s.cfg x (.fin (ts.getLast ne)) = true
  sep : ∀ x ∈ s.pos ++ s.neg, ∀ y ∈ s.pos ++ s.neg, ranksAbove s.cfg.scoreClass x y = true →
    ∃ t ∈ ts, accept s.cfg x (.fin t) = true ∧ accept s.cfg y (.fin t) = false

theorem sweep_orient (u : Ulp) (hu : u.Lawful) (s : Scores)
    (hadj : u.NeighbourOn (s.pos ++ s.neg)) (hne : s.pos ++ s.neg ≠ []) :
    Sweep s (orientAuc s.cfg (aucPoints u s)) := by
  have hpts := aucPoints_ne_nil u s hne
  have hne' := orient_ne_nil s.cfg _ hpts
  exact ⟨orient_mono _ _ (aucPoints_sorted u s), hne',
    fun x hx => (accept_orient_ends u hu s hne' x hx).1,
    fun x hx => (accept_orient_ends u hu s hne' x hx).2,
    fun x hx y hy h => separating_point u hu s hadj x y hx hy h⟩

theorem ranksAbove_irrefl (c : Label) (p : ℚ) : ranksAbove c p p = false := by
  cases c <;> simp [ranksAbove]

theorem ranksAbove_total (c : Label) (p q : ℚ) (h : p ≠ q) (h1 : ranksAbove c p q = false) :
    ranksAbove c q p = true := by
  cases c <;> simp only [ranksAbove, decide_eq_false_iff_not, not_lt, decide_eq_true_eq] at * <;>
    exact lt_of_le_of_ne h1 (by first | exact h | exact h.symm)

/-- the trapezoid sum of one negative `q` against one positive `p`:
1 for a win, 1/2 for a tie, 0 for a loss -/
theorem trapF_pair (s : Scores) (ts : List ℚ) (hw : Sweep s ts) (p q : ℚ)
    (hp : p ∈ s.pos ++ s.neg) (hq : q ∈ s.pos ++ s.neg) :
    trapF (fun t => ind (accept s.cfg q (.fin t))) (fun t => ind (accept s.cfg p (.fin t))) ts =
      ind (ranksAbove s.cfg.scoreClass p q) + ind (decide (p = q)) / 2 := by
  obtain ⟨hmono, hne, hfirst, hlast, hsep⟩ := hw
  cases ts with
  | nil => exact absurd rfl hne
  | cons t0 rest =>
    simp only [List.head_cons] at hfirst
    have hbm : (t0 :: rest).Pairwise (BothMono (fun t => accept s.cfg q (.fin t))
        (fun t => accept s.cfg p (.fin t))) := hmono.imp (fun {a b} h => ⟨h q, h p⟩)
    by_cases hpq : p = q
    · subst hpq
      rw [trapF_self, trapF_const_right, hfirst p hp, hlast p hp, ranksAbove_irrefl]
      simp [ind]
    · have hd : decide (p = q) = false := by simp [hpq]
      rw [hd, ind_false]
      cases hr : ranksAbove s.cfg.scoreClass p q with
      | true =>
        obtain ⟨t, ht, h1, h2⟩ := hsep p hp q hq hr
        rw [trapF_pair_win _ _ _ hbm t ht h2 h1, trapF_const_right, hfirst q hq, hlast q hq]
        simp [ind]
      | false =>
        obtain ⟨t, ht, h1, h2⟩ := hsep q hq p hp (ranksAbove_total _ p q hpq hr)
        rw [trapF_pair_loss _ _ _ hbm t ht h1 h2, ind_false]
        ring

def accCount (cfg : Cfg) (l : List ℚ) (t : ℚ) : ℕ := l.countP fun x => accept cfg x (.fin t)

/-- FPR at a finite threshold, by counting -/
def fpQ (s : Scores) (t : ℚ) : ℚ :=
  (accCount s.cfg s.neg t : ℚ) / ((s.neg.length + s.easyNeg : ℕ) : ℚ)
/-- TPR at a finite threshold, by counting -/
def tpQ (s : Scores) (t : ℚ) : ℚ :=
  ((accCount s.cfg s.pos t + s.easyPos : ℕ) : ℚ) / ((s.pos.length + s.easyPos : ℕ) : ℚ)

theorem fpQ_nonneg (s : Scores) (t : ℚ) : 0 ≤ fpQ s t := by unfold fpQ; positivity

theorem fpQ_le_one (s : Scores) (t : ℚ) : fpQ s t ≤ 1 :=
  div_le_one_of_le₀ (Nat.cast_le.mpr (Nat.le_add_right_of_le List.countP_le_length))
    (Nat.cast_nonneg _)

theorem tpQ_nonneg (s : Scores) (t : ℚ) : 0 ≤ tpQ s t := by unfold tpQ; positivity

theorem tpQ_le_one (s : Scores) (t : ℚ) : tpQ s t ≤ 1 :=
  div_le_one_of_le₀ (Nat.cast_le.mpr (Nat.add_le_add_right List.countP_le_length _))
    (Nat.cast_nonneg _)

theorem sum_ind {α : Type} (r : α → Bool) (l : List α) :
    (l.map fun a => ind (r a)).sum = ((l.countP r : ℕ) : ℚ) := by
  induction l with
  | nil => simp
  | cons a l ih =>
    simp only [List.map_cons, List.sum_cons, List.countP_cons, ih]
    cases r a <;> simp [ind, add_comm]

theorem accCount_cast (cfg : Cfg) (l : List ℚ) :
    (fun t => ((accCount cfg l t : ℕ) : ℚ)) =
        fun t => (l.map fun x => ind (accept cfg x (.fin t))).sum :=
  funext fun _ => (sum_ind _ l).symm

theorem sum_map_half {α : Type} (F : α → ℚ) (l : List α) :
    (l.map fun a => F a / 2).sum = (l.map F).sum / 2 := by
  induction l with
  | nil => simp
  | cons a l ih => simp only [List.map_cons, List.sum_cons, ih]; ring

theorem sum_ind_half {α : Type} (r e : α → Bool) (l : List α) :
    (l.map fun q => ind (r q) + ind (e q) / 2).sum =
      ((l.countP r : ℕ) : ℚ) + ((l.countP e : ℕ) : ℚ) / 2 := by
  rw [List.sum_map_add, sum_map_half, sum_ind, sum_ind]

theorem sum_cast_half {α : Type} (f g : α → ℕ) (l : List α) :
    (l.map fun p => ((f p : ℕ) : ℚ) + ((g p : ℕ) : ℚ) / 2).sum =
      (((l.map f).sum : ℕ) : ℚ) + (((l.map g).sum : ℕ) : ℚ) / 2 := by
  have cast : ∀ h : α → ℕ, (l.map fun p => ((h p : ℕ) : ℚ)).sum = (((l.map h).sum : ℕ) : ℚ) := by
    intro h
    induction l with
    | nil => simp
    | cons a l ih => simp only [List.map_cons, List.sum_cons, ih, Nat.cast_add]
  rw [List.sum_map_add, sum_map_half, cast, cast]

/-- counts against counts: wins plus half the ties -/
theorem trapF_counts (s : Scores) (ts : List ℚ) (hw : Sweep s ts) :
    trapF (fun t => ((accCount s.cfg s.neg t : ℕ) : ℚ))
        (fun t => ((accCount s.cfg s.pos t : ℕ) : ℚ)) ts
      = (mwWins s : ℚ) + (mwTies s : ℚ) / 2 := by
  rw [accCount_cast s.cfg s.pos, trapF_sum_right]
  have h : ∀ p ∈ s.pos, trapF (fun t => ((accCount s.cfg s.neg t : ℕ) : ℚ))
      (fun t => ind (accept s.cfg p (.fin t))) ts =
      ((s.neg.countP (fun q => ranksAbove s.cfg.scoreClass p q) : ℕ) : ℚ) +
        ((s.neg.countP (fun q => decide (p = q)) : ℕ) : ℚ) / 2 := by
    intro p hp
    rw [accCount_cast s.cfg s.neg, trapF_sum_left]
    rw [List.map_congr_left (fun q hq => trapF_pair s ts hw p q (List.mem_append_left _ hp)
      (List.mem_append_right _ hq))]
    exact sum_ind_half _ _ _
  rw [List.map_congr_left h, sum_cast_half]
  rfl

theorem accCount_first (s : Scores) (ts : List ℚ) (hw : Sweep s ts) (l : List ℚ)
    (hl : ∀ x ∈ l, x ∈ s.pos ++ s.neg) : accCount s.cfg l (ts.head hw.ne) = 0 := by
  unfold accCount
  rw [List.countP_eq_zero]
  intro x hx
  rw [hw.first x (hl x hx)]; simp

theorem accCount_last (s : Scores) (ts : List ℚ) (hw : Sweep s ts) (l : List ℚ)
    (hl : ∀ x ∈ l, x ∈ s.pos ++ s.neg) : accCount s.cfg l (ts.getLast hw.ne) = l.length := by
  unfold accCount
  rw [List.countP_eq_length]
  intro x hx
  exact hw.last x (hl x hx)

theorem Sweep.fpQ_head {s : Scores} {ts : List ℚ} (hw : Sweep s ts) :
    fpQ s (ts.head hw.ne) = 0 := by
  unfold fpQ
  rw [accCount_first s ts hw s.neg (fun _ => List.mem_append_right _), Nat.cast_zero, zero_div]

theorem Sweep.tpQ_head {s : Scores} {ts : List ℚ} (hw : Sweep s ts) :
    tpQ s (ts.head hw.ne) = (s.easyPos : ℚ) / ((s.pos.length + s.easyPos : ℕ) : ℚ) := by
  unfold tpQ
  rw [accCount_first s ts hw s.pos (fun _ => List.mem_append_left _), Nat.zero_add]

theorem Sweep.fpQ_last {s : Scores} {ts : List ℚ} (hw : Sweep s ts) :
    fpQ s (ts.getLast hw.ne) = (s.neg.length : ℚ) / ((s.neg.length + s.easyNeg : ℕ) : ℚ) := by
  unfold fpQ
  rw [accCount_last s ts hw s.neg (fun _ => List.mem_append_right _)]

theorem Sweep.tpQ_last {s : Scores} {ts : List ℚ} (hw : Sweep s ts)
    (hP : s.pos.length + s.easyPos ≠ 0) : tpQ s (ts.getLast hw.ne) = 1 := by
  unfold tpQ
  rw [accCount_last s ts hw s.pos (fun _ => List.mem_append_left _)]
  exact div_self (Nat.cast_ne_zero.mpr hP)

theorem Sweep.fpQ_lt {s : Scores} {ts : List ℚ} (hw : Sweep s ts) (hneg : s.neg ≠ []) :
    fpQ s (ts.head hw.ne) < fpQ s (ts.getLast hw.ne) := by
  have hl : 0 < s.neg.length := List.length_pos_iff.mpr hneg
  rw [hw.fpQ_head, hw.fpQ_last]
  exact div_pos (Nat.cast_pos.mpr hl) (Nat.cast_pos.mpr (by omega))

theorem Sweep.tpQ_lt {s : Scores} {ts : List ℚ} (hw : Sweep s ts) (hpos : s.pos ≠ []) :
    tpQ s (ts.head hw.ne) < tpQ s (ts.getLast hw.ne) := by
  have hl : 0 < s.pos.length := List.length_pos_iff.mpr hpos
  rw [hw.tpQ_head, hw.tpQ_last (by omega), div_lt_one (Nat.cast_pos.mpr (by omega))]
  exact Nat.cast_lt.mpr (by omega)

/-- the trapezoid sum of TPR against FPR along the sweep is the part of the Mann–Whitney value
that comes from the scored negatives (the first summand of `mwValue_eq_rates`) -/
theorem trapF_rates (s : Scores) (ts : List ℚ) (hw : Sweep s ts) :
    trapF (fpQ s) (tpQ s) ts =
      ((mwWins s : ℚ) + (mwTies s : ℚ) / 2 + (s.easyPos : ℚ) * (s.neg.length : ℚ)) /
        (((s.pos.length + s.easyPos : ℕ) : ℚ) * ((s.neg.length + s.easyNeg : ℕ) : ℚ)) := by
  have e1 : fpQ s = fun t => ((accCount s.cfg s.neg t : ℕ) : ℚ) /
      ((s.neg.length + s.easyNeg : ℕ) : ℚ) := rfl
  have e2 : tpQ s = fun t => (((accCount s.cfg s.pos t : ℕ) : ℚ) + (s.easyPos : ℚ)) /
      ((s.pos.length + s.easyPos : ℕ) : ℚ) := by
    funext t; unfold tpQ; push_cast; rfl
  rw [e1, e2, trapF_div_left, trapF_div_right, trapF_add_right, trapF_counts s ts hw]
  have h0 := accCount_first s ts hw s.neg (fun x hx => List.mem_append_right _ hx)
  have h1 := accCount_last s ts hw s.neg (fun x hx => List.mem_append_right _ hx)
  cases ts with
  | nil => exact absurd rfl hw.ne
  | cons t0 rest =>
    simp only [List.head_cons] at h0
    rw [trapF_const_right, h0, h1]
    simp only [Nat.cast_zero, sub_zero]
    rw [div_div]

end SA

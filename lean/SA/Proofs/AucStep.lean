/-
Along a sweep without cross-class ties the trapezoid sum of TPR against the *clipped* FPR is the
step area of the reference, and the rate curve is monotone with horizontal or vertical segments
(helper lemmas for `C07_partial_eq_step`).
-/
import SA.Proofs.AucPoints
import SA.Proofs.AucWindow

namespace SA

theorem sweep_before (cfg : Cfg) (pre : List ℚ) (t0 t1 : ℚ) (rest : List ℚ)
    (hm : (pre ++ t0 :: t1 :: rest).Pairwise (AccMono cfg)) (t : ℚ) (ht : t ∈ pre ++ [t0]) :
    AccMono cfg t t0 := by
  rw [List.pairwise_append] at hm
  rw [List.mem_append, List.mem_singleton] at ht
  rcases ht with ht | ht
  · exact hm.2.2 t ht t0 (by simp)
  · rw [ht]; exact fun x hx => hx

theorem sweep_after (cfg : Cfg) (pre : List ℚ) (t0 t1 : ℚ) (rest : List ℚ)
    (hm : (pre ++ t0 :: t1 :: rest).Pairwise (AccMono cfg)) (t : ℚ) (ht : t ∈ t1 :: rest) :
    AccMono cfg t1 t := by
  rw [List.pairwise_append] at hm
  have h2 := hm.2.1
  rw [List.pairwise_cons, List.pairwise_cons] at h2
  rw [List.mem_cons] at ht
  rcases ht with ht | ht
  · rw [ht]; exact fun x hx => hx
  · exact h2.2.1 t ht

theorem sweep_step (cfg : Cfg) (pre : List ℚ) (t0 t1 : ℚ) (rest : List ℚ)
    (hm : (pre ++ t0 :: t1 :: rest).Pairwise (AccMono cfg)) : AccMono cfg t0 t1 := by
  rw [List.pairwise_append] at hm
  have h2 := hm.2.1
  rw [List.pairwise_cons] at h2
  exact h2.1 t1 (by simp)

/-- if `y` is accepted at `t1` and `x` ranks before `y`, then `x` is accepted already at `t0` -/
theorem sweep_key (s : Scores) (pre : List ℚ) (t0 t1 : ℚ) (rest : List ℚ)
    (hw : Sweep s (pre ++ t0 :: t1 :: rest)) (x y : ℚ) (hx : x ∈ s.pos ++ s.neg)
    (hy : y ∈ s.pos ++ s.neg) (hy1 : accept s.cfg y (.fin t1) = true)
    (hr : ranksAbove s.cfg.scoreClass x y = true) : accept s.cfg x (.fin t0) = true := by
  obtain ⟨t, ht, h1, h2⟩ := hw.sep x hx y hy hr
  have hsplit : t ∈ pre ++ [t0] ∨ t ∈ t1 :: rest := by
    rcases List.mem_append.1 ht with h | h
    · exact Or.inl (List.mem_append_left _ h)
    · rcases List.mem_cons.1 h with rfl | h
      · exact Or.inl (List.mem_append_right _ (List.mem_singleton_self _))
      · exact Or.inr h
  rcases hsplit with h | h
  · exact sweep_before s.cfg pre t0 t1 rest hw.mono t h x h1
  · have := sweep_after s.cfg pre t0 t1 rest hw.mono t h y hy1
    rw [h2] at this; cases this

/-- without cross-class ties, where a negative `q` is taken up between consecutive points the
positives accepted before are exactly those ranked above `q` -/
theorem sweep_level (s : Scores) (hnt : noCrossTies s = true) (pre : List ℚ) (t0 t1 : ℚ)
    (rest : List ℚ) (hw : Sweep s (pre ++ t0 :: t1 :: rest)) (q : ℚ) (hq : q ∈ s.neg)
    (hq0 : accept s.cfg q (.fin t0) = false) (hq1 : accept s.cfg q (.fin t1) = true) (p : ℚ)
    (hp : p ∈ s.pos) :
    (accept s.cfg p (.fin t0) = ranksAbove s.cfg.scoreClass p q) ∧
    (accept s.cfg p (.fin t1) = ranksAbove s.cfg.scoreClass p q) := by
  have hp' : p ∈ s.pos ++ s.neg := List.mem_append_left _ hp
  have hq' : q ∈ s.pos ++ s.neg := List.mem_append_right _ hq
  cases hr : ranksAbove s.cfg.scoreClass p q with
  | true =>
    have h0 := sweep_key s pre t0 t1 rest hw p q hp' hq' hq1 hr
    exact ⟨h0, sweep_step s.cfg pre t0 t1 rest hw.mono p h0⟩
  | false =>
    have hr' := ranksAbove_total _ p q (fun hpq => (noCrossTies_iff s).mp hnt p hp (hpq ▸ hq)) hr
    -- were `p` accepted at `t1`, `q` (ranking above it) would be accepted already at `t0`
    have h1 : accept s.cfg p (.fin t1) = false := Bool.eq_false_iff.mpr fun hp1 =>
      Bool.false_ne_true (hq0.symm.trans (sweep_key s pre t0 t1 rest hw q p hq' hp' hp1 hr'))
    refine ⟨Bool.eq_false_iff.mpr fun h0 => ?_, h1⟩
    exact Bool.false_ne_true (h1.symm.trans (sweep_step s.cfg pre t0 t1 rest hw.mono p h0))

def AccBefore (cfg : Cfg) (a b : ℚ) : Prop :=
  ∀ t, accept cfg b (.fin t) = true → accept cfg a (.fin t) = true

theorem negsByRank_pairwise (s : Scores) : (negsByRank s).Pairwise (AccBefore s.cfg) := by
  unfold negsByRank
  cases h : s.cfg.scoreClass with
  | neg => exact (sortQ_pairwise s.neg).imp (fun {a b} hab _ => accept_mono_neg s.cfg h hab le_rfl)
  | pos =>
    simp only
    rw [List.pairwise_reverse]
    exact (sortQ_pairwise s.neg).imp (fun {a b} hab _ => accept_mono_pos s.cfg h hab le_rfl)

theorem accCount_negsByRank (s : Scores) (t : ℚ) :
    accCount s.cfg (negsByRank s) t = accCount s.cfg s.neg t :=
  (negsByRank_perm s).countP_eq _

theorem accCount_mono (cfg : Cfg) (l : List ℚ) (t t' : ℚ) (h : AccMono cfg t t') :
    accCount cfg l t ≤ accCount cfg l t' := by
  unfold accCount
  exact List.countP_mono_left (fun x _ hx => h x hx)

/-- the negatives taken up between two thresholds: a slice of the rank order -/
def negSlice (s : Scores) (t0 t1 : ℚ) : List ℚ :=
  ((negsByRank s).drop (accCount s.cfg s.neg t0)).take
    (accCount s.cfg s.neg t1 - accCount s.cfg s.neg t0)

theorem negSlice_length (s : Scores) (t0 t1 : ℚ) :
    (negSlice s t0 t1).length = accCount s.cfg s.neg t1 - accCount s.cfg s.neg t0 := by
  have : accCount s.cfg s.neg t1 ≤ s.neg.length := List.countP_le_length
  unfold negSlice
  rw [List.length_take, List.length_drop, negsByRank_length]
  omega

theorem negSlice_append (s : Scores) (t0 t1 t2 : ℚ)
    (h01 : accCount s.cfg s.neg t0 ≤ accCount s.cfg s.neg t1)
    (h12 : accCount s.cfg s.neg t1 ≤ accCount s.cfg s.neg t2) :
    negSlice s t0 t2 = negSlice s t0 t1 ++ negSlice s t1 t2 := by
  unfold negSlice
  rw [show accCount s.cfg s.neg t2 - accCount s.cfg s.neg t0 =
      (accCount s.cfg s.neg t1 - accCount s.cfg s.neg t0) +
        (accCount s.cfg s.neg t2 - accCount s.cfg s.neg t1) by omega,
    List.take_add, List.drop_drop]
  congr 3
  omega

theorem mem_negSlice (s : Scores) (t0 t1 : ℚ) (q : ℚ) (hq : q ∈ negSlice s t0 t1) :
    q ∈ s.neg ∧ accept s.cfg q (.fin t0) = false ∧ accept s.cfg q (.fin t1) = true := by
  have hq1 : q ∈ (negsByRank s).drop (accCount s.cfg s.neg t0) := List.mem_of_mem_take hq
  have h0 := (pairwise_prefix (negsByRank s) (negsByRank_pairwise s)
    (fun x => accept s.cfg x (.fin t0)) (fun a b hab hb => hab t0 hb)).2
  have h1 := (pairwise_prefix (negsByRank s) (negsByRank_pairwise s)
    (fun x => accept s.cfg x (.fin t1)) (fun a b hab hb => hab t1 hb)).1
  rw [show (negsByRank s).countP _ = _ from accCount_negsByRank s t0] at h0
  rw [show (negsByRank s).countP _ = _ from accCount_negsByRank s t1] at h1
  refine ⟨(negsByRank_perm s).mem_iff.mp (List.mem_of_mem_drop hq1), h0 q hq1, h1 q ?_⟩
  -- the slice lies inside the prefix of length `accCount .. t1`
  unfold negSlice at hq
  rw [List.take_drop] at hq
  have := List.mem_of_mem_drop hq
  by_cases hle : accCount s.cfg s.neg t0 ≤ accCount s.cfg s.neg t1
  · rwa [Nat.add_sub_cancel' hle] at this
  · rw [show accCount s.cfg s.neg t1 - accCount s.cfg s.neg t0 = 0 by omega] at hq
    simp at hq

/-- without cross-class ties the level of every negative taken up between two consecutive
points of a sweep is the number of positives accepted at either point -/
theorem negSlice_level (s : Scores) (hnt : noCrossTies s = true) (pre : List ℚ) (t0 t1 : ℚ)
    (rest : List ℚ) (hw : Sweep s (pre ++ t0 :: t1 :: rest)) (q : ℚ) (hq : q ∈ negSlice s t0 t1) :
    winsOver s q = accCount s.cfg s.pos t0 ∧ winsOver s q = accCount s.cfg s.pos t1 := by
  obtain ⟨hqn, hq0, hq1⟩ := mem_negSlice s t0 t1 q hq
  unfold winsOver accCount
  constructor
  · exact List.countP_congr (fun p hp => by
      rw [(sweep_level s hnt pre t0 t1 rest hw q hqn hq0 hq1 p hp).1])
  · exact List.countP_congr (fun p hp => by
      rw [(sweep_level s hnt pre t0 t1 rest hw q hqn hq0 hq1 p hp).2])

/-- where the FPR moves between consecutive points the TPR does not -/
theorem sweep_tpQ_eq (s : Scores) (hnt : noCrossTies s = true) (pre : List ℚ) (t0 t1 : ℚ)
    (rest : List ℚ) (hw : Sweep s (pre ++ t0 :: t1 :: rest))
    (hlt : accCount s.cfg s.neg t0 < accCount s.cfg s.neg t1) : tpQ s t0 = tpQ s t1 := by
  have hne : negSlice s t0 t1 ≠ [] := by
    intro h0
    have := negSlice_length s t0 t1
    rw [h0] at this
    simp at this; omega
  obtain ⟨q, hq⟩ := List.exists_mem_of_ne_nil _ hne
  have hl := negSlice_level s hnt pre t0 t1 rest hw q hq
  unfold tpQ
  rw [← hl.1, ← hl.2]

/-- one trapezoid of the clipped curve is the step area over the negatives taken up in that
step. (`pre` here and below: the lemmas recurse on a suffix `t0 :: t1 :: rest` while keeping the
`Sweep` of the whole list.) -/
theorem sweep_segment (s : Scores) (hnt : noCrossTies s = true) (lo hi : ℚ) (h : lo ≤ hi)
    (pre : List ℚ) (t0 t1 : ℚ) (rest : List ℚ) (hw : Sweep s (pre ++ t0 :: t1 :: rest)) :
    stepAreaAux s lo hi (negSlice s t0 t1) (accCount s.cfg s.neg t0) =
      (clipQ lo hi (fpQ s t1) - clipQ lo hi (fpQ s t0)) * (tpQ s t0 + tpQ s t1) / 2 := by
  have h01 := accCount_mono s.cfg s.neg t0 t1 (sweep_step s.cfg pre t0 t1 rest hw.mono)
  rcases h01.eq_or_lt with heq | hlt
  · have e : negSlice s t0 t1 = [] := by
      apply List.eq_nil_of_length_eq_zero; rw [negSlice_length, heq, Nat.sub_self]
    have e' : fpQ s t1 = fpQ s t0 := by unfold fpQ; rw [heq]
    rw [e, e', sub_self, zero_mul, zero_div]
    rfl
  · have hconst : ∀ q ∈ negSlice s t0 t1,
        ((s.easyPos + winsOver s q : ℕ) : ℚ) / ((s.pos.length + s.easyPos : ℕ) : ℚ) = tpQ s t0 := by
      intro q hq
      unfold tpQ
      rw [(negSlice_level s hnt pre t0 t1 rest hw q hq).1, Nat.add_comm]
    rw [stepAreaAux_const s lo hi h (tpQ s t0) _ _ hconst, negSlice_length,
      Nat.add_sub_cancel' h01, ← sweep_tpQ_eq s hnt pre t0 t1 rest hw hlt,
      overlap_eq_clip _ _ _ _ (div_cast_le h01 _ (Nat.cast_nonneg _)) h]
    unfold fpQ; ring

/-- the clipped trapezoid sum over a tail of the sweep is the step area of the negatives taken
up along that tail -/
theorem trapF_clip_tail (s : Scores) (hnt : noCrossTies s = true) (lo hi : ℚ) (h : lo ≤ hi)
    (rest : List ℚ) : ∀ (pre : List ℚ) (t0 : ℚ), Sweep s (pre ++ t0 :: rest) →
    trapF (fun t => clipQ lo hi (fpQ s t)) (tpQ s) (t0 :: rest) =
      stepAreaAux s lo hi (negSlice s t0 ((t0 :: rest).getLast (by simp)))
        (accCount s.cfg s.neg t0) := by
  induction rest with
  | nil =>
    intro pre t0 _
    simp [trapF_single, negSlice, stepAreaAux]
  | cons t1 rest ih =>
    intro pre t0 hw
    have hw' : Sweep s ((pre ++ [t0]) ++ t1 :: rest) := by
      rw [List.append_assoc]; exact hw
    have h01 := accCount_mono s.cfg s.neg t0 t1 (sweep_step s.cfg pre t0 t1 rest hw.mono)
    have h1l := accCount_mono s.cfg s.neg _ _
      (sweep_after s.cfg pre t0 t1 rest hw.mono _ (List.getLast_mem (l := t1 :: rest) (by simp)))
    rw [trapF_cons_cons, ih (pre ++ [t0]) t1 hw', List.getLast_cons (l := t1 :: rest) (by simp),
      negSlice_append s t0 t1 _ h01 h1l, stepAreaAux_append,
      sweep_segment s hnt lo hi h pre t0 t1 rest hw, negSlice_length, Nat.add_sub_cancel' h01]

/-- **clipped sum = step area** along a whole sweep -/
theorem trapF_clip_sweep (s : Scores) (hnt : noCrossTies s = true) (lo hi : ℚ) (h : lo ≤ hi)
    (ts : List ℚ) (hw : Sweep s ts) :
    trapF (fun t => clipQ lo hi (fpQ s t)) (tpQ s) ts =
      stepAreaAux s lo hi (negsByRank s) 0 := by
  have h0 := accCount_first s ts hw s.neg (fun x hx => List.mem_append_right _ hx)
  have h1 := accCount_last s ts hw s.neg (fun x hx => List.mem_append_right _ hx)
  have hne := hw.ne
  cases ts with
  | nil => exact absurd rfl hne
  | cons t0 rest =>
    simp only [List.head_cons] at h0
    rw [trapF_clip_tail s hnt lo hi h rest [] t0 hw, negSlice, h0, h1, Nat.sub_zero, List.drop_zero,
      List.take_of_length_le (by rw [negsByRank_length])]

theorem sweep_horiz_tail (s : Scores) (hnt : noCrossTies s = true) (ts : List ℚ) :
    ∀ pre, Sweep s (pre ++ ts) → HorizStep (fpQ s) (tpQ s) ts := by
  induction ts using trapF_induction with
  | h0 => intro _ _; trivial
  | h1 t => intro _ _; trivial
  | h2 t0 t1 rest ih =>
    intro pre hw
    refine ⟨fun hlt => sweep_tpQ_eq s hnt pre t0 t1 rest hw (lt_of_not_ge fun hc =>
      absurd hlt (not_lt.mpr (div_cast_le hc _ (Nat.cast_nonneg _)))), ?_⟩
    apply ih (pre ++ [t0])
    rw [List.append_assoc]; exact hw

theorem sweep_fpQ_mono (s : Scores) (ts : List ℚ) (hw : Sweep s ts) :
    ts.Pairwise (fun t t' => fpQ s t ≤ fpQ s t') :=
  hw.mono.imp fun {a b} hab =>
    div_cast_le (accCount_mono s.cfg s.neg a b hab) _ (Nat.cast_nonneg _)

end SA

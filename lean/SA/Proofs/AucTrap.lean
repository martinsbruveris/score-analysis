/-
Algebra of the trapezoid rule along a list of evaluation points (helper lemmas for the
code-shaped part of C07).
`trapF f g ts` is `np.trapezoid(y, x)` for `x = f(ts)`, `y = g(ts)`.
-/
import SA.Model.Auc
import Mathlib.Tactic.Linarith
import Mathlib.Tactic.Ring

namespace SA

def trapF (f g : ℚ → ℚ) (ts : List ℚ) : ℚ := trapezoid (ts.map f) (ts.map g)

theorem trapF_nil (f g : ℚ → ℚ) : trapF f g [] = 0 := rfl
theorem trapF_single (f g : ℚ → ℚ) (t : ℚ) : trapF f g [t] = 0 := rfl
theorem trapF_cons_cons (f g : ℚ → ℚ) (t0 t1 : ℚ) (ts : List ℚ) :
    trapF f g (t0 :: t1 :: ts) = (f t1 - f t0) * (g t0 + g t1) / 2 + trapF f g (t1 :: ts) := rfl

theorem trapF_induction {motive : List ℚ → Prop} (h0 : motive []) (h1 : ∀ t, motive [t])
    (h2 : ∀ t0 t1 ts, motive (t1 :: ts) → motive (t0 :: t1 :: ts)) : ∀ ts, motive ts
  | [] => h0
  | [t] => h1 t
  | t0 :: t1 :: ts => h2 t0 t1 ts (trapF_induction h0 h1 h2 (t1 :: ts))

theorem trapF_congr (f f' g g' : ℚ → ℚ) (ts : List ℚ) (hf : ∀ t ∈ ts, f t = f' t)
    (hg : ∀ t ∈ ts, g t = g' t) : trapF f g ts = trapF f' g' ts := by
  unfold trapF
  rw [List.map_congr_left hf, List.map_congr_left hg]

theorem trapF_add_left (f1 f2 g : ℚ → ℚ) (ts : List ℚ) :
    trapF (fun t => f1 t + f2 t) g ts = trapF f1 g ts + trapF f2 g ts := by
  induction ts using trapF_induction with
  | h0 => simp [trapF_nil]
  | h1 t => simp [trapF_single]
  | h2 t0 t1 ts ih => simp only [trapF_cons_cons, ih]; ring

theorem trapF_add_right (f g1 g2 : ℚ → ℚ) (ts : List ℚ) :
    trapF f (fun t => g1 t + g2 t) ts = trapF f g1 ts + trapF f g2 ts := by
  induction ts using trapF_induction with
  | h0 => simp [trapF_nil]
  | h1 t => simp [trapF_single]
  | h2 t0 t1 ts ih => simp only [trapF_cons_cons, ih]; ring

theorem trapF_div_left (f g : ℚ → ℚ) (c : ℚ) (ts : List ℚ) :
    trapF (fun t => f t / c) g ts = trapF f g ts / c := by
  induction ts using trapF_induction with
  | h0 => simp [trapF_nil]
  | h1 t => simp [trapF_single]
  | h2 t0 t1 ts ih => simp only [trapF_cons_cons, ih]; ring

theorem trapF_div_right (f g : ℚ → ℚ) (c : ℚ) (ts : List ℚ) :
    trapF f (fun t => g t / c) ts = trapF f g ts / c := by
  induction ts using trapF_induction with
  | h0 => simp [trapF_nil]
  | h1 t => simp [trapF_single]
  | h2 t0 t1 ts ih => simp only [trapF_cons_cons, ih]; ring

theorem trapF_sub_right (f g : ℚ → ℚ) (c : ℚ) (ts : List ℚ) :
    trapF f (fun t => c - g t) ts = trapF f (fun _ => c) ts - trapF f g ts := by
  induction ts using trapF_induction with
  | h0 => simp [trapF_nil]
  | h1 t => simp [trapF_single]
  | h2 t0 t1 ts ih => simp only [trapF_cons_cons, ih]; ring

theorem trapF_sub_left (f g : ℚ → ℚ) (c : ℚ) (ts : List ℚ) :
    trapF (fun t => c - f t) g ts = - trapF f g ts := by
  induction ts using trapF_induction with
  | h0 => simp [trapF_nil]
  | h1 t => simp [trapF_single]
  | h2 t0 t1 ts ih => simp only [trapF_cons_cons, ih]; ring

theorem trapF_const_left (c : ℚ) (g : ℚ → ℚ) (ts : List ℚ) : trapF (fun _ => c) g ts = 0 := by
  induction ts using trapF_induction with
  | h0 => rfl
  | h1 t => rfl
  | h2 t0 t1 ts ih => simp only [trapF_cons_cons, ih]; ring

theorem trapF_zero_right (f : ℚ → ℚ) (ts : List ℚ) : trapF f (fun _ => 0) ts = 0 := by
  induction ts using trapF_induction with
  | h0 => rfl
  | h1 t => rfl
  | h2 t0 t1 ts ih => simp only [trapF_cons_cons, ih]; ring

/-- against a constant height the rule telescopes -/
theorem trapF_const_right (f : ℚ → ℚ) (c : ℚ) (t0 : ℚ) (ts : List ℚ) :
    trapF f (fun _ => c) (t0 :: ts) = c * (f ((t0 :: ts).getLast (by simp)) - f t0) := by
  induction ts generalizing t0 with
  | nil => simp [trapF_single]
  | cons t1 ts ih =>
    rw [trapF_cons_cons, ih t1, List.getLast_cons (l := t1 :: ts) (by simp)]
    ring

/-- a curve against itself: half the difference of squares -/
theorem trapF_self (f : ℚ → ℚ) (ts : List ℚ) :
    trapF f f ts = trapF (fun t => f t ^ 2 / 2) (fun _ => 1) ts := by
  induction ts using trapF_induction with
  | h0 => rfl
  | h1 t => rfl
  | h2 t0 t1 ts ih => simp only [trapF_cons_cons, ih]; ring

theorem trapF_append (f g : ℚ → ℚ) (l1 : List ℚ) (t : ℚ) (l2 : List ℚ) :
    trapF f g (l1 ++ t :: l2) = trapF f g (l1 ++ [t]) + trapF f g (t :: l2) := by
  induction l1 with
  | nil => simp [trapF_single]
  | cons a l1 ih =>
    cases l1 with
    | nil =>
      simp only [List.cons_append, List.nil_append, trapF_cons_cons, trapF_single]; ring
    | cons b l1 =>
      simp only [List.cons_append, trapF_cons_cons] at ih ⊢
      rw [ih]; ring

theorem trapF_reverse (f g : ℚ → ℚ) (ts : List ℚ) : trapF f g ts.reverse = - trapF f g ts := by
  induction ts using trapF_induction with
  | h0 => simp [trapF_nil]
  | h1 t => simp [trapF_single]
  | h2 t0 t1 ts ih =>
    rw [List.reverse_cons, List.reverse_cons, List.append_assoc] at *
    simp only [List.singleton_append] at *
    rw [trapF_append, trapF_cons_cons, trapF_single, trapF_cons_cons, ih]
    ring

/-- summation by parts for the trapezoid rule -/
theorem trapF_parts (f g : ℚ → ℚ) (t0 : ℚ) (rest : List ℚ) :
    trapF g f (t0 :: rest) + trapF f g (t0 :: rest) =
      f ((t0 :: rest).getLast (by simp)) * g ((t0 :: rest).getLast (by simp)) - f t0 * g t0 := by
  induction rest generalizing t0 with
  | nil => simp [trapF_single]
  | cons t1 rest ih =>
    have h := eq_add_of_sub_eq (ih t1).symm
    rw [trapF_cons_cons, trapF_cons_cons, List.getLast_cons (l := t1 :: rest) (by simp), h]
    ring

theorem trapezoid_snoc (f g : ℚ → ℚ) (t0 : ℚ) (rest : List ℚ) (a b : ℚ) :
    trapezoid ((t0 :: rest).map f ++ [a]) ((t0 :: rest).map g ++ [b]) =
      trapF f g (t0 :: rest) +
        (a - f ((t0 :: rest).getLast (by simp))) *
          (g ((t0 :: rest).getLast (by simp)) + b) / 2 := by
  induction rest generalizing t0 with
  | nil => simp [trapezoid, trapF_single]
  | cons t1 rest ih =>
    have := ih t1
    simp only [List.map_cons, List.cons_append] at this ⊢
    rw [trapF_cons_cons, List.getLast_cons (l := t1 :: rest) (by simp)]
    simp only [trapezoid]
    rw [this]; ring

theorem trapezoid_both (f g : ℚ → ℚ) (t0 : ℚ) (rest : List ℚ) (a b c d : ℚ) :
    trapezoid ([a] ++ (t0 :: rest).map f ++ [c]) ([b] ++ (t0 :: rest).map g ++ [d]) =
      (f t0 - a) * (b + g t0) / 2 + trapF f g (t0 :: rest) +
        (c - f ((t0 :: rest).getLast (by simp))) *
          (g ((t0 :: rest).getLast (by simp)) + d) / 2 := by
  have := trapezoid_snoc f g t0 rest c d
  simp only [List.map_cons, List.cons_append, List.nil_append] at this ⊢
  simp only [trapezoid]
  rw [this]; ring

theorem trapF_split3 (F g : ℚ → ℚ) (A : List ℚ) (b0 : ℚ) (B' C : List ℚ) :
    trapF F g (A ++ (b0 :: B') ++ C) =
      trapF F g (A ++ [b0]) + trapF F g (b0 :: B') +
        trapF F g ((b0 :: B').getLast (by simp) :: C) := by
  obtain ⟨D, bl, hD⟩ : ∃ D bl, b0 :: B' = D ++ [bl] :=
    ⟨(b0 :: B').dropLast, (b0 :: B').getLast (by simp),
      (List.dropLast_concat_getLast (by simp)).symm⟩
  have hgl : (b0 :: B').getLast (by simp) = bl := by simp [hD]
  rw [hgl]
  have e1 : A ++ (b0 :: B') ++ C = A ++ b0 :: (B' ++ C) := by simp
  rw [e1, trapF_append F g A b0 (B' ++ C)]
  have e2 : b0 :: (B' ++ C) = D ++ bl :: C := by
    have : b0 :: (B' ++ C) = (b0 :: B') ++ C := rfl
    rw [this, hD]; simp
  rw [e2, trapF_append F g D bl C, ← hD]
  ring

theorem trapF_sum_left {α : Type} (l : List α) (F : α → ℚ → ℚ) (g : ℚ → ℚ) (ts : List ℚ) :
    trapF (fun t => (l.map fun a => F a t).sum) g ts = (l.map fun a => trapF (F a) g ts).sum := by
  induction l with
  | nil => simp [trapF_const_left]
  | cons a l ih =>
    simp only [List.map_cons, List.sum_cons]
    rw [trapF_add_left, ih]

theorem trapF_sum_right {α : Type} (l : List α) (f : ℚ → ℚ) (G : α → ℚ → ℚ) (ts : List ℚ) :
    trapF f (fun t => (l.map fun a => G a t).sum) ts = (l.map fun a => trapF f (G a) ts).sum := by
  induction l with
  | nil => simp [trapF_zero_right]
  | cons a l ih =>
    simp only [List.map_cons, List.sum_cons]
    rw [trapF_add_right, ih]

def ind (b : Bool) : ℚ := if b then 1 else 0

theorem ind_false : ind false = 0 := rfl

/-- both indicator curves are monotone along the list -/
def BothMono (a b : ℚ → Bool) (t t' : ℚ) : Prop :=
  (a t = true → a t' = true) ∧ (b t = true → b t' = true)

theorem pairwise_mono_split (a : ℚ → Bool) (l1 : List ℚ) (t : ℚ) (l2 : List ℚ)
    (h : (l1 ++ t :: l2).Pairwise (fun x y => a x = true → a y = true)) :
    (a t = false → ∀ x ∈ l1 ++ [t], a x = false) ∧ (a t = true → ∀ x ∈ t :: l2, a x = true) := by
  rw [List.pairwise_append, List.pairwise_cons] at h
  obtain ⟨_, ⟨h2, _⟩, h3⟩ := h
  constructor <;> intro ht x hx
  · rcases List.mem_append.mp hx with hx | hx
    · exact Bool.eq_false_iff.mpr fun hax =>
        Bool.false_ne_true (ht.symm.trans (h3 x hx t List.mem_cons_self hax))
    · rw [List.mem_singleton.mp hx]; exact ht
  · rcases List.mem_cons.mp hx with rfl | hx
    · exact ht
    · exact h2 x hx ht

/-- `b` switches on strictly before `a` (witnessed by a point of the list): every jump of `a`
is taken at full height. -/
theorem trapF_pair_win (a b : ℚ → Bool) (ts : List ℚ) (hmono : ts.Pairwise (BothMono a b))
    (tstar : ℚ) (hmem : tstar ∈ ts) (ha : a tstar = false) (hb : b tstar = true) :
    trapF (fun t => ind (a t)) (fun t => ind (b t)) ts =
      trapF (fun t => ind (a t)) (fun _ => 1) ts := by
  obtain ⟨l1, l2, rfl⟩ := List.append_of_mem hmem
  have hA := (pairwise_mono_split a l1 tstar l2 (hmono.imp fun h => h.1)).1 ha
  have hB := (pairwise_mono_split b l1 tstar l2 (hmono.imp fun h => h.2)).2 hb
  have hA' : ∀ t ∈ l1 ++ [tstar], ind (a t) = (fun _ => (0 : ℚ)) t :=
    fun t ht => by rw [hA t ht]; rfl
  rw [trapF_append _ _ l1, trapF_append _ (fun _ => 1) l1,
    trapF_congr _ _ _ _ _ hA' (fun _ _ => rfl), trapF_const_left,
    trapF_congr _ _ (fun _ => 1) _ (l1 ++ [tstar]) hA' (fun _ _ => rfl), trapF_const_left,
    trapF_congr _ _ _ (fun _ => 1) (tstar :: l2) (fun _ _ => rfl)
      (fun t ht => by rw [hB t ht]; rfl)]

/-- `a` switches on strictly before `b`: every jump of `a` is taken at height zero. -/
theorem trapF_pair_loss (a b : ℚ → Bool) (ts : List ℚ) (hmono : ts.Pairwise (BothMono a b))
    (tstar : ℚ) (hmem : tstar ∈ ts) (ha : a tstar = true) (hb : b tstar = false) :
    trapF (fun t => ind (a t)) (fun t => ind (b t)) ts = 0 := by
  obtain ⟨l1, l2, rfl⟩ := List.append_of_mem hmem
  have hA := (pairwise_mono_split a l1 tstar l2 (hmono.imp fun h => h.1)).2 ha
  have hB := (pairwise_mono_split b l1 tstar l2 (hmono.imp fun h => h.2)).1 hb
  rw [trapF_append _ _ l1,
    trapF_congr _ _ _ (fun _ => 0) (l1 ++ [tstar]) (fun _ _ => rfl)
      (fun t ht => by rw [hB t ht]; rfl), trapF_zero_right,
    trapF_congr _ (fun _ => 1) _ _ (tstar :: l2) (fun t ht => by rw [hA t ht]; rfl)
      (fun _ _ => rfl), trapF_const_left, add_zero]

end SA

/-
The window step of `Scores.auc` on abstract curves: on a monotone curve whose segments are
horizontal or vertical it equals the trapezoid sum of the curve clipped to the window plus the
flat pieces before the first and after the last point.
-/
import SA.Proofs.Auc
import SA.Proofs.AucTrap
import SA.Proofs.Bisect
import Mathlib.Tactic.LinearCombination

namespace SA

/-- everything `Scores.auc` does after the curves have been oriented -/
def aucWindow (x y : List ℚ) (lower upper : ℚ) : ℚ :=
  let left := bisect (fun v => decide (v < lower)) x
  let right := bisect (fun v => decide (v ≤ upper)) x
  let left := min left (y.length - 1)
  let right := max right 1
  let xs := [lower] ++ (x.drop left).take (right - left) ++ [upper]
  let ys := [y.getD left 0] ++ (y.drop left).take (right - left) ++ [y.getD (right - 1) 0]
  absR (trapezoid xs ys)

theorem getD_map_zero (f : ℚ → ℚ) (l : List ℚ) (hl : l ≠ []) :
    (l.map f).getD 0 0 = f (l.head hl) := by
  cases l with
  | nil => exact absurd rfl hl
  | cons a l => rfl

theorem getD_map_last (f : ℚ → ℚ) (l : List ℚ) (hl : l ≠ []) :
    (l.map f).getD ((l.map f).length - 1) 0 = f (l.getLast hl) := by
  have hlen : 0 < l.length := List.length_pos_iff.mpr hl
  rw [List.getLast_eq_getElem, List.length_map, List.getD_eq_getElem?_getD,
    List.getElem?_eq_getElem (by rw [List.length_map]; omega)]
  simp

theorem getD_append_lt (l l' : List ℚ) (n : ℕ) (h : n < l.length) :
    (l ++ l').getD n 0 = l.getD n 0 := by
  rw [List.getD_eq_getElem?_getD, List.getD_eq_getElem?_getD, List.getElem?_append_left h]

theorem getD_append_length (l : List ℚ) (a : ℚ) (l' : List ℚ) :
    (l ++ a :: l').getD l.length 0 = a := by
  rw [List.getD_eq_getElem?_getD, List.getElem?_append_right (le_refl _)]
  simp

theorem drop_take_mid (f : ℚ → ℚ) (A B C : List ℚ) :
    (((A ++ B ++ C).map f).drop A.length).take (A.length + B.length - A.length) = B.map f := by
  rw [Nat.add_sub_cancel_left, List.map_append, List.map_append, List.append_assoc,
    List.drop_left' (by simp), List.take_left' (by simp)]

theorem getD_mid_head (g : ℚ → ℚ) (A B C : List ℚ) (h : B ++ C ≠ []) :
    ((A ++ B ++ C).map g).getD A.length 0 = g ((B ++ C).head h) := by
  obtain ⟨d, D, hD⟩ := List.exists_cons_of_ne_nil h
  have := getD_append_length (A.map g) (g d) (D.map g)
  rw [List.length_map] at this
  simp only [List.append_assoc, hD, List.map_append, List.map_cons, List.head_cons]
  exact this

theorem getD_mid_last (g : ℚ → ℚ) (A B C : List ℚ) (h : A ++ B ≠ []) :
    ((A ++ B ++ C).map g).getD (A.length + B.length - 1) 0 = g ((A ++ B).getLast h) := by
  have hlen : 0 < (A ++ B).length := List.length_pos_iff.mpr h
  rw [List.length_append] at hlen
  rw [List.map_append, getD_append_lt _ _ _ (by simp; omega)]
  have := getD_map_last g (A ++ B) h
  rwa [List.length_map, List.length_append] at this

/-- the window once the two binary searches and the clamping of their results are known -/
theorem aucWindow_cut (f g : ℚ → ℚ) (lo hi : ℚ) (A B C : List ℚ) (l r : ℕ)
    (hL : bisect (fun v => decide (v < lo)) ((A ++ B ++ C).map f) = l)
    (hR : bisect (fun v => decide (v ≤ hi)) ((A ++ B ++ C).map f) = r)
    (hl : min l ((A ++ B ++ C).length - 1) = A.length) (hr : max r 1 = A.length + B.length)
    (hAB : A ++ B ≠ []) (hBC : B ++ C ≠ []) :
    aucWindow ((A ++ B ++ C).map f) ((A ++ B ++ C).map g) lo hi =
      absR (trapezoid ([lo] ++ B.map f ++ [hi])
        ([g ((B ++ C).head hBC)] ++ B.map g ++ [g ((A ++ B).getLast hAB)])) := by
  unfold aucWindow
  simp only [hL, hR, List.length_map]
  rw [hl, hr, drop_take_mid f A B C, drop_take_mid g A B C, getD_mid_head g A B C hBC,
    getD_mid_last g A B C hAB]

theorem aucWindow_full (f g : ℚ → ℚ) (t0 : ℚ) (rest : List ℚ)
    (h0 : ∀ t ∈ t0 :: rest, 0 ≤ f t) (h1 : ∀ t ∈ t0 :: rest, f t ≤ 1) :
    aucWindow ((t0 :: rest).map f) ((t0 :: rest).map g) 0 1 =
      absR (f t0 * g t0 + trapF f g (t0 :: rest) +
        (1 - f ((t0 :: rest).getLast (by simp))) * g ((t0 :: rest).getLast (by simp))) := by
  have hl : bisect (fun v => decide (v < 0)) ((t0 :: rest).map f) = 0 := by
    apply bisect_all_false
    intro v hv
    obtain ⟨t, ht, rfl⟩ := List.mem_map.mp hv
    rw [decide_eq_false_iff_not, not_lt]; exact h0 t ht
  have hr : bisect (fun v => decide (v ≤ 1)) ((t0 :: rest).map f) =
      ((t0 :: rest).map f).length := by
    apply bisect_all_true
    intro v hv
    obtain ⟨t, ht, rfl⟩ := List.mem_map.mp hv
    rw [decide_eq_true_eq]; exact h1 t ht
  have := aucWindow_cut f g 0 1 [] (t0 :: rest) [] _ _ (by simpa using hl) (by simpa using hr)
    (Nat.zero_min _) (by simp) (by simp) (by simp)
  simp only [List.nil_append, List.append_nil, List.head_cons] at this
  rw [this, trapezoid_both]
  congr 1; ring

theorem absR_of_nonneg (x : ℚ) (h : 0 ≤ x) : absR x = x := by
  unfold absR; rw [if_neg (not_lt.mpr h)]

/-- wherever `f` moves between consecutive points `g` does not -/
def HorizStep (f g : ℚ → ℚ) : List ℚ → Prop
  | t0 :: t1 :: rest => (f t0 < f t1 → g t0 = g t1) ∧ HorizStep f g (t1 :: rest)
  | _ => True

theorem horizStep_at (f g : ℚ → ℚ) (pre : List ℚ) (t0 t1 : ℚ) (rest : List ℚ)
    (h : HorizStep f g (pre ++ t0 :: t1 :: rest)) (hlt : f t0 < f t1) : g t0 = g t1 := by
  induction pre with
  | nil => exact h.1 hlt
  | cons a pre ih =>
    cases pre with
    | nil => exact ih h.2
    | cons b pre => exact ih h.2

theorem horizStep_compl (f g : ℚ → ℚ) (c : ℚ) (ts : List ℚ) (h : HorizStep f g ts) :
    HorizStep f (fun t => c - g t) ts := by
  induction ts using trapF_induction with
  | h0 => trivial
  | h1 t => trivial
  | h2 t0 t1 ts ih =>
    refine ⟨fun hlt => ?_, ih h.2⟩
    show c - g t0 = c - g t1
    rw [h.1 hlt]

theorem horizStep_snoc (F g : ℚ → ℚ) (l : List ℚ) (a b : ℚ) (h : HorizStep F g (l ++ [a]))
    (hab : F a < F b → g a = g b) : HorizStep F g (l ++ [a, b]) := by
  induction l with
  | nil => exact ⟨hab, trivial⟩
  | cons c l ih =>
    cases l with
    | nil => exact ⟨h.1, ih h.2⟩
    | cons d l => exact ⟨h.1, ih h.2⟩

theorem horizStep_reverse (f g : ℚ → ℚ) (c : ℚ) (ts : List ℚ) (h : HorizStep f g ts) :
    HorizStep (fun t => c - f t) g ts.reverse := by
  induction ts using trapF_induction with
  | h0 => trivial
  | h1 t => trivial
  | h2 t0 t1 ts ih =>
    have e : (t0 :: t1 :: ts).reverse = ts.reverse ++ [t1, t0] := by simp
    rw [e]
    apply horizStep_snoc
    · have := ih h.2
      rwa [List.reverse_cons] at this
    · intro hlt
      have hlt' : c - f t1 < c - f t0 := hlt
      have : f t0 < f t1 := by linarith
      exact (h.1 this).symm

theorem mono_decomp (f : ℚ → ℚ) (lo hi : ℚ) (ts : List ℚ)
    (hs : ts.Pairwise (fun t t' => f t ≤ f t')) :
    ∃ A B C, ts = A ++ B ++ C ∧ (∀ t ∈ A, f t < lo) ∧ (∀ t ∈ B, lo ≤ f t ∧ f t ≤ hi) ∧
      (∀ t ∈ C, hi < f t) := by
  have hp := pairwise_prefix ts hs (fun t => decide (f t < lo))
    (fun a b hab hb => by simp only [decide_eq_true_eq] at *; exact lt_of_le_of_lt hab hb)
  have hq := pairwise_prefix _ (hs.sublist
      (List.drop_sublist (ts.countP fun t => decide (f t < lo)) ts))
    (fun t => decide (f t ≤ hi))
    (fun a b hab hb => by simp only [decide_eq_true_eq] at *; exact le_trans hab hb)
  exact ⟨_, _, _, by rw [List.append_assoc, List.take_append_drop, List.take_append_drop],
    fun t ht => of_decide_eq_true (hp.1 t ht),
    fun t ht => ⟨not_lt.mp (of_decide_eq_false (hp.2 t (List.mem_of_mem_take ht))),
      of_decide_eq_true (hq.1 t ht)⟩,
    fun t ht => not_le.mp (of_decide_eq_false (hq.2 t ht))⟩

theorem bisect_split (p : ℚ → Bool) (hp : ∀ x y, x ≤ y → p y = true → p x = true) (f : ℚ → ℚ)
    (X Y : List ℚ) (hs : (X ++ Y).Pairwise (fun t t' => f t ≤ f t'))
    (hX : ∀ t ∈ X, p (f t) = true) (hY : ∀ t ∈ Y, p (f t) = false) :
    bisect p ((X ++ Y).map f) = X.length := by
  have eX : X.countP (p ∘ f) = X.length := List.countP_eq_length.mpr hX
  have eY : Y.countP (p ∘ f) = 0 := List.countP_eq_zero.mpr (fun t ht => by simp [hY t ht])
  rw [bisect_eq_countP _ _ (List.pairwise_map.mpr hs) hp, List.countP_map, List.countP_append,
    eX, eY, Nat.add_zero]

theorem trapF_clip_below (f g : ℚ → ℚ) (lo hi : ℚ) (A : List ℚ)
    (hA : ∀ t ∈ A, f t < lo) : trapF (fun t => clipQ lo hi (f t)) g A = 0 := by
  rw [trapF_congr _ (fun _ => lo) g g A
    (fun t ht => clipQ_of_le lo hi _ (le_of_lt (hA t ht))) (fun _ _ => rfl), trapF_const_left]

theorem trapF_clip_above (f g : ℚ → ℚ) (lo hi : ℚ) (hlh : lo ≤ hi) (C : List ℚ)
    (hC : ∀ t ∈ C, hi < f t) : trapF (fun t => clipQ lo hi (f t)) g C = 0 := by
  rw [trapF_congr _ (fun _ => hi) g g C
    (fun t ht => clipQ_of_ge lo hi _ hlh (le_of_lt (hC t ht))) (fun _ _ => rfl), trapF_const_left]

theorem trapF_clip_inside (f g : ℚ → ℚ) (lo hi : ℚ) (B : List ℚ)
    (hB : ∀ t ∈ B, lo ≤ f t ∧ f t ≤ hi) : trapF (fun t => clipQ lo hi (f t)) g B = trapF f g B :=
  trapF_congr _ f g g B (fun t ht => clipQ_of_mem lo hi _ (hB t ht).1 (hB t ht).2) (fun _ _ => rfl)

/-- entering the window: flat head + clipped sum up to the first point `b0` inside is the
rectangle from `lo` to `f b0` (`hhor`: the step into the window is horizontal) -/
theorem trapF_clip_enter (f g : ℚ → ℚ) (lo hi : ℚ) (A : List ℚ)
    (b0 : ℚ) (hA : ∀ t ∈ A, f t < lo) (hb : lo ≤ f b0 ∧ f b0 ≤ hi)
    (hhor : ∀ A' al, A = A' ++ [al] → g al = g b0) :
    (clipQ lo hi (f ((A ++ [b0]).head (by simp))) - lo) * g ((A ++ [b0]).head (by simp)) +
      trapF (fun t => clipQ lo hi (f t)) g (A ++ [b0]) = (f b0 - lo) * g b0 := by
  rcases List.eq_nil_or_concat A with h | ⟨A', al, h⟩
  · subst h
    simp only [List.nil_append, List.head_cons, trapF_single]
    rw [clipQ_of_mem lo hi _ hb.1 hb.2, add_zero]
  · rw [List.concat_eq_append] at h
    subst h
    have hne : A' ++ [al] ≠ [] := by simp
    have hal : f al < lo := hA al (by simp)
    rw [List.head_append_of_ne_nil hne,
      clipQ_of_le lo hi _ (hA _ (List.head_mem hne)).le, List.append_assoc,
      List.singleton_append, trapF_append, trapF_clip_below f g lo hi _ hA, trapF_cons_cons,
      trapF_single, clipQ_of_le lo hi _ hal.le, clipQ_of_mem lo hi _ hb.1 hb.2,
      hhor A' al rfl]
    ring

/-- leaving the window: the rectangle from `f bl` to `hi` -/
theorem trapF_clip_leave (f g : ℚ → ℚ) (lo hi : ℚ) (hlh : lo ≤ hi) (bl c0 : ℚ) (C' : List ℚ)
    (hC : ∀ t ∈ c0 :: C', hi < f t) (hb : lo ≤ f bl ∧ f bl ≤ hi) (hhor : g bl = g c0) :
    trapF (fun t => clipQ lo hi (f t)) g (bl :: c0 :: C') = (hi - f bl) * g bl := by
  rw [trapF_cons_cons, trapF_clip_above f g lo hi hlh _ hC, clipQ_of_mem lo hi _ hb.1 hb.2,
    clipQ_of_ge lo hi _ hlh (le_of_lt (hC c0 (by simp))), hhor]
  ring

/-- no point inside the window -/
theorem trapF_clip_jump (f g : ℚ → ℚ) (lo hi : ℚ) (hlh : lo ≤ hi) (A' : List ℚ) (al c0 : ℚ)
    (C' : List ℚ) (hA : ∀ t ∈ A' ++ [al], f t < lo) (hC : ∀ t ∈ c0 :: C', hi < f t) :
    trapF (fun t => clipQ lo hi (f t)) g (A' ++ al :: c0 :: C') =
      (hi - lo) * (g al + g c0) / 2 := by
  rw [trapF_append, trapF_clip_below f g lo hi _ hA, trapF_cons_cons,
    trapF_clip_above f g lo hi hlh _ hC, clipQ_of_le lo hi _ (le_of_lt (hA al (by simp))),
    clipQ_of_ge lo hi _ hlh (le_of_lt (hC c0 (by simp)))]
  ring

/-- **window = flat head + clipped sum + flat tail**, for a monotone curve whose segments are
horizontal or vertical -/
theorem window_eq_clip (f g : ℚ → ℚ) (lo hi : ℚ) (h0 : 0 ≤ lo) (hlh : lo ≤ hi) (h1 : hi ≤ 1)
    (ts : List ℚ) (hne : ts ≠ []) (hs : ts.Pairwise (fun t t' => f t ≤ f t'))
    (hh : HorizStep f g ts) :
    aucWindow (ts.map f) (ts.map g) lo hi =
      absR (overlap 0 (f (ts.head hne)) lo hi * g (ts.head hne) +
        trapF (fun t => clipQ lo hi (f t)) g ts +
        overlap (f (ts.getLast hne)) 1 lo hi * g (ts.getLast hne)) := by
  rw [overlap_head _ _ lo hi h0 hlh, overlap_tail _ _ lo hi hlh h1]
  obtain ⟨A, B, C, rfl, hA, hB, hC⟩ := mono_decomp f lo hi ts hs
  have hL : bisect (fun v => decide (v < lo)) ((A ++ B ++ C).map f) = A.length := by
    rw [List.append_assoc] at hs ⊢
    exact bisect_split _ (fun x y hxy hy => decide_eq_true (hxy.trans_lt (of_decide_eq_true hy))) f
      A (B ++ C) hs (fun t ht => decide_eq_true (hA t ht)) (fun t ht => decide_eq_false (not_lt.mpr
        ((List.mem_append.mp ht).elim (fun h => (hB t h).1) (fun h => hlh.trans (hC t h).le))))
  have hR : bisect (fun v => decide (v ≤ hi)) ((A ++ B ++ C).map f) = A.length + B.length := by
    rw [← List.length_append]
    exact bisect_split _ (fun x y hxy hy => decide_eq_true (hxy.trans (of_decide_eq_true hy))) f
      (A ++ B) C hs (fun t ht => decide_eq_true ((List.mem_append.mp ht).elim
        (fun h => (hA t h).le.trans hlh) (fun h => (hB t h).2)))
      (fun t ht => decide_eq_false (not_le.mpr (hC t ht)))
  -- `A`, `B`, `C`: the points below, inside, above the window. `B ≠ []`: head rectangle + sum
  -- over `B` + tail rectangle (none if `C = []`). `B = []`: the code's clamps `min left (n - 1)`,
  -- `max right 1` decide which single point the window holds.
  cases B with
  | cons b0 B' =>
    have hb0 := hB b0 (by simp)
    have hhor : ∀ A' al, A = A' ++ [al] → g al = g b0 := by
      intro A' al hAe
      subst hAe
      have e : A' ++ [al] ++ (b0 :: B') ++ C = A' ++ al :: b0 :: (B' ++ C) := by simp
      rw [e] at hh
      exact horizStep_at f g A' al b0 (B' ++ C) hh
        (lt_of_lt_of_le (hA al (by simp)) hb0.1)
    have hbl := hB ((b0 :: B').getLast (by simp)) (List.getLast_mem _)
    have hhead := trapF_clip_enter f g lo hi A b0 hA hb0 hhor
    have hmid := trapF_clip_inside f g lo hi _ hB
    have hgl0 : (A ++ (b0 :: B')).getLast (by simp) = (b0 :: B').getLast (by simp) :=
      List.getLast_append_of_ne_nil _ (by simp)
    have hhd0 : ((b0 :: B') ++ C).head (by simp) = b0 := rfl
    rw [aucWindow_cut f g lo hi A (b0 :: B') C _ _ hL hR
        (Nat.min_eq_left (by simp only [List.length_append, List.length_cons]; omega))
        (Nat.max_eq_left (by simp only [List.length_cons]; omega)) (by simp) (by simp), hgl0, hhd0,
      trapezoid_both, trapF_split3,
      show (A ++ (b0 :: B') ++ C).head hne = (A ++ [b0]).head (by simp) by cases A <;> simp]
    cases C with
    | nil =>
      have hgl : (A ++ (b0 :: B') ++ []).getLast hne = (b0 :: B').getLast (by simp) := by
        simp only [List.append_nil]
        exact List.getLast_append_of_ne_nil _ (by simp)
      rw [hgl, clipQ_of_mem lo hi _ hbl.1 hbl.2, trapF_single]
      congr 1
      linear_combination -hhead - hmid
    | cons c0 C' =>
      have hgl : (A ++ (b0 :: B') ++ (c0 :: C')).getLast hne = (c0 :: C').getLast (by simp) :=
        List.getLast_append_of_ne_nil _ (by simp)
      have hlast := hC ((c0 :: C').getLast (by simp)) (List.getLast_mem _)
      obtain ⟨D, bl, hD⟩ : ∃ D bl, b0 :: B' = D ++ [bl] :=
        ⟨(b0 :: B').dropLast, (b0 :: B').getLast (by simp),
          (List.dropLast_append_getLast (by simp)).symm⟩
      have hblD : (b0 :: B').getLast (by simp) = bl := by simp [hD]
      have hhor2 : g ((b0 :: B').getLast (by simp)) = g c0 := by
        rw [hblD]
        have e : A ++ (b0 :: B') ++ (c0 :: C') = (A ++ D) ++ bl :: c0 :: C' := by
          rw [hD]; simp
        rw [e] at hh
        apply horizStep_at f g (A ++ D) bl c0 C' hh
        rw [← hblD]
        exact lt_of_le_of_lt hbl.2 (hC c0 (by simp))
      have hleave := trapF_clip_leave f g lo hi hlh _ c0 C' hC hbl hhor2
      rw [hgl, clipQ_of_ge lo hi _ hlh hlast.le]
      congr 1
      -- both sides are `(f b0 - lo) * g b0 + trapF f g B + (hi - f bl) * g bl`
      linear_combination -hhead - hmid - hleave
  | nil =>
    cases C with
    | cons c0 C' =>
      have hgl : (A ++ [] ++ (c0 :: C')).getLast hne = (c0 :: C').getLast (by simp) :=
        List.getLast_append_of_ne_nil _ (by simp)
      have hlast := hC ((c0 :: C').getLast (by simp)) (List.getLast_mem _)
      cases A with
      | nil =>
        have hc0 := hC c0 (by simp)
        have hcut := aucWindow_cut f g lo hi [] [c0] C' 0 0 (by simpa using hL) (by simpa using hR)
          (Nat.zero_min _) rfl (by simp) (by simp)
        simp only [List.nil_append, List.cons_append, List.map_cons, List.map_nil, List.head_cons,
          List.getLast_singleton] at hcut hlast ⊢
        rw [hcut, clipQ_of_ge lo hi _ hlh hlast.le, clipQ_of_ge lo hi _ hlh hc0.le,
          trapF_clip_above f g lo hi hlh _ hC]
        congr 1
        simp only [trapezoid]
        ring
      | cons a A₀ =>
        have hAne : a :: A₀ ≠ [] := by simp
        obtain ⟨A', al, hAe⟩ : ∃ A' al, a :: A₀ = A' ++ [al] :=
          ⟨(a :: A₀).dropLast, (a :: A₀).getLast hAne, (List.dropLast_append_getLast hAne).symm⟩
        have hal : (a :: A₀).getLast hAne = al := by simp [hAe]
        have hhd : (a :: A₀ ++ [] ++ (c0 :: C')).head hne = a := by simp
        rw [aucWindow_cut f g lo hi (a :: A₀) [] (c0 :: C') _ _ hL hR
            (Nat.min_eq_left (by simp only [List.length_append, List.length_cons]; omega))
            (Nat.max_eq_left (by simp only [List.length_cons]; omega)) (by simp) (by simp), hgl,
          clipQ_of_ge lo hi _ hlh hlast.le, hhd, clipQ_of_le lo hi _ (hA a (by simp)).le]
        have e : a :: A₀ ++ [] ++ (c0 :: C') = A' ++ al :: c0 :: C' := by rw [hAe]; simp
        rw [e, trapF_clip_jump f g lo hi hlh A' al c0 C' (by rw [← hAe]; exact hA) hC]
        congr 1
        simp only [List.map_nil, List.nil_append, List.append_nil, List.cons_append, List.head_cons,
          hal, trapezoid]
        ring
    | nil =>
      have hAne : A ≠ [] := by simpa using hne
      obtain ⟨A', al, rfl⟩ : ∃ A' al, A = A' ++ [al] :=
        ⟨A.dropLast, A.getLast hAne, (List.dropLast_concat_getLast hAne).symm⟩
      have hcut := aucWindow_cut f g lo hi A' [al] [] (A'.length + 1) (A'.length + 1)
        (by simpa using hL) (by simpa using hR)
        (by simp) (Nat.max_eq_left (by omega)) (by simp) (by simp)
      have hal := hA al (by simp)
      have hah := hA ((A' ++ [al]).head hAne) (List.head_mem _)
      simp only [List.append_nil, List.map_cons, List.map_nil, List.head_cons,
        List.getLast_append_singleton] at hcut ⊢
      rw [hcut, clipQ_of_le lo hi _ hal.le, clipQ_of_le lo hi _ hah.le,
        trapF_clip_below f g lo hi _ hA]
      congr 1
      simp only [List.cons_append, List.nil_append, trapezoid]
      ring

end SA

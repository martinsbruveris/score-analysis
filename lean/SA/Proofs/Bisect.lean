/-
Binary search on a sorted list = counting, hence `cm` on sorted arrays is the count by the
decision rule: the keystone of C01 and of everything derived from confusion matrices.
Also the basic facts about `sortQ`.
-/
import SA.Model.Basic
import Mathlib.Tactic.Linarith
import Mathlib.Data.List.Sort

namespace SA

theorem pairwise_prefix {R : Rat → Rat → Prop} (l : List Rat) (hs : l.Pairwise R) (p : Rat → Bool)
    (hp : ∀ a b, R a b → p b = true → p a = true) :
    (∀ x ∈ l.take (l.countP p), p x = true) ∧ (∀ x ∈ l.drop (l.countP p), p x = false) := by
  induction l with
  | nil => simp
  | cons a l ih =>
    obtain ⟨ha, hs'⟩ := List.pairwise_cons.1 hs
    by_cases hat : p a = true
    · simp only [List.countP_cons, hat, if_true, List.take_succ_cons, List.drop_succ_cons,
        List.forall_mem_cons]
      exact ⟨⟨trivial, (ih hs').1⟩, (ih hs').2⟩
    · -- `p` fails at the head, hence everywhere
      have hnone : ∀ x ∈ l, p x = false := fun x hx =>
        Bool.eq_false_iff.2 fun hpx => hat (hp a x (ha x hx) hpx)
      have hc : l.countP p = 0 := List.countP_eq_zero.2 fun x hx => by simp [hnone x hx]
      simp only [List.countP_cons, hat, hc, Bool.false_eq_true, if_false, Nat.add_zero,
        List.take_zero, List.drop_zero, List.forall_mem_cons]
      exact ⟨by simp, trivial, hnone⟩

/-- On a sorted list a predicate that is downward closed along the order holds exactly on
a prefix, of length `countP p`. -/
theorem sorted_prefix (s : List Rat) (hs : s.Pairwise (· ≤ ·)) (p : Rat → Bool)
    (hp : ∀ a b, a ≤ b → p b = true → p a = true) :
    ∀ i (hi : i < s.length), p s[i] = true ↔ i < s.countP p := by
  intro i hi
  obtain ⟨h1, h2⟩ := pairwise_prefix s hs p hp
  refine ⟨fun h => ?_, fun h => h1 _ (List.mem_take_iff_getElem.2 ⟨i, by omega, rfl⟩)⟩
  by_contra hc
  have := h2 s[i] (List.mem_drop_iff_getElem.2 ⟨i - s.countP p, by omega, by congr 1; omega⟩)
  rw [h] at this; cases this

theorem getD_eq (s : List Rat) (i : Nat) (hi : i < s.length) : s.getD i 0 = s[i] := by
  simp [List.getD_eq_getElem?_getD, List.getElem?_eq_getElem hi]

theorem getD_mem (s : List Rat) (i : Nat) (hi : i < s.length) : s.getD i 0 ∈ s := by
  rw [getD_eq s i hi]; exact List.getElem_mem hi

/-- Invariant of the binary search, for a predicate that holds exactly on the prefix of
length `c`: a window `[lo, hi)` around `c` is narrowed down to `c`. -/
theorem bisectAux_eq (p : Rat → Bool) (a : List Rat) (c : Nat)
    (hpre : ∀ i, i < a.length → (p (a.getD i 0) = true ↔ i < c)) (lo hi : Nat)
    (hlo : lo ≤ c) (hhi : c ≤ hi) (hsz : hi ≤ a.length) : bisectAux p a lo hi = c := by
  fun_induction bisectAux p a lo hi with
  | case1 lo hi h mid hm ih =>
    exact ih (Nat.succ_le_of_lt ((hpre mid (by omega)).1 hm)) hhi hsz
  | case2 lo hi h mid hm ih =>
    exact ih hlo (Nat.le_of_not_lt fun hc => hm ((hpre mid (by omega)).2 hc)) (by omega)
  | case3 lo hi h => omega

theorem bisect_eq_countP (p : Rat → Bool) (a : List Rat) (hs : a.Pairwise (· ≤ ·))
    (hp : ∀ x y, x ≤ y → p y = true → p x = true) :
    bisect p a = a.countP p :=
  bisectAux_eq p a (a.countP p)
    (fun i hi => by rw [getD_eq a i hi]; exact sorted_prefix a hs p hp i hi) 0 a.length
    (Nat.zero_le _) List.countP_le_length (le_refl _)

theorem bisect_all_false (p : Rat → Bool) (a : List Rat) (h : ∀ v ∈ a, p v = false) :
    bisect p a = 0 :=
  bisectAux_eq p a 0 (fun i hi => by rw [h _ (getD_mem a i hi)]; simp) 0 a.length le_rfl
    (Nat.zero_le _) le_rfl

theorem bisect_all_true (p : Rat → Bool) (a : List Rat) (h : ∀ v ∈ a, p v = true) :
    bisect p a = a.length :=
  bisectAux_eq p a a.length (fun i hi => by rw [h _ (getD_mem a i hi)]; simp [hi]) 0 a.length
    (Nat.zero_le _) le_rfl le_rfl

theorem ltE_antitone (t : ERat) (x y : Rat) (h : x ≤ y) (hy : ltE y t = true) :
    ltE x t = true := by
  cases t with
  | negInf => simp [ltE] at hy
  | posInf => simp [ltE]
  | fin q =>
    simp only [ltE, decide_eq_true_eq] at *
    exact lt_of_le_of_lt h hy

theorem leE_antitone (t : ERat) (x y : Rat) (h : x ≤ y) (hy : leE y t = true) :
    leE x t = true := by
  cases t with
  | negInf => simp [leE] at hy
  | posInf => simp [leE]
  | fin q =>
    simp only [leE, decide_eq_true_eq] at *
    exact le_trans h hy

theorem searchsorted_left (a : List Rat) (hs : a.Pairwise (· ≤ ·)) (t : ERat) :
    searchsorted a t .left = a.countP (fun x => ltE x t) :=
  bisect_eq_countP _ a hs (ltE_antitone t)

theorem searchsorted_right (a : List Rat) (hs : a.Pairwise (· ≤ ·)) (t : ERat) :
    searchsorted a t .right = a.countP (fun x => leE x t) :=
  bisect_eq_countP _ a hs (leE_antitone t)

/-! ### Sorting -/

theorem sortQ_pairwise (l : List Rat) : (sortQ l).Pairwise (· ≤ ·) := by
  unfold sortQ
  have := List.pairwise_mergeSort (le := fun a b : Rat => decide (a ≤ b))
    (by intro a b c hab hbc; simp only [decide_eq_true_eq] at *; exact le_trans hab hbc)
    (by intro a b; simp only [Bool.or_eq_true, decide_eq_true_eq]; exact le_total a b) l
  simpa using this

theorem sortQ_perm (l : List Rat) : (sortQ l).Perm l := List.mergeSort_perm _ _

theorem sortQ_eq_of_perm (l l' : List Rat) (h : l.Perm l') : sortQ l = sortQ l' :=
  List.Perm.eq_of_pairwise' (r := (· ≤ ·)) (sortQ_pairwise l) (sortQ_pairwise l')
    ((sortQ_perm l).trans (h.trans (sortQ_perm l').symm))

theorem sortQ_eq_self (l : List Rat) (h : l.Pairwise (· ≤ ·)) : sortQ l = l :=
  List.Perm.eq_of_pairwise' (r := (· ≤ ·)) (sortQ_pairwise l) h (sortQ_perm l)

theorem countP_sortQ (p : Rat → Bool) (l : List Rat) : (sortQ l).countP p = l.countP p :=
  (sortQ_perm l).countP_eq p

theorem length_sortQ (l : List Rat) : (sortQ l).length = l.length := (sortQ_perm l).length_eq

theorem countP_not (p : Rat → Bool) (l : List Rat) :
    l.countP (fun x => !p x) = l.length - l.countP p := by
  have := List.length_eq_countP_add_countP p (l := l)
  have h2 : l.countP (fun a => decide ¬p a = true) = l.countP (fun x => !p x) := by
    congr 1; funext x; cases p x <;> simp
  omega

theorem countP_add_countP_not (p : Rat → Bool) (l : List Rat) :
    l.countP p + l.countP (fun x => !p x) = l.length := by
  rw [countP_not, Nat.add_sub_cancel' List.countP_le_length]

/-! ### the confusion matrix of an object that holds sorted arrays -/

/-- `cm` on sorted arrays is counting (all four configurations, thresholds incl. ±inf). -/
theorem cm_eq_countCM_of_sorted (s : Scores) (hp : s.pos.Pairwise (· ≤ ·))
    (hn : s.neg.Pairwise (· ≤ ·)) (t : ERat) :
    s.cm t = countCM s.pos s.neg s.easyPos s.easyNeg s.cfg t := by
  obtain ⟨pos, neg, ep, en, ⟨sc, ec⟩⟩ := s
  have hLp := searchsorted_left pos hp t
  have hRp := searchsorted_right pos hp t
  have hLn := searchsorted_left neg hn t
  have hRn := searchsorted_right neg hn t
  have h1 := countP_not (fun x => ltE x t) pos
  have h2 := countP_not (fun x => leE x t) pos
  have h3 := countP_not (fun x => ltE x t) neg
  have h4 := countP_not (fun x => leE x t) neg
  -- each configuration searches both arrays on one side (`cmSide`); the result counts `<` resp.
  -- `≤`, which the rule accepts (`score_class = neg`) or rejects
  cases sc <;> cases ec <;>
    simp only [Scores.cm, cmSide, countCM, accept, hLp, hRp, hLn, hRn, h1, h2, h3, h4,
      Bool.not_not]

theorem countCM_totals (pos neg : List Rat) (ep en : Nat) (cfg : Cfg) (t : ERat) :
    (countCM pos neg ep en cfg t).p = pos.length + ep ∧
      (countCM pos neg ep en cfg t).n = neg.length + en :=
  ⟨by rw [CM.p, countCM, Nat.add_right_comm, countP_add_countP_not],
    by rw [CM.n, countCM, ← Nat.add_assoc, countP_add_countP_not]⟩

theorem cm_totals_sorted (s : Scores) (hp : s.pos.Pairwise (· ≤ ·)) (hn : s.neg.Pairwise (· ≤ ·))
    (t : ERat) :
    (s.cm t).p = s.pos.length + s.easyPos ∧ (s.cm t).n = s.neg.length + s.easyNeg := by
  rw [cm_eq_countCM_of_sorted s hp hn]; exact countCM_totals _ _ _ _ _ _

theorem countCM_congr (pos neg : List Rat) (ep en : Nat) (cfg cfg' : Cfg) (t t' : ERat)
    (h : ∀ x ∈ pos ++ neg, accept cfg x t = accept cfg' x t') :
    countCM pos neg ep en cfg t = countCM pos neg ep en cfg' t' := by
  have e : ∀ l : List Rat, (∀ x ∈ l, x ∈ pos ++ neg) →
      l.countP (fun x => accept cfg x t) = l.countP (fun x => accept cfg' x t') ∧
      l.countP (fun x => !accept cfg x t) = l.countP (fun x => !accept cfg' x t') := fun l hl =>
    ⟨List.countP_congr fun x hx => by rw [h x (hl x hx)],
      List.countP_congr fun x hx => by rw [h x (hl x hx)]⟩
  have ep := e pos fun _ => List.mem_append_left _
  have en := e neg fun _ => List.mem_append_right _
  unfold countCM
  rw [ep.1, ep.2, en.1, en.2]

/-! ### increasing affine maps -/

theorem affine_lt_iff {a : Rat} (ha : 0 < a) (b x y : Rat) : a * x + b < a * y + b ↔ x < y := by
  rw [add_lt_add_iff_right, mul_lt_mul_iff_right₀ ha]

theorem affine_le_iff {a : Rat} (ha : 0 < a) (b x y : Rat) : a * x + b ≤ a * y + b ↔ x ≤ y := by
  rw [add_le_add_iff_right, mul_le_mul_iff_right₀ ha]

theorem affine_inj {a : Rat} (ha : 0 < a) (b x y : Rat) : a * x + b = a * y + b ↔ x = y := by
  rw [add_left_inj, mul_right_inj' ha.ne']

theorem sortQ_map_affine (l : List Rat) (c d : Rat) (hc : 0 < c) :
    sortQ (l.map fun x => c * x + d) = (sortQ l).map fun x => c * x + d :=
  List.Perm.eq_of_pairwise' (r := (· ≤ ·)) (sortQ_pairwise _)
    (List.pairwise_map.2 ((sortQ_pairwise l).imp (affine_le_iff hc d _ _).2))
    ((sortQ_perm _).trans ((sortQ_perm l).symm.map _))

theorem getD_map_affine (v : List Rat) (c d : Rat) (i : Nat) (hi : i < v.length) :
    (v.map fun x => c * x + d).getD i 0 = c * v.getD i 0 + d := by
  rw [getD_eq _ i (by simpa using hi), getD_eq v i hi]; simp

end SA

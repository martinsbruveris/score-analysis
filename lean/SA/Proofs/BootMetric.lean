/-
Helper lemmas for C14: every linear quantile of a constant list is that constant; columns of the
replicate matrix; reflexivity of the spec predicates.
-/
import SA.Proofs.Quantile
import SA.Model.BootMetric
import SA.Spec.C14

namespace SA
open Spec.C13 Spec.C14

/-- **the real content of the identity clause**: a non-empty list all of whose entries are the
finite value `c` has `c` as its quantile at EVERY level (inside or outside `[0,1]`). -/
theorem c14_quantile_const_of_mem (l : List (Option ℚ)) (c : ℚ) (hne : l ≠ [])
    (hc : ∀ x ∈ l, x = some c) (q : ℚ) : quantileLinear l q = some c := by
  rw [quantileLinear_eq, c14_filterMap_const l c hc]
  have hlen : (sortQ (List.replicate l.length c)).length ≠ 0 := by
    rw [length_sortQ, List.length_replicate]
    intro h; exact hne (List.eq_nil_of_length_eq_zero h)
  rw [if_neg hlen]
  congr 1
  apply c14_qcore_const _ c hlen
  intro x hx
  have hx' : x ∈ List.replicate l.length c := (sortQ_perm _).mem_iff.mp hx
  exact (List.mem_replicate.mp hx').2

/-- the C13 formula on a constant column: both limits are the constant, for every method, every
estimate, every alpha and ANY oracles -/
theorem c14_bootstrapCI_const (nrm : Normal) (p15 : ℚ → ℚ) (m : BootMethod) (l : List (Option ℚ))
    (c th al : ℚ) (hne : l ≠ []) (hc : ∀ x ∈ l, x = some c) :
    bootstrapCI nrm p15 m l th al = (some c, some c) := by
  obtain ⟨q1, q2, h⟩ := bootstrapCI_eq_quantiles nrm p15 m l th al
  rw [h, c14_quantile_const_of_mem l c hne hc, c14_quantile_const_of_mem l c hne hc]

theorem c14_column_eq {σ : Type} (sampler : ℕ → σ) (metric : σ → List (Option ℚ)) (nb k : ℕ) :
    column (bootstrapMetric sampler metric nb) k =
      (List.range nb).map fun j => (metric (sampler j)).getD k none := by
  simp [column, bootstrapMetric, List.map_map, Function.comp_def]

theorem c14_column_identity {σ : Type} (sampler : ℕ → σ) (metric : σ → List (Option ℚ))
    (original : σ) (nb k : ℕ) (hid : ∀ j, j < nb → sampler j = original) :
    ∀ x ∈ column (bootstrapMetric sampler metric nb) k, x = (metric original).getD k none := by
  rw [c14_column_eq]
  intro x hx
  obtain ⟨j, hj, rfl⟩ := List.mem_map.mp hx
  rw [hid j (List.mem_range.mp hj)]

theorem c14_column_ne_nil {σ : Type} (sampler : ℕ → σ) (metric : σ → List (Option ℚ))
    (nb k : ℕ) (hnb : 1 ≤ nb) : column (bootstrapMetric sampler metric nb) k ≠ [] := by
  intro h
  have hl := congrArg List.length h
  simp [column, bootstrapMetric] at hl
  omega

theorem c14_rowOK_refl (r : List (Option ℚ)) : rowOK 0 r r = true := by
  induction r with
  | nil => rfl
  | cons a r ih => simp [rowOK, nearO_self, ih]

theorem c14_rowsOK_refl (rows : List (List (Option ℚ))) : rowsOK 0 rows rows = true := by
  induction rows with
  | nil => rfl
  | cons a r ih => simp [rowsOK, c14_rowOK_refl, ih]

theorem c14_identityOK_diag (es : List (Option ℚ)) :
    identityOK 0 es (es.map fun e => (e, e)) = true := by
  induction es with
  | nil => rfl
  | cons a r ih => simp [identityOK, nearO_self, ih]

end SA

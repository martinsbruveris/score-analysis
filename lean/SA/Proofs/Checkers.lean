/-
Shared by the checkers of the regenerated definitions: what an index returned by `firstIdx` means (the
function is defined twice, in `SA/Model/CmDefs.lean` and `SA/Model/MetricExpr.lean`), what `Val.differs` says.
-/
import SA.Model.MetricExpr
import SA.Model.CmDefs

namespace SA.CmDefs

theorem firstIdx_sound {α : Type} (p : α → Bool)
    : ∀ (l : List α) (k i : Nat), firstIdx p l k = some i →
    ∃ x, l[i - k]? = some x ∧ p x = true ∧ k ≤ i := by
  intro l k i h
  fun_induction firstIdx p l k with
  | case1 => cases h
  | case2 x xs k hp =>
    cases h
    exact ⟨x, by rw [Nat.sub_self, List.getElem?_cons_zero], hp, Nat.le_refl _⟩
  | case3 x xs k hp ih =>
    obtain ⟨y, hy, hpy, hk⟩ := ih h
    refine ⟨y, ?_, hpy, Nat.le_of_succ_le hk⟩
    rw [show i - k = (i - (k + 1)) + 1 by omega, List.getElem?_cons_succ]; exact hy

theorem firstIdx_zero_sound {α : Type} {p : α → Bool} {l : List α} {i : Nat}
    (h : firstIdx p l 0 = some i) :
    ∃ x, l[i]? = some x ∧ p x = true :=
  let ⟨x, hx, hp, _⟩ := firstIdx_sound p l 0 i h
  ⟨x, hx, hp⟩

end SA.CmDefs

theorem SA.MetricExpr.firstIdx_eq {α : Type} (p : α → Bool) (l : List α) (k : Nat) :
    SA.MetricExpr.firstIdx p l k = SA.CmDefs.firstIdx p l k := by
  induction l generalizing k with
  | nil => rfl
  | cons x xs ih => rw [SA.MetricExpr.firstIdx, SA.CmDefs.firstIdx, ih]

theorem SA.MetricExpr.Val.differs_iff {a b : SA.MetricExpr.Val}
    : a.differs b = true ↔ a ≠ .bad ∧ b ≠ .bad ∧ a ≠ b := by
  have hb : ∀ v : SA.MetricExpr.Val, v.isBad = false ↔ v ≠ .bad := fun v => by cases v <;> simp [SA.MetricExpr.Val.isBad]
  simp only [SA.MetricExpr.Val.differs, Bool.and_eq_true, Bool.not_eq_true', decide_eq_true_eq, hb,
    and_assoc]

/-
Coherence of the three interpolation methods and monotonicity in the target, in the
normalised problem (`_invert_increasing_function` on a sorted list).
-/
import SA.Proofs.Invert

namespace SA

theorem raw_mem (s : List ℚ) (hne : s.length ≠ 0) (x : ℚ) :
    rawThr s x .lower ∈ s ∧ rawThr s x .higher ∈ s :=
  ⟨getD_mem s _ (clampIdx_lt _ _ hne), getD_mem s _ (clampIdx_lt _ _ hne)⟩

theorem raw_bounds (s : List ℚ) (hs : s.Pairwise (· ≤ ·)) (hne : s.length ≠ 0) (x : ℚ)
    (m : Method) :
    s.getD 0 0 ≤ rawThr s x m ∧ rawThr s x m ≤ s.getD (s.length - 1) 0 := by
  obtain ⟨ml, mh⟩ := raw_mem s hne x
  obtain ⟨o1, o2⟩ := raw_order s hs hne x
  have b1 := head_le_of_sorted s hs _ ml
  have b2 := le_last_of_sorted s hs _ mh
  cases m
  · exact ⟨le_trans b1 o1, le_trans o2 b2⟩
  · exact ⟨b1, le_last_of_sorted s hs _ ml⟩
  · exact ⟨head_le_of_sorted s hs _ mh, b2⟩

/-- **lower ≤ linear ≤ higher** for `_invert_increasing_function`, all targets. -/
theorem invert_order (u : Ulp) (s : List ℚ) (hs : s.Pairwise (· ≤ ·)) (hne : s.length ≠ 0)
    (r : ℚ) (lc : Bool) :
    invertIncreasing u s r lc .lower ≤ invertIncreasing u s r lc .linear ∧
    invertIncreasing u s r lc .linear ≤ invertIncreasing u s r lc .higher := by
  rcases invertIncreasing_cases u s r lc with ⟨_, e⟩ | ⟨_, _, e⟩ | ⟨_, _, e⟩ <;> simp only [e]
  · exact ⟨le_refl _, le_refl _⟩
  · exact ⟨le_refl _, le_refl _⟩
  · exact raw_order s hs hne _

theorem invert_member (u : Ulp) (s : List ℚ) (hne : s.length ≠ 0) (r : ℚ) (lc : Bool)
    (m : Method) (hm : m ≠ .linear) :
    invertIncreasing u s r lc m ∈ s ∨ invertIncreasing u s r lc m = u.down (s.getD 0 0) ∨
      invertIncreasing u s r lc m = u.up (s.getD (s.length - 1) 0) := by
  rcases invertIncreasing_cases u s r lc with ⟨_, e⟩ | ⟨_, _, e⟩ | ⟨_, _, e⟩ <;> rw [e]
  · exact Or.inr (Or.inr rfl)
  · exact Or.inr (Or.inl rfl)
  · left
    cases m
    · exact absurd rfl hm
    · exact (raw_mem s hne _).1
    · exact (raw_mem s hne _).2

/-- `linear` is the convex combination of `lower` and `higher` with weight `⌈x⌉ - x`,
for interior targets. -/
theorem invert_convex (u : Ulp) (s : List ℚ) (r : ℚ) (lc : Bool)
    (h1 : ¬ 1 ≤ r) (h0 : ¬ (if lc then r else r - 1 / (s.length : ℚ)) ≤ 0) :
    invertIncreasing u s r lc .linear =
      (((ceilQ (indexTarget s r lc) : ℤ) : ℚ) - indexTarget s r lc) *
          invertIncreasing u s r lc .lower +
      (1 - (((ceilQ (indexTarget s r lc) : ℤ) : ℚ) - indexTarget s r lc)) *
        invertIncreasing u s r lc .higher := by
  simp only [invertIncreasing_eq, h1, h0, if_false]
  rfl

/-! ### monotonicity in the target -/

theorem raw_mono (s : List ℚ) (hs : s.Pairwise (· ≤ ·)) (hne : s.length ≠ 0) (m : Method)
    (x y : ℚ) (hxy : x ≤ y) : rawThr s x m ≤ rawThr s y m := by
  have hfl : x.floor ≤ y.floor := Int.floor_le_floor hxy
  have hce : ceilQ x ≤ ceilQ y := by rw [ceilQ_eq, ceilQ_eq]; exact Int.ceil_le_ceil hxy
  have hidx : ∀ i j : ℤ, i ≤ j → s.getD (clampIdx i s.length) 0 ≤ s.getD (clampIdx j s.length) 0 :=
    fun i j hij => getD_mono s hs _ _ (clampIdx_mono _ _ _ hij) (clampIdx_lt _ _ hne)
  cases m
  · rcases le_or_gt (ceilQ x) y.floor with hcf | hcf
    · -- a grid point lies between: interp x ≤ s[⌈x⌉] ≤ s[⌊y⌋] ≤ interp y
      exact (raw_order s hs hne x).2.trans ((hidx _ _ hcf).trans (raw_order s hs hne y).1)
    · -- same cell: the same two neighbours, and the weight of the lower one decreases
      have hcx : ceilQ x ≤ x.floor + 1 := by rw [ceilQ_eq]; exact Int.ceil_le_floor_add_one x
      have hcy : ceilQ y ≤ y.floor + 1 := by rw [ceilQ_eq]; exact Int.ceil_le_floor_add_one y
      have e1 : y.floor = x.floor := by omega
      have e2 : ceilQ y = ceilQ x := by omega
      have hd := hidx _ _ (floor_le_ceilQ x)
      simp only [rawThr, interp, e1, e2]
      linarith [mul_le_mul_of_nonneg_right hxy (sub_nonneg.2 hd)]
  · exact hidx _ _ hfl
  · exact hidx _ _ hce

/-- **Monotone in the target** (normalised problem, every method). -/
theorem invert_mono (u : Ulp) (hu : u.Lawful) (s : List ℚ) (hs : s.Pairwise (· ≤ ·))
    (hne : s.length ≠ 0) (lc : Bool) (m : Method) (r1 r2 : ℚ) (h : r1 ≤ r2) :
    invertIncreasing u s r1 lc m ≤ invertIncreasing u s r2 lc m := by
  have hN : (0 : ℚ) < (s.length : ℚ) := by exact_mod_cast Nat.pos_of_ne_zero hne
  have hup : ∀ x, rawThr s x m ≤ u.up (s.getD (s.length - 1) 0) := fun x =>
    le_trans (raw_bounds s hs hne x m).2 (le_of_lt (hu.lt_up _))
  have hdn : ∀ x, u.down (s.getD 0 0) ≤ rawThr s x m := fun x =>
    le_trans (le_of_lt (hu.down_lt _)) (raw_bounds s hs hne x m).1
  have hsh : (if lc then r1 else r1 - 1 / (s.length : ℚ)) ≤
      (if lc then r2 else r2 - 1 / (s.length : ℚ)) := by
    cases lc <;> simp only [Bool.false_eq_true, if_false, if_true]
    · exact sub_le_sub_right h _
    · exact h
  -- in the order down, raw, up the case of `r1` is at or before the case of `r2`;
  -- `rw` closes the two cases where both are the same sentinel
  rcases invertIncreasing_cases u s r1 lc with ⟨a1, e1⟩ | ⟨a1, b1, e1⟩ | ⟨a1, b1, e1⟩ <;>
    rcases invertIncreasing_cases u s r2 lc with ⟨a2, e2⟩ | ⟨a2, b2, e2⟩ | ⟨a2, b2, e2⟩ <;>
    rw [e1, e2]
  · exact absurd (a1.trans h) a2  -- (up, down)
  · exact absurd (a1.trans h) a2  -- (up, raw)
  · exact (hdn 0).trans (hup 0)   -- (down, up): any raw value lies between the sentinels
  · exact hdn _                   -- (down, raw)
  · exact hup _                   -- (raw, up)
  · exact absurd (hsh.trans b2) b1  -- (raw, down)
  · exact raw_mono s hs hne m _ _ (mul_le_mul_of_nonneg_right hsh hN.le)

end SA

/-
Confusion-matrix counts expressed through `cntLt` / `cntLe` of the array a metric's
threshold is set on.
-/
import SA.Proofs.Rescale

namespace SA
open Spec

/-- the count `searchsorted` returns in `cm` for this configuration -/
def belowCount (cfg : Cfg) (a : List ℚ) (t : ℚ) : ℕ :=
  match cmSide cfg with
  | .left => cntLt a t
  | .right => cntLe a t

theorem belowCount_le_length (cfg : Cfg) (a : List ℚ) (t : ℚ) : belowCount cfg a t ≤ a.length := by
  unfold belowCount; split <;> exact List.countP_le_length

theorem belowCount_perm (cfg : Cfg) (a b : List ℚ) (h : a.Perm b) (t : ℚ) :
    belowCount cfg a t = belowCount cfg b t := by
  unfold belowCount cntLt cntLe; split <;> exact h.countP_eq _

theorem belowCount_append (cfg : Cfg) (a b : List ℚ) (t : ℚ) :
    belowCount cfg (a ++ b) t = belowCount cfg a t + belowCount cfg b t := by
  unfold belowCount cntLt cntLe; split <;> exact List.countP_append

theorem belowCount_concat (s : Scores) (t : ℚ) :
    belowCount s.cfg s.concat t = belowCount s.cfg s.neg t + belowCount s.cfg s.pos t := by
  unfold Scores.concat
  rw [belowCount_perm _ _ _ (sortQ_perm _), belowCount_append]

theorem cntLt_le_belowCount (cfg : Cfg) (a : List ℚ) (t : ℚ) : cntLt a t ≤ belowCount cfg a t := by
  unfold belowCount; split
  · exact le_refl _
  · exact cntLt_le_cntLe a t

theorem belowCount_le_cntLe (cfg : Cfg) (a : List ℚ) (t : ℚ) : belowCount cfg a t ≤ cntLe a t := by
  unfold belowCount; split
  · exact cntLt_le_cntLe a t
  · exact le_refl _

theorem belowCount_mono (cfg : Cfg) (a : List ℚ) (t t' : ℚ) (h : t ≤ t') :
    belowCount cfg a t ≤ belowCount cfg a t' := by
  unfold belowCount; split
  · exact cntLt_mono a t t' h
  · exact cntLe_mono a t t' h

theorem belowCount_of_all_gt (cfg : Cfg) (a : List ℚ) (t : ℚ) (h : ∀ x ∈ a, t < x) :
    belowCount cfg a t = 0 := by
  unfold belowCount; split
  · exact (cnt_of_all_gt a t h).1
  · exact (cnt_of_all_gt a t h).2

theorem belowCount_of_all_lt (cfg : Cfg) (a : List ℚ) (t : ℚ) (h : ∀ x ∈ a, x < t) :
    belowCount cfg a t = a.length := by
  unfold belowCount; split
  · exact (cnt_of_all_lt a t h).1
  · exact (cnt_of_all_lt a t h).2

theorem countP_accept_eq (cfg : Cfg) (l : List ℚ) (t : ℚ) :
    l.countP (fun x => accept cfg x (.fin t)) =
      if cfg.scoreClass = .pos then l.length - belowCount cfg l t else belowCount cfg l t := by
  obtain ⟨sc, ec⟩ := cfg
  have h1 := countP_not (fun x => decide (x < t)) l
  have h2 := countP_not (fun x => decide (x ≤ t)) l
  cases sc <;> cases ec <;>
    simp only [accept, ltE, leE, belowCount, cmSide, cntLt, cntLe, reduceCtorEq, if_true,
      if_false, h1, h2]

theorem countP_accept_of_all_gt (cfg : Cfg) (l : List ℚ) (t : ℚ) (h : ∀ x ∈ l, t < x) :
    l.countP (fun x => accept cfg x (.fin t)) = if cfg.scoreClass = .pos then l.length else 0 := by
  rw [countP_accept_eq, belowCount_of_all_gt cfg l t h, Nat.sub_zero]

theorem countP_accept_of_all_lt (cfg : Cfg) (l : List ℚ) (t : ℚ) (h : ∀ x ∈ l, x < t) :
    l.countP (fun x => accept cfg x (.fin t)) = if cfg.scoreClass = .pos then 0 else l.length := by
  rw [countP_accept_eq, belowCount_of_all_lt cfg l t h, Nat.sub_self]

theorem countP_reject_eq (cfg : Cfg) (l : List ℚ) (t : ℚ) :
    l.countP (fun x => !accept cfg x (.fin t)) =
      if cfg.scoreClass = .pos then belowCount cfg l t else l.length - belowCount cfg l t := by
  rw [countP_not, countP_accept_eq]
  have := belowCount_le_length cfg l t
  split <;> omega

/-- an increasing metric counts the rejected samples, a decreasing one the accepted ones; which
of the two lie below the threshold depends on `score_class` -/
theorem countP_flip (cfg : Cfg) (l : List ℚ) (t : ℚ) (inc : Bool) :
    (if inc then l.countP (fun x => !accept cfg x (.fin t))
      else l.countP (fun x => accept cfg x (.fin t))) =
      if evenFlips cfg inc then belowCount cfg l t else l.length - belowCount cfg l t := by
  rw [countP_accept_eq, countP_reject_eq]
  obtain ⟨sc, ec⟩ := cfg
  cases inc <;> cases sc <;> rfl

/-- **Counts lemma, for counting by the decision rule** (no sortedness needed). -/
theorem rateNum_countCM (s : Scores) (metric : Metric) (t : ℚ) :
    (countCM s.pos s.neg s.easyPos s.easyNeg s.cfg (.fin t)).rateNum metric = minNum s metric +
      (if evenFlips s.cfg metric.increasing
       then belowCount s.cfg (s.metricArray metric) t
       else (s.metricArray metric).length - belowCount s.cfg (s.metricArray metric) t) := by
  rw [← countP_flip]
  cases metric
  · exact Nat.add_comm _ _
  · exact (Nat.zero_add _).symm
  · exact Nat.add_comm _ _
  · exact (Nat.zero_add _).symm
  all_goals
    simp only [CM.rateNum, CM.top, CM.ton, countCM, minNum, Scores.metricArray, Scores.concat,
      countP_sortQ, List.countP_append, Metric.increasing, Bool.false_eq_true, if_false, if_true]
    omega

/-- **Counts lemma.** On sorted arrays the numerator of each rate at threshold `t` is its
lowest achievable value plus the number of relevant scored samples below (resp. not below) `t`. -/
theorem rateNum_eq (s : Scores) (hp : s.pos.Pairwise (· ≤ ·)) (hn : s.neg.Pairwise (· ≤ ·))
    (metric : Metric) (t : ℚ) :
    (s.cm (.fin t)).rateNum metric = minNum s metric +
      (if evenFlips s.cfg metric.increasing
       then belowCount s.cfg (s.metricArray metric) t
       else (s.metricArray metric).length - belowCount s.cfg (s.metricArray metric) t) := by
  rw [cm_eq_countCM_of_sorted s hp hn]; exact rateNum_countCM s metric t

theorem rateNum_eq_cast (s : Scores) (hp : s.pos.Pairwise (· ≤ ·)) (hn : s.neg.Pairwise (· ≤ ·))
    (metric : Metric) (t : ℚ) :
    ((s.cm (.fin t)).rateNum metric : ℚ) = (minNum s metric : ℚ) +
      (if evenFlips s.cfg metric.increasing
       then (belowCount s.cfg (s.metricArray metric) t : ℚ)
       else ((s.metricArray metric).length : ℚ) -
           (belowCount s.cfg (s.metricArray metric) t : ℚ)) := by
  rw [rateNum_eq s hp hn]
  split_ifs
  · exact Nat.cast_add _ _
  · rw [Nat.cast_add, Nat.cast_sub (belowCount_le_length _ _ _)]

theorem clipped_mul_denom (s : Scores) (metric : Metric) (r : ℚ)
    (hne : (s.metricArray metric).length ≠ 0) :
    clipped s metric r * (denom s metric : ℚ) = (minNum s metric : ℚ) +
      (if evenFlips s.cfg metric.increasing
       then clip01 (normTarget s metric r) * ((s.metricArray metric).length : ℚ)
       else ((s.metricArray metric).length : ℚ) -
         clip01 (normTarget s metric r) * ((s.metricArray metric).length : ℚ)) := by
  rw [rescale_spec s metric r hne, normTarget]
  split_ifs
  · rfl
  · rw [clip01_one_sub]; ring

end SA

/-
Easy samples versus materialised extreme scores, in the normalised problem
(`_invert_increasing_function` on a sorted list `arr` and on `L ++ arr ++ R`).
-/
import SA.Proofs.Coherence
import SA.Proofs.Rescale

namespace SA
open Spec

/-! ### stage 1: the raw branches on a list with extra blocks below and above -/

theorem c09_getD_block (L arr R : List ℚ) (i : ℕ) (hi : i < arr.length) :
    (L ++ arr ++ R).getD (L.length + i) 0 = arr.getD i 0 := by
  rw [getD_eq arr i hi, getD_eq _ _ (by simp only [List.length_append]; omega),
    List.getElem_append_left (by simp only [List.length_append]; omega),
    List.getElem_append_right (by omega)]
  simp only [Nat.add_sub_cancel_left]

theorem c09_getD_clamp_block (L arr R : List ℚ) (k : ℤ) (h0 : 0 ≤ k) (hk : k < arr.length) :
    (L ++ arr ++ R).getD (clampIdx (k + L.length) (L ++ arr ++ R).length) 0 =
      arr.getD (clampIdx k arr.length) 0 := by
  obtain ⟨i, rfl⟩ := Int.eq_ofNat_of_zero_le h0
  have hi : i < arr.length := Int.ofNat_lt.mp hk
  have e : (i : ℤ) + L.length = ((L.length + i : ℕ) : ℤ) := by push_cast; ring
  rw [e, clampIdx_natCast _ _ (by simp only [List.length_append]; omega), clampIdx_natCast _ _ hi,
    c09_getD_block L arr R i hi]

/-- **Index shift**, every method. At `x + |L|` the list `L ++ arr ++ R` gives what `arr` gives
at `x`, as long as both neighbours of `x` are indices of `arr`. -/
theorem c09_rawThr_shift (L arr R : List ℚ) (x : ℚ) (hx0 : 0 ≤ x)
    (hxn : x ≤ (arr.length : ℚ) - 1) (m : Method) :
    rawThr (L ++ arr ++ R) (x + (L.length : ℚ)) m = rawThr arr x m := by
  have hfl : (x + (L.length : ℚ)).floor = x.floor + L.length := Int.floor_add_natCast x _
  have hce : ceilQ (x + (L.length : ℚ)) = ceilQ x + L.length := by
    rw [ceilQ_eq, ceilQ_eq, Int.ceil_add_natCast]
  have h1 : 0 ≤ x.floor := Int.floor_nonneg.mpr hx0
  have h2 : ceilQ x < arr.length := by
    have : ⌈x⌉ ≤ (arr.length : ℤ) - 1 := Int.ceil_le.mpr (by push_cast; exact hxn)
    rw [ceilQ_eq]; omega
  have h3 := floor_le_ceilQ x
  cases m <;>
    simp only [rawThr, interp, hfl, hce, c09_getD_clamp_block L arr R _ h1 (by omega),
      c09_getD_clamp_block L arr R _ (by omega) h2]
  push_cast; ring

theorem c09_interp_shift (L arr R : List ℚ) (x : ℚ) (hx0 : 0 ≤ x)
    (hxn : x ≤ (arr.length : ℚ) - 1) :
    interp (L ++ arr ++ R) (x + (L.length : ℚ)) = interp arr x :=
  c09_rawThr_shift L arr R x hx0 hxn .linear

/-! ### stage 2: sorting a list that has extreme blocks -/

theorem c09_sort_block (l L M R : List ℚ) (hperm : l.Perm (L ++ M ++ R))
    (hL : L.Pairwise (· ≤ ·)) (hR : R.Pairwise (· ≤ ·))
    (hLM : ∀ a ∈ L, ∀ b ∈ M, a ≤ b) (hMR : ∀ a ∈ M, ∀ b ∈ R, a ≤ b)
    (hLR : ∀ a ∈ L, ∀ b ∈ R, a ≤ b) :
    sortQ l = L ++ sortQ M ++ R := by
  apply List.Perm.eq_of_pairwise' (r := (· ≤ ·)) (sortQ_pairwise l)
  · rw [List.pairwise_append, List.pairwise_append]
    refine ⟨⟨hL, sortQ_pairwise M, ?_⟩, hR, ?_⟩
    · intro a ha b hb
      exact hLM a ha b ((sortQ_perm M).mem_iff.mp hb)
    · intro a ha b hb
      rcases List.mem_append.mp ha with ha | ha
      · exact hLR a ha b hb
      · exact hMR a ((sortQ_perm M).mem_iff.mp ha) b hb
  · refine (sortQ_perm l).trans (hperm.trans ?_)
    exact ((List.Perm.refl L).append (sortQ_perm M).symm).append (List.Perm.refl R)

theorem c09_sort_rep (l M : List ℚ) (b c : ℕ) (lo hi : ℚ)
    (hperm : l.Perm (List.replicate b lo ++ M ++ List.replicate c hi))
    (hlo : ∀ x ∈ M, lo ≤ x) (hhi : ∀ x ∈ M, x ≤ hi) (hlh : lo ≤ hi) :
    sortQ l = List.replicate b lo ++ sortQ M ++ List.replicate c hi := by
  apply c09_sort_block l _ M _ hperm
  · rw [List.pairwise_replicate]; right; exact le_refl _
  · rw [List.pairwise_replicate]; right; exact le_refl _
  · intro a ha x hx; rw [List.eq_of_mem_replicate ha]; exact hlo x hx
  · intro x hx a ha; rw [List.eq_of_mem_replicate ha]; exact hhi x hx
  · intro a ha x hx; rw [List.eq_of_mem_replicate ha, List.eq_of_mem_replicate hx]; exact hlh

/-! ### clipping arithmetic -/

theorem c09_clip01_eq (r : ℚ) : clip01 r = clipQ r 0 1 := rfl

theorem c09_clipQ_id (y n : ℚ) (h0 : 0 ≤ y) (hn : y ≤ n) : clipQ y 0 n = y := by
  unfold clipQ; rw [min_eq_left hn, max_eq_right h0]

theorem c09_clipQ_le (y n v : ℚ) (h : clipQ y 0 n = v) (hv : v < n) : y ≤ v := by
  subst h
  have hy : y < n := by
    rcases min_lt_iff.mp (lt_of_le_of_lt (le_max_right 0 (min y n)) hv) with h | h
    · exact h
    · exact absurd h (lt_irrefl _)
  calc y = min y n := (min_eq_left hy.le).symm
    _ ≤ max 0 (min y n) := le_max_right _ _

theorem c09_clipQ_ge (y n v : ℚ) (h : clipQ y 0 n = v) (hv : 0 < v) : v ≤ y := by
  subst h
  rcases lt_max_iff.mp hv with h | h
  · exact absurd h (lt_irrefl _)
  · exact le_trans (max_eq_right h.le).le (min_le_left _ _)

theorem c09_clipQ_inj (y z n : ℚ) (h : clipQ y 0 n = clipQ z 0 n) (h0 : 0 < z) (hn : z < n) :
    y = z := by
  rw [c09_clipQ_id z n h0.le hn.le] at h
  exact le_antisymm (c09_clipQ_le y n z h hn) (c09_clipQ_ge y n z h h0)

theorem c09_clipQ_clipQ (y a b c d : ℚ) (hac : a ≤ c) (hdb : d ≤ b) :
    clipQ (clipQ y a b) c d = clipQ y c d := by
  unfold clipQ
  rw [min_max_distrib_right, min_assoc, min_eq_right hdb, ← max_assoc,
    max_eq_left (le_trans (min_le_left a d) hac)]

theorem c09_clipQ_reflect (x n : ℚ) (hn : 0 ≤ n) : clipQ (n - x) 0 n = n - clipQ x 0 n := by
  unfold clipQ
  rcases le_total x 0 with h0 | h0
  · rw [min_eq_right (by linarith), min_eq_left (by linarith), max_eq_right hn, max_eq_left h0,
      sub_zero]
  · rcases le_total x n with h1 | h1
    · rw [min_eq_left (by linarith), min_eq_left h1, max_eq_right h0, max_eq_right (by linarith)]
    · rw [min_eq_left (by linarith), min_eq_right h1, max_eq_left (by linarith), max_eq_right hn,
        sub_self]

/-- a position inside a sub-range `[m, m + n]` of `[0, D]`, counted from `m`: clipping to the
whole range first changes nothing (the case of an even number of flips in `c09_target_rel`;
the next lemma is that of an odd number) -/
theorem c09_clip_even (y mn n D : ℚ) (h0 : 0 ≤ mn) (hD : mn + n ≤ D) :
    clipQ (clipQ y 0 D - mn) 0 n = clipQ y mn (mn + n) - mn := by
  rw [← c09_clipQ_clipQ y 0 D mn (mn + n) h0 hD, clipQ_shift (clipQ y 0 D)]; ring

/-- the same counted downwards from `D`: the sub-range is `[D - n - m, D - m]` -/
theorem c09_clip_odd (y mn n D : ℚ) (h0 : 0 ≤ mn) (hn : 0 ≤ n) (hD : mn + n ≤ D) :
    clipQ ((D - clipQ y 0 D) - (D - n - mn)) 0 n = n - (clipQ y mn (mn + n) - mn) := by
  rw [← c09_clip_even y mn n D h0 hD, ← c09_clipQ_reflect _ n hn]; congr 1; ring

/-! ### stage 3: the normalised problem -/

theorem c09_invert_ge (u : Ulp) (hu : u.Lawful) (s : List ℚ) (hs : s.Pairwise (· ≤ ·))
    (ρ : ℚ) (lc : Bool) (m : Method) (j : ℕ) (hj : j < s.length) (hj0 : 0 < j)
    (hx : (j : ℚ) ≤ indexTarget s ρ lc) :
    s.getD j 0 ≤ invertIncreasing u s ρ lc m := by
  have hne : s.length ≠ 0 := Nat.ne_zero_of_lt hj
  rw [invertIncreasing_index u s hne]
  split_ifs with h1 h0
  · exact le_trans (le_last_of_sorted s hs _ (getD_mem s j hj)) (hu.lt_up _).le
  · exact absurd (lt_of_lt_of_le (Nat.cast_pos.mpr hj0) hx) (not_lt.mpr h0)
  · rw [← rawThr_natCast s j hj m]
    exact raw_mono s hs hne m _ _ hx

theorem c09_invert_le (u : Ulp) (hu : u.Lawful) (s : List ℚ) (hs : s.Pairwise (· ≤ ·))
    (ρ : ℚ) (lc : Bool) (m : Method) (j : ℕ) (hj : j + 1 < s.length)
    (hx : indexTarget s ρ lc ≤ (j : ℚ)) :
    invertIncreasing u s ρ lc m ≤ s.getD j 0 := by
  have hjN : j < s.length := Nat.lt_of_succ_lt hj
  have hne : s.length ≠ 0 := Nat.ne_zero_of_lt hjN
  rw [invertIncreasing_index u s hne]
  split_ifs with h1 h0
  · exfalso
    rw [indexTarget_eq s hne] at hx
    have hj' : ((j + 1 : ℕ) : ℚ) < (s.length : ℚ) := Nat.cast_lt.mpr hj
    push_cast at hj'
    linarith only [hx, hj', h1, (delta_range lc).2]
  · exact le_trans (hu.down_lt _).le (head_le_of_sorted s hs _ (getD_mem s j hjN))
  · rw [← rawThr_natCast s j hjN m]
    exact raw_mono s hs hne m _ _ hx

theorem c09_last_cast (b n : ℕ) (hn : n ≠ 0) :
    ((b + (n - 1) : ℕ) : ℚ) = (b : ℚ) + (n : ℚ) - 1 := by
  rw [Nat.cast_add, Nat.cast_sub (Nat.pos_of_ne_zero hn), Nat.cast_one, add_sub_assoc]

/-- relation between the normalised targets `ρ` (easy-sample object, `n` scored samples) and
`ρ'` (materialised object, `n'` samples of which `b` lie below the scored block): after
clipping, the index positions differ by `b` -/
def c09_rel (b n n' : ℕ) (ρ ρ' : ℚ) : Prop :=
  clipQ (clip01 ρ' * (n' : ℚ) - (b : ℚ)) 0 (n : ℚ) = clip01 ρ * (n : ℚ)

theorem c09_rel_iff (b n n' : ℕ) (hn : n ≠ 0) (hbn : b + n ≤ n') (ρ ρ' : ℚ) :
    c09_rel b n n' ρ ρ' ↔
      clipQ (ρ' * (n' : ℚ) - (b : ℚ)) 0 (n : ℚ) = clipQ (ρ * (n : ℚ)) 0 (n : ℚ) := by
  have hn0 : (0 : ℚ) < (n : ℚ) := Nat.cast_pos.mpr (Nat.pos_of_ne_zero hn)
  have hn' : (0 : ℚ) < (n' : ℚ) := Nat.cast_pos.mpr (by omega)
  have hb : (b : ℚ) + (n : ℚ) ≤ (n' : ℚ) := by exact_mod_cast hbn
  have sh : ∀ z : ℚ, clipQ (z - (b : ℚ)) 0 (n : ℚ) = clipQ z (b : ℚ) ((b : ℚ) + (n : ℚ)) -
      (b : ℚ) :=
    fun z => by rw [clipQ_shift]; ring
  unfold c09_rel
  rw [c09_clip01_eq, c09_clip01_eq, clipQ_mul _ _ _ _ hn0, clipQ_mul _ _ _ _ hn', zero_mul,
    one_mul, zero_mul, one_mul, sh, c09_clipQ_clipQ _ _ _ _ _ (Nat.cast_nonneg b) hb, ← sh]

/-- what `c09_invert_shift_methods` and `c09_invert_inside_methods` both reduce to: the positions
differ by `|L|` (`hq`) and the easy-sample index target lies in `(0, n - 1]` -/
theorem c09_invert_shift_pos (u : Ulp) (L arr R : List ℚ) (hne : arr.length ≠ 0) (ρ ρ' : ℚ)
    (lc : Bool) (m : Method)
    (hq : ρ' * ((L ++ arr ++ R).length : ℚ) - (L.length : ℚ) = ρ * (arr.length : ℚ))
    (hqn : ρ * (arr.length : ℚ) < (arr.length : ℚ)) (hx0 : 0 < indexTarget arr ρ lc)
    (hxn : indexTarget arr ρ lc ≤ (arr.length : ℚ) - 1) :
    invertIncreasing u (L ++ arr ++ R) ρ' lc m = invertIncreasing u arr ρ lc m := by
  have hne' : (L ++ arr ++ R).length ≠ 0 := by simp only [List.length_append]; omega
  have hlen : (L.length : ℚ) + (arr.length : ℚ) ≤ ((L ++ arr ++ R).length : ℚ) := by
    rw [List.length_append, List.length_append, Nat.cast_add, Nat.cast_add]
    exact le_add_of_nonneg_right (Nat.cast_nonneg _)
  have hx' : indexTarget (L ++ arr ++ R) ρ' lc = indexTarget arr ρ lc + (L.length : ℚ) := by
    rw [indexTarget_eq _ hne', indexTarget_eq _ hne]; linarith only [hq]
  have hL : (0 : ℚ) ≤ (L.length : ℚ) := Nat.cast_nonneg _
  rw [invertIncreasing_index u _ hne', invertIncreasing_index u _ hne, hx',
    if_neg (by linarith only [hq, hqn, hlen]), if_neg (by linarith only [hx0, hL]),
    if_neg (not_le.mpr hqn), if_neg (not_le.mpr hx0), c09_rawThr_shift L arr R _ hx0.le hxn]

/-- **Normalised C09 (thresholds), every method.** If the easy-sample target is interior
(neither special case of `_invert_increasing_function` fires) and its index target is at most
`n - 1`, the materialised list `L ++ arr ++ R` gives the same threshold. -/
theorem c09_invert_shift_methods (u : Ulp) (L arr R : List ℚ) (hne : arr.length ≠ 0) (ρ ρ' : ℚ)
    (lc : Bool) (m : Method) (hrel : c09_rel L.length arr.length (L ++ arr ++ R).length ρ ρ')
    (h1 : ρ < 1) (h0 : 0 < (if lc then ρ else ρ - 1 / (arr.length : ℚ)))
    (hx : indexTarget arr ρ lc ≤ (arr.length : ℚ) - 1) :
    invertIncreasing u (L ++ arr ++ R) ρ' lc m = invertIncreasing u arr ρ lc m := by
  have hN : (0 : ℚ) < (arr.length : ℚ) := Nat.cast_pos.mpr (Nat.pos_of_ne_zero hne)
  have hqn : ρ * (arr.length : ℚ) < (arr.length : ℚ) := (mul_lt_iff_lt_one_left hN).mpr h1
  have hx0 : 0 < indexTarget arr ρ lc := mul_pos h0 hN
  have hq0 : 0 < ρ * (arr.length : ℚ) := by
    rw [indexTarget_eq arr hne] at hx0; linarith only [hx0, (delta_range lc).1]
  rw [c09_rel_iff _ _ _ hne (by simp only [List.length_append]; omega)] at hrel
  exact c09_invert_shift_pos u L arr R hne ρ ρ' lc m (c09_clipQ_inj _ _ _ hrel hq0 hqn) hqn hx0 hx

theorem c09_invert_shift (u : Ulp) (L arr R : List ℚ) (hne : arr.length ≠ 0) (ρ ρ' : ℚ)
    (lc : Bool) (hrel : c09_rel L.length arr.length (L ++ arr ++ R).length ρ ρ')
    (h1 : ρ < 1) (h0 : 0 < (if lc then ρ else ρ - 1 / (arr.length : ℚ)))
    (hx : indexTarget arr ρ lc ≤ (arr.length : ℚ) - 1) :
    invertIncreasing u (L ++ arr ++ R) ρ' lc .linear = invertIncreasing u arr ρ lc .linear :=
  c09_invert_shift_methods u L arr R hne ρ ρ' lc .linear hrel h1 h0 hx

/-- **Normalised C09 (thresholds), property shape, every method.** If the threshold of the
materialised list lies strictly inside the range of the scored block, the easy-sample list gives
the same one. -/
theorem c09_invert_inside_methods (u : Ulp) (hu : u.Lawful) (L arr R : List ℚ)
    (hs : (L ++ arr ++ R).Pairwise (· ≤ ·)) (ρ ρ' : ℚ) (lc : Bool) (m : Method)
    (hrel : c09_rel L.length arr.length (L ++ arr ++ R).length ρ ρ')
    (hlo : arr.getD 0 0 < invertIncreasing u (L ++ arr ++ R) ρ' lc m)
    (hhi : invertIncreasing u (L ++ arr ++ R) ρ' lc m < arr.getD (arr.length - 1) 0) :
    invertIncreasing u (L ++ arr ++ R) ρ' lc m = invertIncreasing u arr ρ lc m := by
  have hn2 : 2 ≤ arr.length := by
    by_contra hc
    have : arr.length - 1 = 0 := by omega
    rw [this] at hhi; exact lt_asymm hlo hhi
  have hne : arr.length ≠ 0 := Nat.ne_zero_of_lt hn2
  have hlen : (L ++ arr ++ R).length = L.length + arr.length + R.length := by
    simp only [List.length_append]
  have hne' : (L ++ arr ++ R).length ≠ 0 := by omega
  -- the index target lies strictly between the ends of the scored block
  have hlow : (L.length : ℚ) < indexTarget (L ++ arr ++ R) ρ' lc := lt_of_not_ge fun h =>
    absurd hlo (not_lt.mpr (by
      rw [← c09_getD_block L arr R 0 (by omega), Nat.add_zero]
      exact c09_invert_le u hu _ hs ρ' lc m L.length (by omega) h))
  have hup : indexTarget (L ++ arr ++ R) ρ' lc < ((L.length + (arr.length - 1) : ℕ) : ℚ) :=
    lt_of_not_ge fun h => absurd hhi (not_lt.mpr (by
      rw [← c09_getD_block L arr R (arr.length - 1) (by omega)]
      exact c09_invert_ge u hu _ hs ρ' lc m _ (by omega) (by omega) h))
  rw [c09_last_cast _ _ hne] at hup
  -- so the position, moved down by `|L|`, is strictly inside `[0, n]` and clipping leaves it alone
  obtain ⟨hd0, hd1⟩ := delta_range lc
  have hx' := indexTarget_eq _ hne' ρ' lc
  rw [c09_rel_iff _ _ _ hne (by omega)] at hrel
  have hq := c09_clipQ_inj _ _ _ hrel.symm (by linarith only [hlow, hx', hd0])
    (by linarith only [hup, hx', hd1])
  have hx := indexTarget_eq _ hne ρ lc
  exact c09_invert_shift_pos u L arr R hne ρ ρ' lc m hq.symm (by linarith only [hq, hup, hx', hd1])
    (by linarith only [hq, hx, hx', hlow]) (by linarith only [hq, hx, hx', hup])

theorem c09_invert_inside (u : Ulp) (hu : u.Lawful) (L arr R : List ℚ)
    (hs : (L ++ arr ++ R).Pairwise (· ≤ ·)) (ρ ρ' : ℚ) (lc : Bool)
    (hrel : c09_rel L.length arr.length (L ++ arr ++ R).length ρ ρ')
    (hlo : arr.getD 0 0 < invertIncreasing u (L ++ arr ++ R) ρ' lc .linear)
    (hhi : invertIncreasing u (L ++ arr ++ R) ρ' lc .linear < arr.getD (arr.length - 1) 0) :
    invertIncreasing u (L ++ arr ++ R) ρ' lc .linear = invertIncreasing u arr ρ lc .linear :=
  c09_invert_inside_methods u hu L arr R hs ρ ρ' lc .linear hrel hlo hhi

/-- **Boundary, low end.** When the materialised index target is exactly the position of the
first scored sample, the materialised list returns that sample but the easy-sample list returns
the sentinel one ulp below it. -/
theorem c09_boundary_low (u : Ulp) (L arr R : List ℚ) (hn2 : 2 ≤ arr.length)
    (hb : 0 < L.length) (ρ ρ' : ℚ) (lc : Bool)
    (hrel : c09_rel L.length arr.length (L ++ arr ++ R).length ρ ρ')
    (hx' : indexTarget (L ++ arr ++ R) ρ' lc = (L.length : ℚ)) :
    invertIncreasing u (L ++ arr ++ R) ρ' lc .linear = arr.getD 0 0 ∧
    invertIncreasing u arr ρ lc .linear = u.down (arr.getD 0 0) := by
  have hne : arr.length ≠ 0 := Nat.ne_zero_of_lt hn2
  have hN2 : (2 : ℚ) ≤ (arr.length : ℚ) := by exact_mod_cast hn2
  have hlen : (L ++ arr ++ R).length = L.length + arr.length + R.length := by
    simp only [List.length_append]
  have hne' : (L ++ arr ++ R).length ≠ 0 := by omega
  obtain ⟨hd0, hd1⟩ := delta_range lc
  have hxe' := indexTarget_eq _ hne' ρ' lc
  rw [hx'] at hxe'
  constructor
  · rw [invertIncreasing_at_index u _ L.length hb (by omega) ρ' lc .linear hx',
      ← Nat.add_zero L.length, c09_getD_block L arr R 0 (by omega)]
  · -- the position moved down by `|L|` is `δ`, so the easy-sample position is at most `δ`
    rw [c09_rel_iff _ _ _ hne (by omega)] at hrel
    have hq : ρ' * ((L ++ arr ++ R).length : ℚ) - (L.length : ℚ) = (if lc then 0 else 1) := by
      linarith only [hxe']
    rw [hq, c09_clipQ_id _ _ hd0 (by linarith only [hd1, hN2])] at hrel
    have hle := c09_clipQ_le _ _ _ hrel.symm (by linarith only [hd1, hN2])
    rw [invertIncreasing_index u _ hne, if_neg (by linarith only [hle, hd1, hN2]),
      if_pos (by rw [indexTarget_eq _ hne]; linarith only [hle])]

/-- **Boundary, high end** (right-continuous metric only). When the materialised index target is
exactly the position of the last scored sample, the materialised list returns that sample but
the easy-sample list returns the sentinel one ulp above it. -/
theorem c09_boundary_high (u : Ulp) (L arr R : List ℚ) (hn2 : 2 ≤ arr.length)
    (hc : 0 < R.length) (ρ ρ' : ℚ)
    (hrel : c09_rel L.length arr.length (L ++ arr ++ R).length ρ ρ')
    (hx' : indexTarget (L ++ arr ++ R) ρ' false = (L.length : ℚ) + (arr.length : ℚ) - 1) :
    invertIncreasing u (L ++ arr ++ R) ρ' false .linear = arr.getD (arr.length - 1) 0 ∧
    invertIncreasing u arr ρ false .linear = u.up (arr.getD (arr.length - 1) 0) := by
  have hne : arr.length ≠ 0 := Nat.ne_zero_of_lt hn2
  have hN2 : (2 : ℚ) ≤ (arr.length : ℚ) := by exact_mod_cast hn2
  have hlen : (L ++ arr ++ R).length = L.length + arr.length + R.length := by
    simp only [List.length_append]
  have hne' : (L ++ arr ++ R).length ≠ 0 := by omega
  have hxe' := indexTarget_eq _ hne' ρ' false
  rw [hx', if_neg Bool.false_ne_true] at hxe'
  have hjq := c09_last_cast L.length arr.length hne
  constructor
  · rw [invertIncreasing_at_index u _ (L.length + (arr.length - 1)) (by omega) (by omega) ρ' false
      .linear (hx'.trans hjq.symm), c09_getD_block L arr R _ (by omega)]
  · -- the position moved down by `|L|` is `n`, so the easy-sample position is at least `n`
    rw [c09_rel_iff _ _ _ hne (by omega)] at hrel
    have hq : ρ' * ((L ++ arr ++ R).length : ℚ) - (L.length : ℚ) = (arr.length : ℚ) := by
      linarith only [hxe']
    rw [hq, c09_clipQ_id _ _ (by linarith only [hN2]) le_rfl] at hrel
    have hge := c09_clipQ_ge _ _ _ hrel.symm (by linarith only [hN2])
    rw [invertIncreasing_index u _ hne, if_pos hge]

end SA

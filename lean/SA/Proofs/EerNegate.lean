/-
Helper lemmas for C08 — `eer()` under score negation + `score_class` flip
(theorems in `SA/Theorems/C08NegateEer.lean`).

`Scores.eer` is split into (i) the PATH it takes (error / one of the two perfect-separation
shortcuts / one of the three caps / bisection with the value found) — a function of the class
sizes, the extreme scores, `score_class`, the two hard ratios and the SIGNS of the root-finder
objective at the points the bisection evaluates — and (ii) the FINISH, which turns a path into
the returned pair with at most two more threshold calls.  The negated object takes the mirrored
path as soon as the two objectives agree in sign at the probes; the finish negates the threshold
as soon as the final threshold calls are negated.
-/
import SA.Theorems.C08Negate
import SA.Theorems.C06Affine

namespace SA

/-! ### the root finder only sees signs at its midpoints -/

/-- two numbers with the same sign (negative / zero / positive) -/
def c08e_sameSign (a b : ℚ) : Prop := (a < 0 ↔ b < 0) ∧ (0 < a ↔ 0 < b)

instance (a b : ℚ) : Decidable (c08e_sameSign a b) := by
  unfold c08e_sameSign; exact inferInstance

theorem c08e_sameSign_of_eq {a b : ℚ} (h : a = b) : c08e_sameSign a b :=
  h ▸ ⟨Iff.rfl, Iff.rfl⟩

theorem c08e_sameSign_le {a b : ℚ} (h : c08e_sameSign a b) : a ≤ 0 ↔ b ≤ 0 := by
  rw [← not_lt, ← not_lt, h.2]

theorem c08e_sameSign_ge {a b : ℚ} (h : c08e_sameSign a b) : 0 ≤ a ↔ 0 ≤ b := by
  rw [← not_lt, ← not_lt, h.1]

/-- the midpoints at which `findRootLoop f` evaluates `f`, in order -/
def c08e_mids (f : ℚ → ℚ) (findFirst : Bool) : ℕ → ℚ → ℚ → List ℚ
  | 0, _, _ => []
  | fuel + 1, xa, xe =>
    if absQ' (xa - xe) < xtol then []
    else
      (xa + xe) / 2 ::
        (if f ((xa + xe) / 2) < 0 then c08e_mids f findFirst fuel ((xa + xe) / 2) xe
         else if f ((xa + xe) / 2) > 0 then c08e_mids f findFirst fuel xa ((xa + xe) / 2)
         else if findFirst then c08e_mids f findFirst fuel xa ((xa + xe) / 2)
         else c08e_mids f findFirst fuel ((xa + xe) / 2) xe)

/-- **Root finder, loop.** A function with the same signs as `f` at the midpoints that the
bisection of `f` evaluates produces the same result. -/
theorem c08e_findRootLoop_congr (f g : ℚ → ℚ) (ff : Bool) (fuel : ℕ) (xa xe : ℚ)
    (h : ∀ x ∈ c08e_mids f ff fuel xa xe, c08e_sameSign (g x) (f x)) :
    findRootLoop g ff fuel xa xe = findRootLoop f ff fuel xa xe := by
  induction fuel generalizing xa xe with
  | zero => rfl
  | succ n ih =>
    simp only [findRootLoop]
    by_cases hx : absQ' (xa - xe) < xtol
    · rw [if_pos hx, if_pos hx]
    · -- the first midpoint decides the same way for `g` and `f`
      simp only [c08e_mids, if_neg hx, List.forall_mem_cons] at h
      simp only [if_neg hx, gt_iff_lt, h.1.1, h.1.2]
      split_ifs at h ⊢ <;> exact ih _ _ h.2

/-- **Root finder.** Same signs at the two ends of the bracket and at the midpoints: same
result (bracket check and loop). -/
theorem c08e_findRoot_congr (f g : ℚ → ℚ) (xa xe : ℚ) (ff : Bool) (fuel : ℕ)
    (ha : c08e_sameSign (g xa) (f xa)) (he : c08e_sameSign (g xe) (f xe))
    (h : ∀ x ∈ c08e_mids f ff fuel xa xe, c08e_sameSign (g x) (f x)) :
    findRoot g xa xe ff fuel = findRoot f xa xe ff fuel := by
  unfold findRoot
  rw [c08e_findRootLoop_congr f g ff fuel xa xe h]
  simp only [c08e_sameSign_le ha, c08e_sameSign_ge he]

/-! ### `eer()` = finish ∘ path -/

/-- the ways `eer()` can return -/
inductive c08e_Path where
  /-- an exception: an empty class (`other`), or a failed bracket check of `_find_root` -/
  | fail (e : Err)
  /-- perfect separation, positives above, `score_class = pos` -/
  | sepPos
  /-- perfect separation, positives below, `score_class = neg` -/
  | sepNeg
  /-- `f(max_eer) < 0` and the two hard ratios are close -/
  | capClose
  /-- `f(max_eer) < 0`, `hard_pos_ratio < hard_neg_ratio` -/
  | capPos
  /-- `f(max_eer) < 0`, otherwise -/
  | capNeg
  /-- bisection, with the value `(left + right) / 2` -/
  | root (e : ℚ)
deriving DecidableEq, Repr

/-- the path of the negated object: the two shortcuts exchange their roles -/
def c08e_Path.mirror : c08e_Path → c08e_Path
  | .sepPos => .sepNeg
  | .sepNeg => .sepPos
  | p => p

/-- which way `eer()` goes, given what it reads and the objective `F` of the root finder -/
def c08e_corePath (np nn : ℕ) (pos0 posL neg0 negL : ℚ) (sc : Label) (hpr hnr : ℚ)
    (F : ℚ → ℚ) (fuel : ℕ) : c08e_Path :=
  if np = 0 ∨ nn = 0 then .fail .other else
  if pos0 > negL ∧ sc = .pos then .sepPos
  else if posL < neg0 ∧ sc = .neg then .sepNeg
  else
    if F (min hpr hnr) < 0 then
      if isClose hpr hnr then .capClose
      else if hpr < hnr then .capPos
      else .capNeg
    else
      match findRoot F 0 (min hpr hnr) true fuel, findRoot F 0 (min hpr hnr) false fuel with
      | .ok left, .ok right => .root ((left + right) / 2)
      | .error e, _ => .fail e
      | _, .error e => .fail e

def c08e_coreFinish (pos0 posL neg0 negL : ℚ) (hpr hnr : ℚ) (tf tn : ℚ → ℚ) :
    c08e_Path → Except Err (ℚ × ℚ)
  | .fail e => .error e
  | .sepPos => .ok ((pos0 + negL) / 2, 0)
  | .sepNeg => .ok ((posL + neg0) / 2, 0)
  | .capClose => .ok ((tf (min hpr hnr) + tn (min hpr hnr)) / 2, min hpr hnr)
  | .capPos => .ok (tf hpr, hpr)
  | .capNeg => .ok (tn hnr, hnr)
  | .root e => .ok (tf e, e)

theorem c08e_core_eq (np nn : ℕ) (pos0 posL neg0 negL : ℚ) (sc : Label) (hpr hnr : ℚ)
    (tf tn : ℚ → ℚ) (fuel : ℕ) :
    eeri_core np nn pos0 posL neg0 negL sc hpr hnr tf tn fuel =
      c08e_coreFinish pos0 posL neg0 negL hpr hnr tf tn
        (c08e_corePath np nn pos0 posL neg0 negL sc hpr hnr (eeri_F tf tn) fuel) := by
  -- the same tests on both sides: compare the leaves
  unfold eeri_core c08e_corePath
  simp only [apply_ite (c08e_coreFinish pos0 posL neg0 negL hpr hnr tf tn)]
  refine if_congr Iff.rfl rfl ?_
  refine if_congr Iff.rfl rfl ?_
  refine if_congr Iff.rfl rfl ?_
  refine if_congr Iff.rfl rfl ?_
  cases findRoot (eeri_F tf tn) 0 (min hpr hnr) true fuel <;>
    cases findRoot (eeri_F tf tn) 0 (min hpr hnr) false fuel <;> rfl

/-- the points at which the path inspects the sign of the objective `F` (besides 0):
`max_eer`, and on the bisection path the midpoints of the two root searches -/
def c08e_coreProbes (np nn : ℕ) (pos0 posL neg0 negL : ℚ) (sc : Label) (hpr hnr : ℚ)
    (F : ℚ → ℚ) (fuel : ℕ) : List ℚ :=
  if np = 0 ∨ nn = 0 then [] else
  if pos0 > negL ∧ sc = .pos then []
  else if posL < neg0 ∧ sc = .neg then []
  else
    if F (min hpr hnr) < 0 then [min hpr hnr]
    else min hpr hnr ::
      (c08e_mids F true fuel 0 (min hpr hnr) ++ c08e_mids F false fuel 0 (min hpr hnr))

theorem c08e_flip_eq_pos (sc : Label) : sc.flip = .pos ↔ sc = .neg := by
  cases sc <;> simp [Label.flip]

theorem c08e_flip_eq_neg (sc : Label) : sc.flip = .neg ↔ sc = .pos := by
  cases sc <;> simp [Label.flip]

/-- **Path of the mirrored problem.** With the extreme scores mirrored, `score_class` flipped
and an objective `F'` that agrees with `F` in sign at the probes of `F` (and at 0 when there are
probes), the mirrored path is taken. -/
theorem c08e_corePath_negate (np nn : ℕ) (pos0 posL neg0 negL : ℚ) (sc : Label) (hpr hnr : ℚ)
    (F F' : ℚ → ℚ) (fuel : ℕ)
    (h0 : c08e_coreProbes np nn pos0 posL neg0 negL sc hpr hnr F fuel ≠ [] →
      c08e_sameSign (F' 0) (F 0))
    (hs : ∀ x ∈ c08e_coreProbes np nn pos0 posL neg0 negL sc hpr hnr F fuel,
      c08e_sameSign (F' x) (F x)) :
    c08e_corePath np nn (-posL) (-pos0) (-negL) (-neg0) sc.flip hpr hnr F' fuel =
      (c08e_corePath np nn pos0 posL neg0 negL sc hpr hnr F fuel).mirror := by
  -- the first three tests do not look at the objective (the two separation tests exchange their
  -- roles), the fourth only at its sign at `max_eer`, the rest is `c08e_findRoot_congr`
  unfold c08e_corePath
  unfold c08e_coreProbes at hs h0
  by_cases hE : np = 0 ∨ nn = 0
  · rw [if_pos hE, if_pos hE]; rfl
  rw [if_neg hE] at hs h0
  rw [if_neg hE, if_neg hE]
  have c1 : (-posL > -neg0 ∧ sc.flip = .pos) ↔ (posL < neg0 ∧ sc = .neg) := by
    rw [c08e_flip_eq_pos, gt_iff_lt, neg_lt_neg_iff]
  have c2 : (-pos0 < -negL ∧ sc.flip = .neg) ↔ (pos0 > negL ∧ sc = .pos) := by
    rw [c08e_flip_eq_neg, neg_lt_neg_iff]
  simp only [c1, c2]
  by_cases h1 : pos0 > negL ∧ sc = .pos
  · have h2 : ¬ (posL < neg0 ∧ sc = .neg) := by
      rintro ⟨_, b⟩; rw [h1.2] at b; cases b
    rw [if_pos h1, if_neg h2, if_pos h1]; rfl
  rw [if_neg h1] at hs h0
  by_cases h2 : posL < neg0 ∧ sc = .neg
  · rw [if_pos h2, if_neg h1, if_pos h2]; rfl
  rw [if_neg h2] at hs h0
  rw [if_neg h2, if_neg h1, if_neg h1, if_neg h2]
  by_cases h3 : F (min hpr hnr) < 0
  · rw [if_pos h3] at hs
    have hm := hs (min hpr hnr) (List.mem_singleton.mpr rfl)
    have h3' : F' (min hpr hnr) < 0 := hm.1.mpr h3
    rw [if_pos h3, if_pos h3']
    split_ifs <;> rfl
  rw [if_neg h3] at hs h0
  replace h0 := h0 (List.cons_ne_nil _ _)
  have hm := hs (min hpr hnr) List.mem_cons_self
  have h3' : ¬ F' (min hpr hnr) < 0 := fun h => h3 (hm.1.mp h)
  rw [if_neg h3, if_neg h3']
  have r1 : findRoot F' 0 (min hpr hnr) true fuel = findRoot F 0 (min hpr hnr) true fuel :=
    c08e_findRoot_congr F F' 0 (min hpr hnr) true fuel h0 hm
      (fun x hx => hs x (List.mem_cons_of_mem _ (List.mem_append_left _ hx)))
  have r2 : findRoot F' 0 (min hpr hnr) false fuel = findRoot F 0 (min hpr hnr) false fuel :=
    c08e_findRoot_congr F F' 0 (min hpr hnr) false fuel h0 hm
      (fun x hx => hs x (List.mem_cons_of_mem _ (List.mem_append_right _ hx)))
  rw [r1, r2]
  cases findRoot F 0 (min hpr hnr) true fuel <;>
    cases findRoot F 0 (min hpr hnr) false fuel <;> rfl

/-- on the perfect-separation shortcuts the objective is not inspected at all -/
theorem c08e_coreProbes_nil_of_sep (np nn : ℕ) (pos0 posL neg0 negL : ℚ) (sc : Label)
    (hpr hnr : ℚ) (F : ℚ → ℚ) (fuel : ℕ)
    (h : c08e_corePath np nn pos0 posL neg0 negL sc hpr hnr F fuel = .sepPos ∨
      c08e_corePath np nn pos0 posL neg0 negL sc hpr hnr F fuel = .sepNeg) :
    c08e_coreProbes np nn pos0 posL neg0 negL sc hpr hnr F fuel = [] := by
  unfold c08e_corePath at h
  unfold c08e_coreProbes
  by_cases hE : np = 0 ∨ nn = 0
  · rw [if_pos hE]
  rw [if_neg hE] at h ⊢
  by_cases h1 : pos0 > negL ∧ sc = .pos
  · rw [if_pos h1]
  rw [if_neg h1] at h ⊢
  by_cases h2 : posL < neg0 ∧ sc = .neg
  · rw [if_pos h2]
  rw [if_neg h2] at h ⊢
  exfalso
  by_cases h3 : F (min hpr hnr) < 0
  · rw [if_pos h3] at h
    split_ifs at h <;> (rcases h with h | h <;> cases h)
  · rw [if_neg h3] at h
    revert h
    cases findRoot F 0 (min hpr hnr) true fuel <;>
      cases findRoot F 0 (min hpr hnr) false fuel <;>
      intro h <;> rcases h with h | h <;> cases h

/-- what the finish needs from the threshold functions of the mirrored problem: the final
threshold call(s) of the path return the negated value(s) -/
def c08e_coreFinalNeg (hpr hnr : ℚ) (tf tn tf' tn' : ℚ → ℚ) : c08e_Path → Prop
  | .capClose => tf' (min hpr hnr) = -(tf (min hpr hnr)) ∧ tn' (min hpr hnr) = -(tn (min hpr hnr))
  | .capPos => tf' hpr = -(tf hpr)
  | .capNeg => tn' hnr = -(tn hnr)
  | .root e => tf' e = -(tf e)
  | _ => True

theorem c08e_coreFinish_negate (pos0 posL neg0 negL : ℚ) (hpr hnr : ℚ)
    (tf tn tf' tn' : ℚ → ℚ) (p : c08e_Path) (h : c08e_coreFinalNeg hpr hnr tf tn tf' tn' p) :
    c08e_coreFinish (-posL) (-pos0) (-negL) (-neg0) hpr hnr tf' tn' p.mirror =
      (c08e_coreFinish pos0 posL neg0 negL hpr hnr tf tn p).map (fun (t, e) => (-t, e)) := by
  cases p <;>
    simp only [c08e_Path.mirror, c08e_coreFinish, Except.map, c08e_coreFinalNeg] at h ⊢
  · simp only [Except.ok.injEq, Prod.mk.injEq, and_true]; ring
  · simp only [Except.ok.injEq, Prod.mk.injEq, and_true]; ring
  · rw [h.1, h.2]
    simp only [Except.ok.injEq, Prod.mk.injEq, and_true]; ring
  · rw [h]
  · rw [h]
  · rw [h]

/-- the rate on each path involves neither the threshold functions nor the extreme scores -/
theorem c08e_coreFinish_rate (pos0 posL neg0 negL pos0' posL' neg0' negL' : ℚ) (hpr hnr : ℚ)
    (tf tn tf' tn' : ℚ → ℚ) (p : c08e_Path) :
    (c08e_coreFinish pos0' posL' neg0' negL' hpr hnr tf' tn' p.mirror).map Prod.snd =
      (c08e_coreFinish pos0 posL neg0 negL hpr hnr tf tn p).map Prod.snd := by
  cases p <;> simp only [c08e_Path.mirror, c08e_coreFinish, Except.map]

/-! ### the object level -/

/-- the function handed to `_find_root` by `eer()` -/
def c08e_objective (u : Ulp) (s : Scores) : ℚ → ℚ :=
  eeri_F (thrVal u s .fpr) (thrVal u s .fnr)

/-- `max_eer` -/
def c08e_maxEer (s : Scores) : ℚ := min s.hardPosRatio s.hardNegRatio

def c08e_eerPath (u : Ulp) (s : Scores) (fuel : ℕ) : c08e_Path :=
  c08e_corePath s.pos.length s.neg.length (s.pos.getD 0 0) (s.pos.getD (s.pos.length - 1) 0)
    (s.neg.getD 0 0) (s.neg.getD (s.neg.length - 1) 0) s.cfg.scoreClass s.hardPosRatio
    s.hardNegRatio (c08e_objective u s) fuel

def c08e_finish (u : Ulp) (s : Scores) (p : c08e_Path) : Except Err (ℚ × ℚ) :=
  c08e_coreFinish (s.pos.getD 0 0) (s.pos.getD (s.pos.length - 1) 0)
    (s.neg.getD 0 0) (s.neg.getD (s.neg.length - 1) 0) s.hardPosRatio s.hardNegRatio
    (thrVal u s .fpr) (thrVal u s .fnr) p

theorem c08e_eer_eq (u : Ulp) (s : Scores) (fuel : ℕ) :
    s.eer u fuel = c08e_finish u s (c08e_eerPath u s fuel) := by
  rw [eeri_eer_eq_core, c08e_core_eq]; rfl

/-- the targets (other than 0) at which `s.eer u fuel` inspects the sign of its objective -/
def c08e_probes (u : Ulp) (s : Scores) (fuel : ℕ) : List ℚ :=
  c08e_coreProbes s.pos.length s.neg.length (s.pos.getD 0 0) (s.pos.getD (s.pos.length - 1) 0)
    (s.neg.getD 0 0) (s.neg.getD (s.neg.length - 1) 0) s.cfg.scoreClass s.hardPosRatio
    s.hardNegRatio (c08e_objective u s) fuel

/-! ### what `eer()` reads from the negated object -/

theorem c08e_hardPos_negate (s : Scores) : s.negate.hardPosRatio = s.hardPosRatio := by
  simp only [Scores.hardPosRatio, Scores.negate, c08n_mirror_length]

theorem c08e_hardNeg_negate (s : Scores) : s.negate.hardNegRatio = s.hardNegRatio := by
  simp only [Scores.hardNegRatio, Scores.negate, c08n_mirror_length]

theorem c08e_maxEer_negate (s : Scores) : c08e_maxEer s.negate = c08e_maxEer s := by
  simp only [c08e_maxEer, c08e_hardPos_negate, c08e_hardNeg_negate]

theorem c08e_pos_len_negate (s : Scores) : s.negate.pos.length = s.pos.length :=
  c08n_mirror_length s.pos

theorem c08e_neg_len_negate (s : Scores) : s.negate.neg.length = s.neg.length :=
  c08n_mirror_length s.neg

/-! ### the excluded stretch in terms of the rescaled target

`c08n_regular` (C08Negate.lean): the normalised target is outside `c08n_excluded`, the stretch on
which exactly one of the two mirrored problems returns a sentinel. -/

/-- the excluded stretch for a class of `N` hard samples in terms of the rescaled target `ρ`
(`ρ = min(x / hard_ratio, 1)`): within `1/N` of 1 for `equal_class = pos`, within `1/N` of 0 for
`equal_class = neg` (end points 0 and 1 themselves are never excluded) -/
def c08e_inStretch (ec : Label) (N : ℕ) (ρ : ℚ) : Prop :=
  0 < ρ ∧ ρ < 1 ∧ (if ec = .pos then 1 - 1 / (N : ℚ) ≤ ρ else ρ ≤ 1 / (N : ℚ))

instance (ec : Label) (N : ℕ) (ρ : ℚ) : Decidable (c08e_inStretch ec N ρ) := by
  unfold c08e_inStretch; exact inferInstance

theorem c08e_excluded_iff (ec : Label) (N : ℕ) (ρ : ℚ) :
    c08n_excluded N ρ (ec == .pos) = true ↔ c08e_inStretch ec N ρ := by
  cases ec
  · simp only [c08n_excluded, c08e_inStretch, beq_self_eq_true, if_true, decide_eq_true_eq]
    exact ⟨fun ⟨a, b, c⟩ => ⟨a, c, b⟩, fun ⟨a, c, b⟩ => ⟨a, b, c⟩⟩
  · rw [show (Label.neg == Label.pos) = false from rfl]
    simp only [c08n_excluded, c08e_inStretch, Bool.false_eq_true, if_false, reduceCtorEq,
      decide_eq_true_eq]
    exact ⟨fun ⟨a, b, c⟩ => ⟨a, c, b⟩, fun ⟨a, c, b⟩ => ⟨a, b, c⟩⟩

/-- for `fnr`, `fpr` the continuity flag is `equal_class = pos`, flipped with every flip of the
target -/
theorem c08e_normLc (cfg : Cfg) (inc : Bool) (rc : Label) (h : (rc == .pos) = inc) :
    normLc cfg inc rc = (evenFlips cfg inc == (cfg.equalClass == .pos)) := by
  obtain ⟨sc, ec⟩ := cfg
  subst h
  cases sc <;> cases ec <;> cases rc <;> rfl

/-- an odd number of flips mirrors both the target and the flag, and the excluded set is
mirror-symmetric -/
theorem c08e_regular_iff (s : Scores) (metric : Metric) (x : ℚ)
    (h : (metric.ratioClass == .pos) = metric.increasing) :
    c08n_regular s metric x = true ↔
      ¬ c08e_inStretch s.cfg.equalClass (s.metricArray metric).length (s.rescale metric x) := by
  unfold c08n_regular normTarget
  rw [c08e_normLc s.cfg _ _ h, Bool.not_eq_true', ← Bool.not_eq_true, ← c08e_excluded_iff]
  cases evenFlips s.cfg metric.increasing
  · rw [if_neg Bool.false_ne_true, Bool.false_beq, c08n_excluded_mirror]
  · rw [if_pos rfl, Bool.true_beq]

theorem c08e_regular_fpr_zero (s : Scores) : c08n_regular s .fpr 0 = true :=
  (c08e_regular_iff s .fpr 0 rfl).mpr fun h => by
    rw [show s.rescale .fpr 0 = 0 by simp [Scores.rescale]] at h; exact lt_irrefl _ h.1

theorem c08e_regular_fnr_zero (s : Scores) : c08n_regular s .fnr 0 = true :=
  (c08e_regular_iff s .fnr 0 rfl).mpr fun h => by
    rw [show s.rescale .fnr 0 = 0 by simp [Scores.rescale]] at h; exact lt_irrefl _ h.1

theorem c08e_thrVal_negate (u u' : Ulp) (hc : c08n_NegCompat u u') (s : Scores)
    (metric : Metric) (r : ℚ) (h : (s.metricArray metric).length ≠ 0)
    (hreg : c08n_regular s metric r = true) :
    thrVal u' s.negate metric r = -(thrVal u s metric r) := by
  have h1 := thrVal_ok u s metric r h
  have h2 := C08_negate_threshold u u' hc s metric r hreg
  rw [h1] at h2
  unfold thrVal
  rw [h2, h1]
  rfl

/-- both threshold calls of the objective are regular at `x` -/
def c08e_regularAt (s : Scores) (x : ℚ) : Bool :=
  c08n_regular s .fpr x && c08n_regular s .fnr x

theorem c08e_regularAt_iff (s : Scores) (x : ℚ) :
    c08e_regularAt s x = true ↔
      ¬ c08e_inStretch s.cfg.equalClass s.neg.length (min (x / s.hardNegRatio) 1) ∧
      ¬ c08e_inStretch s.cfg.equalClass s.pos.length (min (x / s.hardPosRatio) 1) := by
  simp only [c08e_regularAt, Bool.and_eq_true, c08e_regular_iff s .fpr x rfl,
    c08e_regular_iff s .fnr x rfl, Scores.rescale, Scores.metricArray]

theorem c08e_objective_negate (u u' : Ulp) (hc : c08n_NegCompat u u') (s : Scores)
    (hp : s.pos.length ≠ 0) (hn : s.neg.length ≠ 0) (x : ℚ)
    (hx : c08e_regularAt s x = true) :
    c08e_objective u' s.negate x = c08e_objective u s x := by
  simp only [c08e_regularAt, Bool.and_eq_true] at hx
  simp only [c08e_objective, eeri_F]
  rw [c08e_thrVal_negate u u' hc s .fpr 0 hn (c08e_regular_fpr_zero s),
    c08e_thrVal_negate u u' hc s .fnr 0 hp (c08e_regular_fnr_zero s),
    c08e_thrVal_negate u u' hc s .fpr x hn hx.1,
    c08e_thrVal_negate u u' hc s .fnr x hp hx.2]
  ring

theorem c08e_extremes_negate (s : Scores) (hp : s.pos.length ≠ 0) (hn : s.neg.length ≠ 0) :
    s.negate.pos.getD 0 0 = -(s.pos.getD (s.pos.length - 1) 0) ∧
    s.negate.pos.getD (s.negate.pos.length - 1) 0 = -(s.pos.getD 0 0) ∧
    s.negate.neg.getD 0 0 = -(s.neg.getD (s.neg.length - 1) 0) ∧
    s.negate.neg.getD (s.negate.neg.length - 1) 0 = -(s.neg.getD 0 0) :=
  ⟨c08n_mirror_head s.pos hp, c08n_mirror_last s.pos hp, c08n_mirror_head s.neg hn,
    c08n_mirror_last s.neg hn⟩

theorem c08e_eerPath_negate_core (u' : Ulp) (s : Scores) (fuel : ℕ)
    (hp : s.pos.length ≠ 0) (hn : s.neg.length ≠ 0) :
    c08e_eerPath u' s.negate fuel =
      c08e_corePath s.pos.length s.neg.length (-(s.pos.getD (s.pos.length - 1) 0))
        (-(s.pos.getD 0 0)) (-(s.neg.getD (s.neg.length - 1) 0)) (-(s.neg.getD 0 0))
        s.cfg.scoreClass.flip s.hardPosRatio s.hardNegRatio (c08e_objective u' s.negate) fuel := by
  obtain ⟨g1, g2, g3, g4⟩ := c08e_extremes_negate s hp hn
  unfold c08e_eerPath
  rw [c08e_hardPos_negate, c08e_hardNeg_negate, g1, g2, g3, g4, c08e_pos_len_negate,
    c08e_neg_len_negate]
  rfl

theorem c08e_finish_negate_core (u' : Ulp) (s : Scores) (p : c08e_Path)
    (hp : s.pos.length ≠ 0) (hn : s.neg.length ≠ 0) :
    c08e_finish u' s.negate p =
      c08e_coreFinish (-(s.pos.getD (s.pos.length - 1) 0))
        (-(s.pos.getD 0 0)) (-(s.neg.getD (s.neg.length - 1) 0)) (-(s.neg.getD 0 0))
        s.hardPosRatio s.hardNegRatio (thrVal u' s.negate .fpr) (thrVal u' s.negate .fnr) p := by
  obtain ⟨g1, g2, g3, g4⟩ := c08e_extremes_negate s hp hn
  unfold c08e_finish
  rw [c08e_hardPos_negate, c08e_hardNeg_negate, g1, g2, g3, g4]

theorem c08e_eer_empty (u : Ulp) (s : Scores) (fuel : ℕ)
    (h : s.pos.length = 0 ∨ s.neg.length = 0) : s.eer u fuel = .error .other := by
  rw [eeri_eer_eq_core]; unfold eeri_core; rw [if_pos h]

/-! ### regularity of a whole run -/

/-- the final threshold call(s) of a path are regular -/
def c08e_finalRegular (s : Scores) : c08e_Path → Bool
  | .capClose => c08n_regular s .fpr (c08e_maxEer s) && c08n_regular s .fnr (c08e_maxEer s)
  | .capPos => c08n_regular s .fpr s.hardPosRatio
  | .capNeg => c08n_regular s .fnr s.hardNegRatio
  | .root e => c08n_regular s .fpr e
  | _ => true

/-- **Decidable hypothesis of `C08_negate_eer_partial`**: every threshold call that
`s.eer u fuel` makes (at `max_eer`, at the midpoints of the two bisections, and the final one)
has its normalised target outside the excluded stretch of `C08_negate_threshold`. -/
def c08e_regularRun (u : Ulp) (s : Scores) (fuel : ℕ) : Bool :=
  (c08e_probes u s fuel).all (c08e_regularAt s) && c08e_finalRegular s (c08e_eerPath u s fuel)

theorem c08e_finalNeg_of_regular (u u' : Ulp) (hc : c08n_NegCompat u u') (s : Scores)
    (hp : s.pos.length ≠ 0) (hn : s.neg.length ≠ 0) (p : c08e_Path)
    (h : c08e_finalRegular s p = true) :
    c08e_coreFinalNeg s.hardPosRatio s.hardNegRatio (thrVal u s .fpr) (thrVal u s .fnr)
      (thrVal u' s.negate .fpr) (thrVal u' s.negate .fnr) p := by
  cases p <;> simp only [c08e_finalRegular, c08e_maxEer, Bool.and_eq_true] at h <;>
    simp only [c08e_coreFinalNeg]
  · exact ⟨c08e_thrVal_negate u u' hc s .fpr _ hn h.1, c08e_thrVal_negate u u' hc s .fnr _ hp h.2⟩
  · exact c08e_thrVal_negate u u' hc s .fpr _ hn h
  · exact c08e_thrVal_negate u u' hc s .fnr _ hp h
  · exact c08e_thrVal_negate u u' hc s .fpr _ hn h

end SA

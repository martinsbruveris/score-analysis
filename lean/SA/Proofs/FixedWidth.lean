/-
Helper lemmas for the `fixed_width_band_ci` part of C16: clipping, the scan of `np.interp` on a
monotone table (bounds, monotone in the table), the shape / order / monotonicity of displaced
curves, the band assembly and `_is_contained` written out, the bisection loop.
-/
import SA.Model.FixedWidth
import Mathlib.Tactic.Linarith
import Mathlib.Tactic.Ring
import Mathlib.Tactic.LinearCombination
import Mathlib.Tactic.NormNum
import Mathlib.Tactic.Positivity
import Mathlib.Algebra.Order.Field.Rat
import Mathlib.Data.List.Forall2
import Mathlib.Data.List.Pairwise

namespace SA

/-! ### clipping -/

theorem c16f_clip01_mono {a b : ℚ} (h : a ≤ b) : c16f_clip01 a ≤ c16f_clip01 b :=
  min_le_min (max_le_max h (le_refl _)) (le_refl _)

theorem c16f_clip01_nonneg (a : ℚ) : 0 ≤ c16f_clip01 a :=
  le_min (le_max_right _ _) zero_le_one

theorem c16f_clip01_le_one (a : ℚ) : c16f_clip01 a ≤ 1 := min_le_right _ _

/-! ### one segment of the interpolation

The value at `x` on the segment from `(a, b)` to `(a', b')` is `b + (b' - b) t` with the parameter
`t = (x - a) / (a' - a)`, which lies in `[0, 1]` for `a ≤ x < a'`. -/

theorem c16f_seg_eq (a b a' b' x : ℚ) :
    (b' - b) / (a' - a) * (x - a) + b = b + (b' - b) * ((x - a) / (a' - a)) := by ring

theorem c16f_seg_param {a a' x : ℚ} (hax : a ≤ x) (hxa : x < a') :
    0 ≤ (x - a) / (a' - a) ∧ (x - a) / (a' - a) ≤ 1 := by
  have hd : 0 < a' - a := sub_pos.mpr (hax.trans_lt hxa)
  exact ⟨div_nonneg (sub_nonneg.mpr hax) hd.le, (div_le_one hd).mpr (sub_le_sub_right hxa.le a)⟩

theorem c16f_seg_bounds {a b a' b' x : ℚ} (hax : a ≤ x) (hxa : x < a') (hb : b' ≤ b) :
    b' ≤ (b' - b) / (a' - a) * (x - a) + b ∧ (b' - b) / (a' - a) * (x - a) + b ≤ b := by
  obtain ⟨t0, t1⟩ := c16f_seg_param hax hxa
  rw [c16f_seg_eq]
  constructor
  · linear_combination mul_le_mul_of_nonneg_left t1 (sub_nonneg.mpr hb)
  · exact add_le_of_nonpos_right (mul_nonpos_of_nonpos_of_nonneg (sub_nonpos.mpr hb) t0)

/-- moving both end points of a descending segment to the right and up raises the interpolated
value at every common abscissa -/
theorem c16f_seg_mono {aM bM aM' bM' aP bP aP' bP' x : ℚ}
    (ha : aM ≤ aP) (hb : bM ≤ bP) (ha' : aM' ≤ aP') (hb' : bM' ≤ bP')
    (hPx : aP ≤ x) (hxM : x < aM') (hP : bP' ≤ bP) :
    (bM' - bM) / (aM' - aM) * (x - aM) + bM ≤ (bP' - bP) / (aP' - aP) * (x - aP) + bP := by
  have hdM : 0 < aM' - aM := sub_pos.mpr ((ha.trans hPx).trans_lt hxM)
  have hdP : 0 < aP' - aP := sub_pos.mpr (hPx.trans_lt (hxM.trans_le ha'))
  obtain ⟨ht0, ht1⟩ := c16f_seg_param (ha.trans hPx) hxM
  rw [c16f_seg_eq, c16f_seg_eq]
  generalize ht : (x - aM) / (aM' - aM) = t at ht0 ht1 ⊢
  generalize hu : (x - aP) / (aP' - aP) = u
  have ht' : t * (aM' - aM) = x - aM := by rw [← ht]; exact div_mul_cancel₀ _ hdM.ne'
  have hu' : u * (aP' - aP) = x - aP := by rw [← hu]; exact div_mul_cancel₀ _ hdP.ne'
  -- the parameter of `x` on the second segment is the smaller one
  have hut : 0 ≤ t - u := by
    refine nonneg_of_mul_nonneg_left ?_ hdP
    have : (t - u) * (aP' - aP) = t * (aP' - aM') + (1 - t) * (aP - aM) := by
      linear_combination ht' - hu'
    rw [this]
    exact add_nonneg (mul_nonneg ht0 (sub_nonneg.mpr ha'))
      (mul_nonneg (sub_nonneg.mpr ht1) (sub_nonneg.mpr ha))
  -- `P(x) - M(x) = (t - u) (bP - bP') + (1 - t) (bP - bM) + t (bP' - bM')`, three products `≥ 0`
  linear_combination mul_nonneg hut (sub_nonneg.mpr hP) +
    mul_nonneg (sub_nonneg.mpr ht1) (sub_nonneg.mpr hb) + mul_nonneg ht0 (sub_nonneg.mpr hb')

/-! ### the scan of `np.interp` on a monotone table -/

/-- order of two table points, the first one earlier in the table: abscissae non-decreasing,
ordinates non-increasing -/
def c16f_tableR (p q : ℚ × ℚ) : Prop := p.1 ≤ q.1 ∧ q.2 ≤ p.2

/-- the second point lies to the right of and above the first -/
def c16f_tableLe (p q : ℚ × ℚ) : Prop := p.1 ≤ q.1 ∧ p.2 ≤ q.2

theorem c16f_interpScan_cons_le {x a b a' b' : ℚ} (rest : List (ℚ × ℚ)) (h : a' ≤ x) :
    c16f_interpScan x a b ((a', b') :: rest) = c16f_interpScan x a' b' rest := by
  rw [c16f_interpScan, if_pos h]

/-- the scan stops at the first abscissa beyond `x`; the test `a = x` of the code does not change
the value, since the segment formula gives `b` at `x = a` -/
theorem c16f_interpScan_cons_lt {x a b a' b' : ℚ} (rest : List (ℚ × ℚ)) (h : x < a') :
    c16f_interpScan x a b ((a', b') :: rest) = (b' - b) / (a' - a) * (x - a) + b := by
  rw [c16f_interpScan, if_neg (not_le.mpr h)]
  split
  · next he => rw [he, sub_self, mul_zero, zero_add]
  · rfl

theorem c16f_getLast_cons (p c : ℚ × ℚ) (rest : List (ℚ × ℚ)) :
    (c :: rest).getLast?.getD p = rest.getLast?.getD c := by
  rw [List.getLast?_cons, Option.getD_some]

theorem c16f_getLast_mem (p : ℚ × ℚ) (rest : List (ℚ × ℚ)) :
    rest.getLast?.getD p ∈ p :: rest := by
  rw [← c16f_getLast_cons p p]
  exact List.mem_of_getLast? (List.getLast?_cons ▸ rfl)

theorem c16f_last_le (p : ℚ × ℚ) (rest : List (ℚ × ℚ)) (h : (p :: rest).Pairwise c16f_tableR) :
    (rest.getLast?.getD p).2 ≤ p.2 ∧ p.1 ≤ (rest.getLast?.getD p).1 := by
  rcases List.mem_cons.mp (c16f_getLast_mem p rest) with e | hq
  · rw [e]; exact ⟨le_refl _, le_refl _⟩
  · exact ((List.pairwise_cons.mp h).1 _ hq).symm

theorem c16f_scan_bounds (x : ℚ) : ∀ (rest : List (ℚ × ℚ)) (a b : ℚ),
    ((a, b) :: rest).Pairwise c16f_tableR → a ≤ x →
    (rest.getLast?.getD (a, b)).2 ≤ c16f_interpScan x a b rest ∧ c16f_interpScan x a b rest ≤ b := by
  intro rest
  induction rest with
  | nil => intro a b _ _; exact ⟨le_refl _, le_refl _⟩
  | cons p rest ih =>
    intro a b h hax
    obtain ⟨a', b'⟩ := p
    have h1 := List.pairwise_cons.mp h
    have hR : c16f_tableR (a, b) (a', b') := h1.1 _ List.mem_cons_self
    rw [c16f_getLast_cons]
    rcases le_or_gt a' x with hc | hc
    · rw [c16f_interpScan_cons_le rest hc]
      exact ⟨(ih a' b' h1.2 hc).1, (ih a' b' h1.2 hc).2.trans hR.2⟩
    · rw [c16f_interpScan_cons_lt rest hc]
      obtain ⟨s1, s2⟩ := c16f_seg_bounds hax hc hR.2
      exact ⟨(c16f_last_le (a', b') rest h1.2).1.trans s1, s2⟩

/-- **the scan is monotone in the table**: if every point of the second table lies to the right of
and above the corresponding point of the first, the second scan is at least the first. -/
theorem c16f_scan_mono (x : ℚ) : ∀ (rM rP : List (ℚ × ℚ)) (aM bM aP bP : ℚ),
    List.Forall₂ c16f_tableLe rM rP →
    ((aM, bM) :: rM).Pairwise c16f_tableR → ((aP, bP) :: rP).Pairwise c16f_tableR →
    aM ≤ aP → bM ≤ bP → aP ≤ x →
    c16f_interpScan x aM bM rM ≤ c16f_interpScan x aP bP rP := by
  intro rM rP aM bM aP bP hF
  induction hF generalizing aM bM aP bP with
  | nil => intro _ _ _ hb _; exact hb
  | @cons pM pP rM rP hp _ ih =>
    intro hM hP ha hb hPx
    obtain ⟨aM', bM'⟩ := pM
    obtain ⟨aP', bP'⟩ := pP
    have hM1 := List.pairwise_cons.mp hM
    have hP1 := List.pairwise_cons.mp hP
    have hRP : c16f_tableR (aP, bP) (aP', bP') := hP1.1 _ List.mem_cons_self
    rcases le_or_gt aP' x with hcP | hcP
    · -- both scans advance
      rw [c16f_interpScan_cons_le rP hcP, c16f_interpScan_cons_le rM (hp.1.trans hcP)]
      exact ih aM' bM' aP' bP' hM1.2 hP1.2 hp.1 hp.2 hcP
    · rw [c16f_interpScan_cons_lt rP hcP]
      rcases le_or_gt aM' x with hcM | hcM
      · -- only the first advances: it stays below `bM' ≤ bP'`, the second above `bP'`
        rw [c16f_interpScan_cons_le rM hcM]
        exact ((c16f_scan_bounds x rM aM' bM' hM1.2 hcM).2.trans hp.2).trans
          (c16f_seg_bounds hPx hcP hRP.2).1
      · rw [c16f_interpScan_cons_lt rM hcM]
        exact c16f_seg_mono ha hb hp.1 hp.2 hPx hcM hRP.2

/-! ### `np.interp` for one abscissa -/

theorem c16f_interp1_cons (x a b : ℚ) (rest : List (ℚ × ℚ)) :
    c16f_interp1 x ((a, b) :: rest) =
      if (rest.getLast?.getD (a, b)).1 < x then (rest.getLast?.getD (a, b)).2
      else if x < a then b else c16f_interpScan x a b rest := rfl

theorem c16f_interp1_range (x a b : ℚ) (rest : List (ℚ × ℚ))
    (h : ((a, b) :: rest).Pairwise c16f_tableR) :
    (rest.getLast?.getD (a, b)).2 ≤ c16f_interp1 x ((a, b) :: rest) ∧
    c16f_interp1 x ((a, b) :: rest) ≤ b := by
  have hl := (c16f_last_le (a, b) rest h).1
  rw [c16f_interp1_cons]
  split
  · exact ⟨le_refl _, hl⟩
  · split
    · exact ⟨hl, le_refl _⟩
    · next h2 => exact c16f_scan_bounds x rest a b h (not_lt.mp h2)

theorem c16f_interp1_bounds (x lo hi : ℚ) (pts : List (ℚ × ℚ)) (hne : pts ≠ [])
    (h : pts.Pairwise c16f_tableR) (hb : ∀ p ∈ pts, lo ≤ p.2 ∧ p.2 ≤ hi) :
    lo ≤ c16f_interp1 x pts ∧ c16f_interp1 x pts ≤ hi := by
  cases pts with
  | nil => exact absurd rfl hne
  | cons p rest =>
    obtain ⟨a, b⟩ := p
    have hr := c16f_interp1_range x a b rest h
    exact ⟨(hb _ (c16f_getLast_mem (a, b) rest)).1.trans hr.1,
      hr.2.trans (hb (a, b) List.mem_cons_self).2⟩

theorem c16f_last_forall2 {R : ℚ × ℚ → ℚ × ℚ → Prop} {rM rP : List (ℚ × ℚ)}
    (hF : List.Forall₂ R rM rP) : ∀ pM pP, R pM pP →
    R (rM.getLast?.getD pM) (rP.getLast?.getD pP) := by
  induction hF with
  | nil => intro pM pP h; exact h
  | @cons cM cP rM rP hc _ ih =>
    intro pM pP _
    rw [c16f_getLast_cons, c16f_getLast_cons]
    exact ih cM cP hc

/-- **`np.interp` is monotone in the table**: two monotone tables of the same length, every point of
the second to the right of and above the corresponding point of the first; then at every abscissa
the second interpolated value is at least the first. -/
theorem c16f_interp1_mono (x : ℚ) (ptsM ptsP : List (ℚ × ℚ))
    (hF : List.Forall₂ c16f_tableLe ptsM ptsP)
    (hM : ptsM.Pairwise c16f_tableR) (hP : ptsP.Pairwise c16f_tableR) :
    c16f_interp1 x ptsM ≤ c16f_interp1 x ptsP := by
  cases hF with
  | nil => exact le_refl _
  | @cons pM pP rM rP hp hF =>
    obtain ⟨aM, bM⟩ := pM
    obtain ⟨aP, bP⟩ := pP
    have hlast := c16f_last_forall2 hF (aM, bM) (aP, bP) hp
    have hrP := c16f_interp1_range x aP bP rP hP
    rw [c16f_interp1_cons x aM]
    split
    · -- right of the first table: its last ordinate is below the second table's
      exact hlast.2.trans hrP.1
    · next h1 =>
      rw [c16f_interp1_cons, if_neg (fun hc => h1 (lt_of_le_of_lt hlast.1 hc))]
      split
      · next h2 => rw [if_pos (lt_of_lt_of_le h2 hp.1)]; exact hp.2
      · next h2 =>
        have hsM := (c16f_scan_bounds x rM aM bM hM (not_lt.mp h2)).2
        split
        · exact hsM.trans hp.2
        · next h2P => exact c16f_scan_mono x rM rP aM bM aP bP hF hM hP hp.1 hp.2 (not_lt.mp h2P)

/-! ### replacing the two end entries of an array

`_displace_curve` overwrites the first and then the last entry of each clipped array. -/

def c16f_ends (lo hi : ℚ) (l : List ℚ) : List ℚ := (l.set 0 lo).set (l.length - 1) hi

theorem c16f_ends_length (lo hi : ℚ) (l : List ℚ) : (c16f_ends lo hi l).length = l.length := by
  simp only [c16f_ends, List.length_set]

theorem c16f_ends_getElem (lo hi : ℚ) (l : List ℚ) (i : ℕ) (h : i < (c16f_ends lo hi l).length) :
    (c16f_ends lo hi l)[i] =
      if l.length - 1 = i then hi else if 0 = i then lo else l[i]'(c16f_ends_length lo hi l ▸ h) := by
  simp only [c16f_ends, List.getElem_set]

/-- with a single entry the second assignment overwrites the first, hence `2 ≤ l.length` -/
theorem c16f_ends_head? (lo hi : ℚ) {l : List ℚ} (h : 2 ≤ l.length) :
    (c16f_ends lo hi l).head? = some lo := by
  have h0 : 0 < (c16f_ends lo hi l).length := by rw [c16f_ends_length]; omega
  rw [List.head?_eq_getElem?, List.getElem?_eq_getElem h0, c16f_ends_getElem, if_neg (by omega),
    if_pos rfl]

theorem c16f_ends_getLast? (lo hi : ℚ) {l : List ℚ} (h : l.length ≠ 0) :
    (c16f_ends lo hi l).getLast? = some hi := by
  have hl := c16f_ends_length lo hi l
  rw [List.getLast?_eq_getElem?, List.getElem?_eq_getElem (by omega), c16f_ends_getElem,
    if_pos (by rw [hl])]

theorem c16f_mem_ends {lo hi a : ℚ} {l : List ℚ} (h : a ∈ c16f_ends lo hi l) :
    a = lo ∨ a = hi ∨ a ∈ l := by
  rcases List.mem_or_eq_of_mem_set h with h | h
  · rcases List.mem_or_eq_of_mem_set h with h | h
    · exact Or.inr (Or.inr h)
    · exact Or.inl h
  · exact Or.inr (Or.inl h)

theorem c16f_set_last_pairwise {r : ℚ → ℚ → Prop} {hi : ℚ} : ∀ {l : List ℚ}, l.Pairwise r →
    (∀ a ∈ l, r a hi) → (l.set (l.length - 1) hi).Pairwise r
  | [], _, _ => List.Pairwise.nil
  | [_], _, _ => List.pairwise_singleton _ _
  | a :: b :: l, hl, hhi => by
    have h1 := List.pairwise_cons.mp hl
    have ih := c16f_set_last_pairwise h1.2 (fun c hc => hhi c (List.mem_cons_of_mem _ hc))
    refine List.pairwise_cons.mpr ⟨fun c hc => ?_, ih⟩
    rcases List.mem_or_eq_of_mem_set hc with hc | hc
    · exact h1.1 c hc
    · rw [hc]; exact hhi a List.mem_cons_self

theorem c16f_ends_pairwise {r : ℚ → ℚ → Prop} {lo hi : ℚ} {l : List ℚ} (hl : l.Pairwise r)
    (hlo : ∀ a ∈ l, r lo a) (hhi : ∀ a ∈ l, r a hi) (hlh : r lo hi) :
    (c16f_ends lo hi l).Pairwise r := by
  cases l with
  | nil => exact List.Pairwise.nil
  | cons a l =>
    -- `(a :: l).set 0 lo` is `lo :: l`
    refine c16f_set_last_pairwise (l := lo :: l)
      (List.pairwise_cons.mpr ⟨fun c hc => hlo c (List.mem_cons_of_mem _ hc),
        (List.pairwise_cons.mp hl).2⟩) fun c hc => ?_
    rcases List.mem_cons.mp hc with rfl | hc
    · exact hlh
    · exact hhi c (List.mem_cons_of_mem _ hc)

theorem c16f_set_forall₂ {R : ℚ → ℚ → Prop} {l l' : List ℚ} (h : List.Forall₂ R l l')
    {a a' : ℚ}
    (ha : R a a') : ∀ i, List.Forall₂ R (l.set i a) (l'.set i a') := by
  induction h with
  | nil => intro i; exact List.Forall₂.nil
  | cons hb hl ih =>
    intro i
    cases i with
    | zero => exact List.Forall₂.cons ha hl
    | succ i => exact List.Forall₂.cons hb (ih i)

theorem c16f_ends_forall₂ {R : ℚ → ℚ → Prop} {l l' : List ℚ} (h : List.Forall₂ R l l')
    {lo lo' hi hi' : ℚ} (hlo : R lo lo') (hhi : R hi hi') :
    List.Forall₂ R (c16f_ends lo hi l) (c16f_ends lo' hi' l') := by
  unfold c16f_ends
  rw [h.length_eq]
  exact c16f_set_forall₂ (c16f_set_forall₂ h hlo 0) hhi _

/-! ### displaced curves -/

def c16f_dispX (top : ℚ) (x : List ℚ) (v : ℚ) : List ℚ :=
  c16f_ends 0 top (x.map fun a => c16f_clip01 (a + v))

def c16f_dispY (top : ℚ) (y : List ℚ) (v : ℚ) : List ℚ :=
  c16f_ends top 0 (y.map fun b => c16f_clip01 (b + v))

theorem c16f_displaceCurve_eq (top : ℚ) (x y : List ℚ) (v0 v1 : ℚ) :
    c16f_displaceCurve top x y v0 v1 =
      if x.length = 0 ∨ y.length = 0 then .error .other
      else .ok (c16f_dispX top x v0, c16f_dispY top y v1) := by
  simp only [c16f_displaceCurve, c16f_dispX, c16f_dispY, c16f_ends, List.length_map]

theorem c16f_displace_ok_iff (top : ℚ) (x y : List ℚ) (v0 v1 : ℚ) (x' y' : List ℚ) :
    c16f_displaceCurve top x y v0 v1 = .ok (x', y') ↔
      (x.length ≠ 0 ∧ y.length ≠ 0) ∧ x' = c16f_dispX top x v0 ∧ y' = c16f_dispY top y v1 := by
  rw [c16f_displaceCurve_eq]
  split
  · next h => simp only [reduceCtorEq, false_iff, not_and]; exact fun h' => absurd h (not_or.mpr h')
  · next h =>
    simp only [Except.ok.injEq, Prod.mk.injEq, not_or.mp h, ne_eq, not_false_eq_true, and_self,
      true_and, eq_comm]

theorem c16f_dispX_length (top : ℚ) (x : List ℚ) (v : ℚ) : (c16f_dispX top x v).length = x.length := by
  rw [c16f_dispX, c16f_ends_length, List.length_map]

theorem c16f_dispY_length (top : ℚ) (y : List ℚ) (v : ℚ) : (c16f_dispY top y v).length = y.length := by
  rw [c16f_dispY, c16f_ends_length, List.length_map]

theorem c16f_disp_head_last (top : ℚ) {l : List ℚ} (h : 2 ≤ l.length) (v : ℚ) :
    ((c16f_dispX top l v).head? = some 0 ∧ (c16f_dispX top l v).getLast? = some top) ∧
    ((c16f_dispY top l v).head? = some top ∧ (c16f_dispY top l v).getLast? = some 0) := by
  have h2 : 2 ≤ (l.map fun a => c16f_clip01 (a + v)).length := by rw [List.length_map]; exact h
  exact ⟨⟨c16f_ends_head? _ _ h2, c16f_ends_getLast? _ _ (by omega)⟩,
    ⟨c16f_ends_head? _ _ h2, c16f_ends_getLast? _ _ (by omega)⟩⟩

theorem c16f_mem_map_clip {top : ℚ} (ht : 1 ≤ top) {l : List ℚ} {v a : ℚ}
    (ha : a ∈ l.map fun a => c16f_clip01 (a + v)) : 0 ≤ a ∧ a ≤ top := by
  obtain ⟨c, _, rfl⟩ := List.mem_map.mp ha
  exact ⟨c16f_clip01_nonneg _, (c16f_clip01_le_one _).trans ht⟩

theorem c16f_disp_range {top : ℚ} (ht : 1 ≤ top) (l : List ℚ) (v : ℚ) :
    (∀ a ∈ c16f_dispX top l v, 0 ≤ a ∧ a ≤ top) ∧
    (∀ a ∈ c16f_dispY top l v, 0 ≤ a ∧ a ≤ top) := by
  have h0 : (0 : ℚ) ≤ top := zero_le_one.trans ht
  constructor <;> intro a ha <;> rcases c16f_mem_ends ha with rfl | rfl | ha
  · exact ⟨le_refl _, h0⟩
  · exact ⟨h0, le_refl _⟩
  · exact c16f_mem_map_clip ht ha
  · exact ⟨h0, le_refl _⟩
  · exact ⟨le_refl _, h0⟩
  · exact c16f_mem_map_clip ht ha

theorem c16f_dispX_sorted {top : ℚ} (ht : 1 ≤ top) {x : List ℚ} (hx : x.Pairwise (· ≤ ·))
    (v : ℚ) :
    (c16f_dispX top x v).Pairwise (· ≤ ·) :=
  c16f_ends_pairwise (hx.map _ fun _ _ h => c16f_clip01_mono (add_le_add_left h v))
    (fun _ ha => (c16f_mem_map_clip ht ha).1) (fun _ ha => (c16f_mem_map_clip ht ha).2)
    (zero_le_one.trans ht)

theorem c16f_dispY_sorted {top : ℚ} (ht : 1 ≤ top) {y : List ℚ} (hy : y.Pairwise (· ≥ ·))
    (v : ℚ) :
    (c16f_dispY top y v).Pairwise (· ≥ ·) :=
  c16f_ends_pairwise (hy.map _ fun _ _ h => c16f_clip01_mono (add_le_add_left h v))
    (fun _ ha => (c16f_mem_map_clip ht ha).2) (fun _ ha => (c16f_mem_map_clip ht ha).1)
    (zero_le_one.trans ht)

theorem c16f_disp_mono (top : ℚ) (l : List ℚ) {v w : ℚ} (h : v ≤ w) :
    List.Forall₂ (· ≤ ·) (c16f_dispX top l v) (c16f_dispX top l w) ∧
    List.Forall₂ (· ≤ ·) (c16f_dispY top l v) (c16f_dispY top l w) := by
  have hm : List.Forall₂ (· ≤ ·) (l.map fun a => c16f_clip01 (a + v))
      (l.map fun a => c16f_clip01 (a + w)) := by
    rw [List.forall₂_map_left_iff, List.forall₂_map_right_iff, List.forall₂_same]
    exact fun a _ => c16f_clip01_mono (add_le_add_right h a)
  exact ⟨c16f_ends_forall₂ hm (le_refl _) (le_refl _), c16f_ends_forall₂ hm (le_refl _) (le_refl _)⟩

theorem c16f_zip_pairwise : ∀ (X Y : List ℚ), X.Pairwise (· ≤ ·) → Y.Pairwise (· ≥ ·) →
    (X.zip Y).Pairwise c16f_tableR := by
  intro X
  induction X with
  | nil => intro Y _ _; simp
  | cons a X ih =>
    intro Y hX hY
    cases Y with
    | nil => simp
    | cons b Y =>
      rw [List.zip_cons_cons, List.pairwise_cons]
      have hX1 := List.pairwise_cons.mp hX
      have hY1 := List.pairwise_cons.mp hY
      refine ⟨?_, ih Y hX1.2 hY1.2⟩
      intro q hq
      obtain ⟨q1, q2⟩ := q
      have := List.of_mem_zip hq
      exact ⟨hX1.1 q1 this.1, hY1.1 q2 this.2⟩

theorem c16f_zip_forall2 {X X' : List ℚ} (hX : List.Forall₂ (· ≤ ·) X X') :
    ∀ {Y Y' : List ℚ}, List.Forall₂ (· ≤ ·) Y Y' →
    List.Forall₂ c16f_tableLe (X.zip Y) (X'.zip Y') := by
  induction hX with
  | nil => intro Y Y' _; simp
  | @cons a a' X X' ha _ ih =>
    intro Y Y' hY
    cases hY with
    | nil => simp
    | @cons b b' Y Y' hb hY =>
      rw [List.zip_cons_cons, List.zip_cons_cons]
      exact List.Forall₂.cons ⟨ha, hb⟩ (ih hY)

/-- the displaced curve as an interpolation table: FPR over FNR, and FNR over FPR (both arrays
reversed, so that the abscissae ascend) -/
def c16f_tabXY (top : ℚ) (x y : List ℚ) (v0 v1 : ℚ) : List (ℚ × ℚ) :=
  (c16f_dispX top x v0).zip (c16f_dispY top y v1)

def c16f_tabYX (top : ℚ) (x y : List ℚ) (v0 v1 : ℚ) : List (ℚ × ℚ) :=
  (c16f_dispY top y v1).reverse.zip (c16f_dispX top x v0).reverse

theorem c16f_tab_pairwise {top : ℚ} {x y : List ℚ} (ht : 1 ≤ top)
    (hx : x.Pairwise (· ≤ ·)) (hy : y.Pairwise (· ≥ ·))
    (v0 v1 : ℚ) :
    (c16f_tabXY top x y v0 v1).Pairwise c16f_tableR ∧
    (c16f_tabYX top x y v0 v1).Pairwise c16f_tableR :=
  ⟨c16f_zip_pairwise _ _ (c16f_dispX_sorted ht hx v0) (c16f_dispY_sorted ht hy v1),
   c16f_zip_pairwise _ _ (List.pairwise_reverse.mpr (c16f_dispY_sorted ht hy v1))
     (List.pairwise_reverse.mpr (c16f_dispX_sorted ht hx v0))⟩

theorem c16f_tab_interp_mono {top : ℚ} {x y : List ℚ} (ht : 1 ≤ top)
    (hx : x.Pairwise (· ≤ ·)) (hy : y.Pairwise (· ≥ ·))
    {v0 v1 w0 w1 : ℚ} (h0 : v0 ≤ w0) (h1 : v1 ≤ w1) (q : ℚ) :
    c16f_interp1 q (c16f_tabXY top x y v0 v1) ≤ c16f_interp1 q (c16f_tabXY top x y w0 w1) ∧
    c16f_interp1 q (c16f_tabYX top x y v0 v1) ≤ c16f_interp1 q (c16f_tabYX top x y w0 w1) := by
  have mX := (c16f_disp_mono top x h0).1
  have mY := (c16f_disp_mono top y h1).2
  obtain ⟨pv, pv'⟩ := c16f_tab_pairwise ht hx hy v0 v1
  obtain ⟨pw, pw'⟩ := c16f_tab_pairwise ht hx hy w0 w1
  exact ⟨c16f_interp1_mono q _ _ (c16f_zip_forall2 mX mY) pv pw,
    c16f_interp1_mono q _ _
      (c16f_zip_forall2 (List.forall₂_reverse_iff.mpr mY) (List.forall₂_reverse_iff.mpr mX)) pv' pw'⟩

theorem c16f_tab_interp_range {top : ℚ} {x y : List ℚ} (ht : 1 ≤ top)
    (hx : x.Pairwise (· ≤ ·)) (hy : y.Pairwise (· ≥ ·))
    (hl : x.length = y.length) (hn : x.length ≠ 0) (v0 v1 q : ℚ) :
    (0 ≤ c16f_interp1 q (c16f_tabXY top x y v0 v1) ∧
      c16f_interp1 q (c16f_tabXY top x y v0 v1) ≤ top) ∧
    (0 ≤ c16f_interp1 q (c16f_tabYX top x y v0 v1) ∧
      c16f_interp1 q (c16f_tabYX top x y v0 v1) ≤ top) := by
  obtain ⟨p, p'⟩ := c16f_tab_pairwise ht hx hy v0 v1
  have hne : ∀ {X Y : List ℚ}, X.length = x.length → Y.length = x.length → X.zip Y ≠ [] := by
    intro X Y hX hY hc
    have := congrArg List.length hc
    rw [List.length_zip, List.length_nil] at this
    omega
  constructor
  · exact c16f_interp1_bounds q 0 top _ (hne (c16f_dispX_length ..) (by rw [c16f_dispY_length, hl]))
      p fun r hr => (c16f_disp_range ht y v1).2 _ (List.of_mem_zip hr).2
  · refine c16f_interp1_bounds q 0 top _ (hne (by rw [List.length_reverse, c16f_dispY_length, hl])
      (by rw [List.length_reverse, c16f_dispX_length])) p' fun r hr => ?_
    exact (c16f_disp_range ht x v0).1 _ (List.mem_reverse.mp (List.of_mem_zip hr).2)

theorem c16f_displaced_interp_mono (top : ℚ) (x y : List ℚ) (v0 v1 w0 w1 : ℚ)
    (xv yv xw yw : List ℚ)
    (hv : c16f_displaceCurve top x y v0 v1 = .ok (xv, yv))
    (hw : c16f_displaceCurve top x y w0 w1 = .ok (xw, yw)) (h0 : v0 ≤ w0) (h1 : v1 ≤ w1)
    (hx : x.Pairwise (· ≤ ·)) (hy : y.Pairwise (· ≥ ·)) (ht : 1 ≤ top) (q : ℚ) :
    c16f_interp1 q (xv.zip yv) ≤ c16f_interp1 q (xw.zip yw) ∧
    c16f_interp1 q (yv.reverse.zip xv.reverse) ≤ c16f_interp1 q (yw.reverse.zip xw.reverse) := by
  obtain ⟨_, rfl, rfl⟩ := (c16f_displace_ok_iff ..).mp hv
  obtain ⟨_, rfl, rfl⟩ := (c16f_displace_ok_iff ..).mp hw
  exact c16f_tab_interp_mono ht hx hy h0 h1 q

/-! ### the band assembly -/

theorem c16f_interp_ok_iff (xs xp fp r : List ℚ) :
    c16f_interp xs xp fp = .ok r ↔
      xp.length ≠ 0 ∧ xp.length = fp.length ∧ r = xs.map fun x => c16f_interp1 x (xp.zip fp) := by
  unfold c16f_interp
  split
  · next hc => simp only [reduceCtorEq, false_iff]; exact fun h => hc.elim h.1 (fun hne => hne h.2.1)
  · next hc =>
    rw [not_or, not_not] at hc
    exact ⟨fun h => ⟨hc.1, hc.2, (Except.ok.inj h).symm⟩, fun h => congrArg _ h.2.2.symm⟩

theorem c16f_tab_interp_ok (top : ℚ) {x y : List ℚ} (hl : x.length = y.length) (hn : x.length ≠ 0)
    (xs : List ℚ) (v0 v1 : ℚ) :
    c16f_interp xs (c16f_dispX top x v0) (c16f_dispY top y v1) =
      .ok (xs.map fun q => c16f_interp1 q (c16f_tabXY top x y v0 v1)) ∧
    c16f_interp xs (c16f_dispY top y v1).reverse (c16f_dispX top x v0).reverse =
      .ok (xs.map fun q => c16f_interp1 q (c16f_tabYX top x y v0 v1)) := by
  constructor
  · exact (c16f_interp_ok_iff ..).mpr ⟨by rw [c16f_dispX_length]; exact hn,
      by rw [c16f_dispX_length, c16f_dispY_length, hl], rfl⟩
  · exact (c16f_interp_ok_iff ..).mpr ⟨by rw [List.length_reverse, c16f_dispY_length, ← hl]; exact hn,
      by rw [List.length_reverse, List.length_reverse, c16f_dispX_length, c16f_dispY_length, hl], rfl⟩

theorem c16f_displace_ok (top : ℚ) {x y : List ℚ} (hl : x.length = y.length) (hn : x.length ≠ 0)
    (v0 v1 : ℚ) :
    c16f_displaceCurve top x y v0 v1 = .ok (c16f_dispX top x v0, c16f_dispY top y v1) := by
  rw [c16f_displaceCurve_eq, if_neg (not_or.mpr ⟨hn, hl ▸ hn⟩)]

theorem c16f_band_ok (top : ℚ) (f g : List ℚ) (k delta : ℚ) (hl : f.length = g.length)
    (hn : f.length ≠ 0) :
    c16f_bandFromDelta top f g k delta = .ok
      (g.map (fun q => (c16f_interp1 q (c16f_tabYX top f g (-delta) (-(delta * k))),
                        c16f_interp1 q (c16f_tabYX top f g delta (delta * k)))),
       f.map (fun q => (c16f_interp1 q (c16f_tabXY top f g (-delta) (-(delta * k))),
                        c16f_interp1 q (c16f_tabXY top f g delta (delta * k))))) := by
  simp only [c16f_bandFromDelta, c16f_displace_ok top hl hn, c16f_tab_interp_ok top hl hn,
    List.zip_map']

theorem c16f_band_eq (top : ℚ) (f g : List ℚ) (k delta : ℚ) (hl : f.length = g.length)
    (hn : f.length ≠ 0) :
    ∃ fP gP fM gM,
      c16f_displaceCurve top f g delta (delta * k) = .ok (fP, gP) ∧
      c16f_displaceCurve top f g (-delta) (-(delta * k)) = .ok (fM, gM) ∧
      c16f_bandFromDelta top f g k delta = .ok
        (g.map (fun q => (c16f_interp1 q (gM.reverse.zip fM.reverse),
                          c16f_interp1 q (gP.reverse.zip fP.reverse))),
         f.map (fun q => (c16f_interp1 q (fM.zip gM), c16f_interp1 q (fP.zip gP)))) :=
  ⟨_, _, _, _, c16f_displace_ok top hl hn _ _, c16f_displace_ok top hl hn _ _,
    c16f_band_ok top f g k delta hl hn⟩

theorem c16f_band_inv (top : ℚ) (f g : List ℚ) (k delta : ℚ) (b : List Iv × List Iv)
    (h : c16f_bandFromDelta top f g k delta = .ok b) : f.length = g.length ∧ f.length ≠ 0 := by
  unfold c16f_bandFromDelta at h
  split at h
  · cases h
  · split at h
    · cases h
    · next fM gM hM =>
      obtain ⟨⟨hf0, _⟩, rfl, rfl⟩ := (c16f_displace_ok_iff ..).mp hM
      split at h
      · cases h
      · next hLo =>
        obtain ⟨_, hlen, _⟩ := (c16f_interp_ok_iff ..).mp hLo
        rw [List.length_reverse, List.length_reverse, c16f_dispY_length, c16f_dispX_length] at hlen
        exact ⟨hlen.symm, hf0⟩

/-! ### containment -/

/-- used with `F`, `F'` the readings of the curve displaced by two radii -/
theorem c16f_all_zip_map_imp {p p' : ℚ × ℚ → Bool} {F F' : ℚ → ℚ}
    (h : ∀ q b, p (F q, b) = true → p' (F' q, b) = true) (xs ys : List ℚ)
    (hall : ((xs.map F).zip ys).all p = true) : ((xs.map F').zip ys).all p' = true := by
  rw [List.zip_map_left, List.all_map, List.all_eq_true] at hall ⊢
  exact fun r hr => h _ _ (hall r hr)

theorem c16f_isContained_ok (top : ℚ) (x y xs ys : List ℚ) (k delta : ℚ) (hl : x.length = y.length)
    (hn : x.length ≠ 0) :
    c16f_isContained top x y xs ys k delta = .ok
      (c16f_allGe (xs.map fun q => c16f_interp1 q (c16f_tabXY top x y (delta * 1) (delta * k))) ys &&
       c16f_allLe (xs.map fun q => c16f_interp1 q (c16f_tabXY top x y (-delta * 1) (-delta * k))) ys) := by
  simp only [c16f_isContained, c16f_displace_ok top hl hn, c16f_tab_interp_ok top hl hn]

theorem c16f_isContained_inv (top : ℚ) (x y xs ys : List ℚ) (k delta : ℚ) (b : Bool)
    (h : c16f_isContained top x y xs ys k delta = .ok b) : x.length = y.length ∧ x.length ≠ 0 := by
  unfold c16f_isContained at h
  split at h
  · cases h
  · next xp yp hP =>
    obtain ⟨⟨hx0, _⟩, rfl, rfl⟩ := (c16f_displace_ok_iff ..).mp hP
    split at h
    · cases h
    · next hI =>
      obtain ⟨_, hlen, _⟩ := (c16f_interp_ok_iff ..).mp hI
      rw [c16f_dispY_length, c16f_dispX_length] at hlen
      exact ⟨hlen, hx0⟩

/-! ### the bisection loop -/

theorem c16f_tol_bounds : (1 : ℚ) / 128 ≤ c16f_tol ∧ c16f_tol < 1 / 64 := by
  unfold c16f_tol; constructor <;> norm_num

theorem c16f_bisectLoop_narrow (c : ℚ → Except Err Bool) (fuel : ℕ) {lo hi : ℚ}
    (h : ¬ hi - lo > c16f_tol) : c16f_bisectLoop c fuel lo hi = .ok ((hi + lo) / 2) := by
  cases fuel with
  | zero => rfl
  | succ n => rw [c16f_bisectLoop, if_neg h]

theorem c16f_bisectLoop_wide {c : ℚ → Except Err Bool} {fuel : ℕ} {lo hi r : ℚ}
    (hw : hi - lo > c16f_tol) (h : c16f_bisectLoop c (fuel + 1) lo hi = .ok r) :
    (c ((hi + lo) / 2) = .ok true ∧ c16f_bisectLoop c fuel lo ((hi + lo) / 2) = .ok r) ∨
    (c ((hi + lo) / 2) = .ok false ∧ c16f_bisectLoop c fuel ((hi + lo) / 2) hi = .ok r) := by
  rw [c16f_bisectLoop, if_pos hw] at h
  simp only at h
  split at h
  · cases h
  · next hc => exact Or.inl ⟨hc, h⟩
  · next hc => exact Or.inr ⟨hc, h⟩

theorem c16f_mid_lt {lo hi : ℚ} (h : lo < hi) : lo < (hi + lo) / 2 ∧ (hi + lo) / 2 < hi := by
  constructor <;> linarith

theorem c16f_bisect_bracket (c : ℚ → Except Err Bool) : ∀ (fuel : ℕ) (lo hi r : ℚ),
    c16f_bisectLoop c fuel lo hi = .ok r → lo < hi →
    ∃ lo' hi', lo ≤ lo' ∧ lo' < hi' ∧ hi' ≤ hi ∧ r = (hi' + lo') / 2 ∧
      (lo' = lo ∨ c lo' = .ok false) ∧ (hi' = hi ∨ c hi' = .ok true) := by
  intro fuel
  induction fuel with
  | zero =>
    intro lo hi r h hlt
    injection h with h
    exact ⟨lo, hi, le_refl _, hlt, le_refl _, h.symm, Or.inl rfl, Or.inl rfl⟩
  | succ fuel ih =>
    intro lo hi r h hlt
    obtain ⟨hm1, hm2⟩ := c16f_mid_lt hlt
    by_cases hw : hi - lo > c16f_tol
    · rcases c16f_bisectLoop_wide hw h with ⟨hc, h⟩ | ⟨hc, h⟩
      · obtain ⟨lo', hi', h1, h2, h3, h4, h5, h6⟩ := ih lo _ r h hm1
        exact ⟨lo', hi', h1, h2, h3.trans hm2.le, h4, h5, Or.inr (h6.elim (fun e => e ▸ hc) id)⟩
      · obtain ⟨lo', hi', h1, h2, h3, h4, h5, h6⟩ := ih _ hi r h hm2
        exact ⟨lo', hi', hm1.le.trans h1, h2, h3, h4, Or.inr (h5.elim (fun e => e ▸ hc) id), h6⟩
    · rw [c16f_bisectLoop_narrow c _ hw] at h
      injection h with h
      exact ⟨lo, hi, le_refl _, hlt, le_refl _, h.symm, Or.inl rfl, Or.inl rfl⟩

/-- `1/128 ≤ tol`: a bracket at most `2^fuel / 128` wide is halved at most `fuel` times -/
theorem c16f_bisect_fuel_aux (c : ℚ → Except Err Bool) : ∀ (fuel extra : ℕ) (lo hi : ℚ),
    hi - lo ≤ 2 ^ fuel / 128 →
    c16f_bisectLoop c (fuel + extra) lo hi = c16f_bisectLoop c fuel lo hi := by
  intro fuel
  induction fuel with
  | zero =>
    intro extra lo hi hw
    have hnot : ¬ (hi - lo > c16f_tol) := by
      rw [pow_zero] at hw
      exact not_lt.mpr (hw.trans c16f_tol_bounds.1)
    rw [c16f_bisectLoop_narrow c _ hnot, c16f_bisectLoop_narrow c _ hnot]
  | succ fuel ih =>
    intro extra lo hi hw
    have hh : (hi - lo) / 2 ≤ 2 ^ fuel / 128 := by
      rw [pow_succ, mul_div_right_comm] at hw
      exact (div_le_iff₀ two_pos).mpr hw
    have e1 : (hi + lo) / 2 - lo = (hi - lo) / 2 := by ring
    have e2 : hi - (hi + lo) / 2 = (hi - lo) / 2 := by ring
    rw [Nat.add_right_comm, c16f_bisectLoop, c16f_bisectLoop]
    simp only [ih extra lo _ (e1.trans_le hh), ih extra _ hi (e2.trans_le hh)]

theorem c16f_dyadic_halves (m : ℚ) (j : ℕ) :
    ((m + 1) / 2 ^ j + m / 2 ^ j) / 2 = (2 * m + 1) / 2 ^ (j + 1) ∧
    m / 2 ^ j = (2 * m) / 2 ^ (j + 1) ∧ (m + 1) / 2 ^ j = (2 * m + 1 + 1) / 2 ^ (j + 1) := by
  have e : ∀ a : ℚ, a / 2 ^ j = (a * 2) / 2 ^ (j + 1) := fun a => by
    rw [pow_succ, mul_div_mul_right _ _ two_ne_zero]
  refine ⟨?_, ?_, ?_⟩
  · rw [← add_div, div_div, ← pow_succ]; congr 1; ring
  · rw [e m, mul_comm]
  · rw [e (m + 1)]; congr 1; ring

/-- the invariant of the loop started at `(0, 1)`: after `j` iterations the bracket is
`(m / 2^j, (m + 1) / 2^j)`, still wider than `tol` for `j ≤ 6` and not for `j = 7` -/
theorem c16f_bisect_grid_aux (c : ℚ → Except Err Bool) : ∀ (fuel j m : ℕ) (r : ℚ),
    fuel + j = 7 → m + 1 ≤ 2 ^ j →
    c16f_bisectLoop c fuel ((m : ℚ) / 2 ^ j) (((m : ℚ) + 1) / 2 ^ j) = .ok r →
    ∃ m' : ℕ, m' < 128 ∧ r = (2 * (m' : ℚ) + 1) / 256 := by
  intro fuel
  induction fuel with
  | zero =>
    intro j m r hj hm h
    obtain rfl : j = 7 := (Nat.zero_add j).symm.trans hj
    injection h with h
    exact ⟨m, hm, by rw [← h, (c16f_dyadic_halves m 7).1]; rfl⟩
  | succ fuel ih =>
    intro j m r hj hm h
    obtain ⟨emid, elo, ehi⟩ := c16f_dyadic_halves m j
    -- the bracket is `1 / 2^j ≥ 1/64 > tol` wide
    have hwid : ((m : ℚ) + 1) / 2 ^ j - (m : ℚ) / 2 ^ j > c16f_tol := by
      rw [← sub_div, add_sub_cancel_left]
      have hpow : (2 : ℚ) ^ j ≤ 2 ^ 6 := pow_le_pow_right₀ one_le_two (by omega)
      exact c16f_tol_bounds.2.trans_le
        (one_div_le_one_div_of_le (pow_pos two_pos j) (hpow.trans_eq (by norm_num)))
    have hm2 : 2 * m + 1 + 1 ≤ 2 ^ (j + 1) := by rw [pow_succ]; omega
    have hj' : fuel + (j + 1) = 7 := by omega
    rcases c16f_bisectLoop_wide hwid h with ⟨_, h⟩ | ⟨_, h⟩
    · have := ih (j + 1) (2 * m) r hj' (Nat.le_of_succ_le hm2)
      rw [Nat.cast_mul, Nat.cast_ofNat] at this
      rw [emid, elo] at h
      exact this h
    · have := ih (j + 1) (2 * m + 1) r hj' hm2
      rw [Nat.cast_add, Nat.cast_mul, Nat.cast_ofNat, Nat.cast_one] at this
      rw [emid, ehi] at h
      exact this h

end SA

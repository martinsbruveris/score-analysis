/-
The standard model of floating-point arithmetic over ℚ and its elementary consequences.

`Fl fl u`: `fl : ℚ → ℚ` rounds every real to a representable one with relative error at most
`u` (`|fl x - x| ≤ u * |x|`, no underflow, no overflow), `0 ≤ u < 1`.  For IEEE double precision
with round-to-nearest `u = 2^-53`; every basic operation returns `fl` of the exact result.

Derived here: bounds for one rounding of an inexactly known quantity (`Fl.round_err`, relative
to a majorant `Fl.round_rel`), for `+ - * /` of exactly known operands (`Fl.add_err` ...) and of
perturbed operands (`mul_perturb`, `div_perturb`, `max_perturb`, `min_perturb`; rounded:
`Fl.add_round` ..., `Fl.div_rel`), and for comparisons (`lt_iff_of_sep`).  Instances: the
identity `Fl_id`, and the non-identity roundings `Fl_scale_up`, `Fl_scale_down`, `Fl_chop`.
-/
import SA.Model.FloatBound
import Mathlib.Tactic.Linarith
import Mathlib.Tactic.Ring
import Mathlib.Tactic.Positivity
import Mathlib.Tactic.FieldSimp
import Mathlib.Algebra.Order.Group.MinMax
import Mathlib.Algebra.Order.Ring.Abs
import Mathlib.Algebra.Order.Field.Basic

namespace SA

/-- the standard model of floating-point rounding with unit roundoff `u` -/
structure Fl (fl : ℚ → ℚ) (u : ℚ) : Prop where
  u_nonneg : 0 ≤ u
  u_lt_one : u < 1
  rel : ∀ x, |fl x - x| ≤ u * |x|

theorem fabs_eq_abs (x : ℚ) : fabs x = |x| := by
  unfold fabs
  by_cases h : x < 0
  · rw [if_pos h, abs_of_neg h]
  · rw [if_neg h, abs_of_nonneg (not_lt.mp h)]

theorem fabs_nonneg (x : ℚ) : 0 ≤ fabs x := by rw [fabs_eq_abs]; exact abs_nonneg x

theorem gam2_eq (u : ℚ) : gam2 u = (1 + u) ^ 2 - 1 := by unfold gam2; ring

theorem gam3_eq (u : ℚ) : gam3 u = (1 + u) ^ 3 - 1 := by unfold gam3; ring

theorem gamDiv_eq (u : ℚ) : gamDiv u = (1 + u) ^ 2 / (1 - u) - 1 := by unfold gamDiv; ring

theorem gam2_nonneg {u : ℚ} (h : 0 ≤ u) : 0 ≤ gam2 u := by unfold gam2; positivity

theorem gam3_nonneg {u : ℚ} (h : 0 ≤ u) : 0 ≤ gam3 u := by unfold gam3; positivity

theorem gamDiv_nonneg {u : ℚ} (h0 : 0 ≤ u) (h1 : u < 1) : 0 ≤ gamDiv u := by
  unfold gamDiv
  rw [sub_nonneg, le_div_iff₀ (sub_pos.mpr h1), one_mul]
  exact le_trans (sub_le_self 1 h0) (one_le_mul_of_one_le_of_one_le (by linarith) (by linarith))

/-- the bound of `Fl.round_err`, as the executable error bounds spell it -/
theorem roundErr_eq (u v e : ℚ) : FExpr.roundErr u v e = e + u * (|v| + e) := by
  unfold FExpr.roundErr; rw [fabs_eq_abs]

theorem roundErr_nonneg {u v e : ℚ} (hu : 0 ≤ u) (he : 0 ≤ e) : 0 ≤ FExpr.roundErr u v e := by
  rw [roundErr_eq]
  exact add_nonneg he (mul_nonneg hu (add_nonneg (abs_nonneg v) he))

/-! ### instances: the model is satisfiable, also by roundings that are not the identity -/

theorem Fl_id : Fl id 0 := ⟨le_refl 0, by norm_num, fun x => by simp⟩

/-- every result is rounded away from zero by the full relative amount -/
theorem Fl_scale_up (u : ℚ) (h0 : 0 ≤ u) (h1 : u < 1) : Fl (fun x => x * (1 + u)) u := by
  refine ⟨h0, h1, fun x => ?_⟩
  have : x * (1 + u) - x = u * x := by ring
  rw [this, abs_mul, abs_of_nonneg h0]

/-- every result is rounded towards zero by the full relative amount -/
theorem Fl_scale_down (u : ℚ) (h0 : 0 ≤ u) (h1 : u < 1) : Fl (fun x => x * (1 - u)) u := by
  refine ⟨h0, h1, fun x => ?_⟩
  have : x * (1 - u) - x = -(u * x) := by ring
  rw [this, abs_neg, abs_mul, abs_of_nonneg h0]

/-- a rounding that is not linear: positive results are rounded up, negative ones are exact -/
theorem Fl_chop (u : ℚ) (h0 : 0 ≤ u) (h1 : u < 1) :
    Fl (fun x => if 0 < x then x * (1 + u) else x) u := by
  refine ⟨h0, h1, fun x => ?_⟩
  by_cases h : 0 < x
  · simp only [h, if_true]
    exact (Fl_scale_up u h0 h1).rel x
  · simp only [h, if_false, sub_self, abs_zero]
    exact mul_nonneg h0 (abs_nonneg x)

theorem Fl.mono {fl : ℚ → ℚ} {u u' : ℚ} (h : Fl fl u) (hu : u ≤ u') (h1 : u' < 1) : Fl fl u' :=
  ⟨le_trans h.u_nonneg hu, h1, fun x =>
    le_trans (h.rel x) (mul_le_mul_of_nonneg_right hu (abs_nonneg x))⟩

/-! ### one rounding -/

namespace Fl
variable {fl : ℚ → ℚ} {u : ℚ}

theorem zero (h : Fl fl u) : fl 0 = 0 := by
  have := h.rel 0
  simpa using this

theorem abs_le (h : Fl fl u) (x : ℚ) : |fl x| ≤ (1 + u) * |x| := by
  have h1 := h.rel x
  have h2 := abs_sub_abs_le_abs_sub (fl x) x
  linarith

theorem le_abs (h : Fl fl u) (x : ℚ) : (1 - u) * |x| ≤ |fl x| := by
  have h1 := h.rel x
  have h2 := abs_sub_abs_le_abs_sub x (fl x)
  rw [abs_sub_comm] at h2
  linarith

theorem round_err (h : Fl fl u) {xt x e : ℚ} (hx : |xt - x| ≤ e) :
    |fl xt - x| ≤ e + u * (|x| + e) := by
  have h2 : |xt| ≤ |x| + e := by
    have := abs_add_le (xt - x) x
    rw [sub_add_cancel] at this
    linarith
  have h3 := abs_sub_le (fl xt) xt x
  have h4 := (h.rel xt).trans (mul_le_mul_of_nonneg_left h2 h.u_nonneg)
  linarith

theorem round_rel (h : Fl fl u) {xt x g X : ℚ} (hx : |xt - x| ≤ g * X) (hX : |x| ≤ X) :
    |fl xt - x| ≤ ((1 + u) * g + u) * X := by
  have := h.round_err hx
  have := mul_le_mul_of_nonneg_left hX h.u_nonneg
  linarith

theorem add_err (h : Fl fl u) (a b : ℚ) : |fl (a + b) - (a + b)| ≤ u * |a + b| := h.rel _
theorem sub_err (h : Fl fl u) (a b : ℚ) : |fl (a - b) - (a - b)| ≤ u * |a - b| := h.rel _
theorem mul_err (h : Fl fl u) (a b : ℚ) : |fl (a * b) - a * b| ≤ u * (|a| * |b|) := by
  rw [← abs_mul]; exact h.rel _
theorem div_err (h : Fl fl u) (a b : ℚ) : |fl (a / b) - a / b| ≤ u * (|a| / |b|) := by
  rw [← abs_div]; exact h.rel _

end Fl

/-! ### perturbed operands -/

/-- an exactly known operand -/
theorem exact_err (x : ℚ) : |x - x| ≤ 0 := by rw [sub_self, abs_zero]

theorem add_perturb {xt x yt y ex ey : ℚ} (hx : |xt - x| ≤ ex) (hy : |yt - y| ≤ ey) :
    |xt + yt - (x + y)| ≤ ex + ey := by
  rw [add_sub_add_comm]
  exact (abs_add_le _ _).trans (add_le_add hx hy)

theorem sub_perturb {xt x yt y ex ey : ℚ} (hx : |xt - x| ≤ ex) (hy : |yt - y| ≤ ey) :
    |xt - yt - (x - y)| ≤ ex + ey := by
  rw [sub_sub_sub_comm]
  exact (abs_sub _ _).trans (add_le_add hx hy)

theorem mul_perturb {xt x yt y ex ey : ℚ} (hx : |xt - x| ≤ ex) (hy : |yt - y| ≤ ey) :
    |xt * yt - x * y| ≤ ex * |y| + ey * |x| + ex * ey := by
  have e1 : xt * yt - x * y = (xt - x) * y + (yt - y) * x + (xt - x) * (yt - y) := by ring
  rw [e1]
  refine (abs_add_three _ _ _).trans (add_le_add (add_le_add ?_ ?_) ?_) <;> rw [abs_mul]
  · exact mul_le_mul_of_nonneg_right hx (abs_nonneg y)
  · exact mul_le_mul_of_nonneg_right hy (abs_nonneg x)
  · exact mul_le_mul hx hy (abs_nonneg _) ((abs_nonneg _).trans hx)

theorem div_perturb {xt x yt y ex ey : ℚ} (hx : |xt - x| ≤ ex) (hy : |yt - y| ≤ ey)
    (hey : ey < |y|) :
    |xt / yt - x / y| ≤ (ex * |y| + ey * |x|) / (|y| * (|y| - ey)) := by
  have hy0 : 0 < |y| := lt_of_le_of_lt ((abs_nonneg _).trans hy) hey
  have hd : 0 < |y| - ey := sub_pos.mpr hey
  have hyt : |y| - ey ≤ |yt| := by
    have := abs_sub_abs_le_abs_sub y yt
    rw [abs_sub_comm] at this
    linarith
  have hyt0 : 0 < |yt| := hd.trans_le hyt
  have hnum : |xt * y - yt * x| ≤ ex * |y| + ey * |x| := by
    have : xt * y - yt * x = (xt - x) * y - (yt - y) * x := by ring
    rw [this]
    refine (abs_sub _ _).trans (add_le_add ?_ ?_) <;> rw [abs_mul]
    · exact mul_le_mul_of_nonneg_right hx (abs_nonneg y)
    · exact mul_le_mul_of_nonneg_right hy (abs_nonneg x)
  rw [div_sub_div _ _ (abs_pos.mp hyt0) (abs_pos.mp hy0), abs_div, abs_mul, mul_comm |yt|]
  exact div_le_div₀ ((abs_nonneg _).trans hnum) hnum (mul_pos hy0 hd)
    (mul_le_mul_of_nonneg_left hyt hy0.le)

theorem div_pos_perturb {xt x e c : ℚ} (hc : 0 < c) (hx : |xt - x| ≤ e) :
    |xt / c - x / c| ≤ e / c := by
  rw [← sub_div, abs_div, abs_of_pos hc]
  exact div_le_div_of_nonneg_right hx hc.le

theorem max_perturb {xt x yt y ex ey : ℚ} (hx : |xt - x| ≤ ex) (hy : |yt - y| ≤ ey) :
    |max xt yt - max x y| ≤ max ex ey :=
  (abs_max_sub_max_le_max _ _ _ _).trans (max_le_max hx hy)

theorem min_perturb {xt x yt y ex ey : ℚ} (hx : |xt - x| ≤ ex) (hy : |yt - y| ≤ ey) :
    |min xt yt - min x y| ≤ max ex ey :=
  (abs_min_sub_min_le_max _ _ _ _).trans (max_le_max hx hy)

theorem lt_iff_of_sep {at' a bt b ea eb : ℚ} (ha : |at' - a| ≤ ea) (hb : |bt - b| ≤ eb)
    (hs : ea + eb < |a - b|) : at' < bt ↔ a < b := by
  have ha := abs_le.mp ha
  have hb := abs_le.mp hb
  rcases lt_or_ge a b with hab | hba
  · rw [abs_sub_comm, abs_of_pos (sub_pos.mpr hab)] at hs
    exact iff_of_true (by linarith) hab
  · rw [abs_of_nonneg (sub_nonneg.mpr hba)] at hs
    exact iff_of_false (by linarith) (not_lt.mpr hba)

/-! ### `fl (x op y)` for perturbed operands (one line each from the above) -/

namespace Fl
variable {fl : ℚ → ℚ} {u : ℚ}

theorem add_round (h : Fl fl u) {xt x yt y ex ey : ℚ} (hx : |xt - x| ≤ ex) (hy : |yt - y| ≤ ey) :
    |fl (xt + yt) - (x + y)| ≤ (ex + ey) + u * (|x + y| + (ex + ey)) :=
  h.round_err (add_perturb hx hy)

theorem sub_round (h : Fl fl u) {xt x yt y ex ey : ℚ} (hx : |xt - x| ≤ ex) (hy : |yt - y| ≤ ey) :
    |fl (xt - yt) - (x - y)| ≤ (ex + ey) + u * (|x - y| + (ex + ey)) :=
  h.round_err (sub_perturb hx hy)

theorem mul_round (h : Fl fl u) {xt x yt y ex ey : ℚ} (hx : |xt - x| ≤ ex) (hy : |yt - y| ≤ ey) :
    |fl (xt * yt) - x * y| ≤
      (ex * |y| + ey * |x| + ex * ey) + u * (|x * y| + (ex * |y| + ey * |x| + ex * ey)) :=
  h.round_err (mul_perturb hx hy)

theorem div_round (h : Fl fl u) {xt x yt y ex ey : ℚ} (hx : |xt - x| ≤ ex) (hy : |yt - y| ≤ ey)
    (hey : ey < |y|) :
    |fl (xt / yt) - x / y| ≤ (ex * |y| + ey * |x|) / (|y| * (|y| - ey)) +
      u * (|x / y| + (ex * |y| + ey * |x|) / (|y| * (|y| - ey))) :=
  h.round_err (div_perturb hx hy hey)

theorem div_rel (h : Fl fl u) (p q : ℚ) (hq : q ≠ 0) :
    |fl (fl p / fl q) - p / q| ≤ gamDiv u * |p / q| := by
  have hq' : 0 < |q| := abs_pos.mpr hq
  have e := h.div_round (h.rel p) (h.rel q) (mul_lt_of_lt_one_left hq' h.u_lt_one)
  have key : ∀ N D : ℚ, D ≠ 0 → (u * N * D + u * D * N) / (D * (D - u * D)) +
      u * (N / D + (u * N * D + u * D * N) / (D * (D - u * D))) = gamDiv u * (N / D) := by
    intro N D hD
    have h1 : 1 - u ≠ 0 := (sub_pos.mpr h.u_lt_one).ne'
    have : D - u * D = D * (1 - u) := by ring
    rw [this]
    unfold gamDiv
    field_simp
    ring
  rw [abs_div, key _ _ hq'.ne'] at e
  rwa [abs_div]

end Fl

end SA

/-
Rounding error of a floating-point sum in ANY order (`SumTree`), under the standard model.

* `SumTree.evalFl_error`       `|computed - exact| ≤ ((1+u)^depth - 1) * Σ|a_i|`
* `SumTree.evalFl_error_perm`  for a tree whose leaves are a permutation of `0..n-1`:
                               `|computed - Σ a_i| ≤ ((1+u)^(n-1) - 1) * Σ|a_i|`, whatever the order
* `gamPow_le_gamK`             `(1+u)^k - 1 ≤ k u / (1 - k u)` for `k u < 1`
* `seqTree_perm`               left-to-right accumulation is such a tree
-/
import SA.Model.FloatSum
import SA.Proofs.FloatModel
import SA.Proofs.ListGetD
import Mathlib.Algebra.BigOperators.Group.List.Basic
import Mathlib.Algebra.Order.BigOperators.Group.List

namespace SA

/-! ### growth factors -/

theorem powN_eq (b : ℚ) (k : ℕ) : powN b k = b ^ k := by
  induction k with
  | zero => simp [powN]
  | succ k ih => rw [powN, ih, pow_succ]

theorem gamPow_eq (u : ℚ) (k : ℕ) : gamPow u k = (1 + u) ^ k - 1 := by
  unfold gamPow; rw [powN_eq]

theorem gamPow_zero (u : ℚ) : gamPow u 0 = 0 := by rw [gamPow_eq]; simp

theorem gamPow_succ (u : ℚ) (k : ℕ) : gamPow u (k + 1) = (1 + u) * gamPow u k + u := by
  rw [gamPow_eq, gamPow_eq, pow_succ]; ring

theorem gamPow_nonneg {u : ℚ} (hu : 0 ≤ u) (k : ℕ) : 0 ≤ gamPow u k := by
  rw [gamPow_eq]
  exact sub_nonneg.mpr (one_le_pow₀ (le_add_of_nonneg_right hu))

theorem gamPow_mono {u : ℚ} (hu : 0 ≤ u) {j k : ℕ} (h : j ≤ k) : gamPow u j ≤ gamPow u k := by
  rw [gamPow_eq, gamPow_eq]
  exact sub_le_sub_right (pow_le_pow_right₀ (le_add_of_nonneg_right hu) h) 1

theorem pow_mul_le_one {u : ℚ} (hu : 0 ≤ u) : ∀ k : ℕ, (1 + u) ^ k * (1 - (k : ℚ) * u) ≤ 1
  | 0 => by simp
  | k + 1 => by
    -- `(1+u) (1 - (k+1) u) = 1 - k u - (k+1) u^2`
    have e : (1 + u) * (1 - ((k + 1 : ℕ) : ℚ) * u) ≤ 1 - (k : ℚ) * u := by
      have : 0 ≤ ((k : ℚ) + 1) * (u * u) := by positivity
      push_cast
      linarith only [this]
    rw [pow_succ, mul_assoc]
    exact (mul_le_mul_of_nonneg_left e (by positivity)).trans (pow_mul_le_one hu k)

/-- **the cheap majorant**: `(1+u)^k - 1 ≤ k u / (1 - k u)` whenever `k u < 1` -/
theorem gamPow_le_gamK {u : ℚ} (hu : 0 ≤ u) (k : ℕ) (hk : (k : ℚ) * u < 1) :
    gamPow u k ≤ gamK u k := by
  rw [gamPow_eq]
  unfold gamK
  have h1 := pow_mul_le_one hu k
  rw [le_div_iff₀ (sub_pos.mpr hk), sub_mul, one_mul]
  linarith only [h1]

theorem gamK_nonneg {u : ℚ} (hu : 0 ≤ u) (k : ℕ) (hk : (k : ℚ) * u < 1) : 0 ≤ gamK u k :=
  le_trans (gamPow_nonneg hu k) (gamPow_le_gamK hu k hk)

/-! ### plain sums -/

theorem sumL_eq (l : List ℚ) : sumL l = l.sum := by
  induction l with
  | nil => rfl
  | cons v vs ih => simp only [sumL, List.sum_cons, ih]

theorem sumAbsL_eq (l : List ℚ) : sumAbsL l = (l.map fun v => |v|).sum := by
  induction l with
  | nil => rfl
  | cons v vs ih => simp only [sumAbsL, List.map_cons, List.sum_cons, ih, fabs_eq_abs]

theorem sumL_append_single (ws : List ℚ) (w : ℚ) : sumL (ws ++ [w]) = sumL ws + w := by
  rw [sumL_eq, sumL_eq]; simp

theorem sumAbsL_append_single (ws : List ℚ) (w : ℚ) : sumAbsL (ws ++ [w]) = sumAbsL ws + |w| := by
  rw [sumAbsL_eq, sumAbsL_eq]; simp

theorem abs_sumL_le (ws : List ℚ) : |sumL ws| ≤ sumAbsL ws := by
  induction ws with
  | nil => simp [sumL, sumAbsL]
  | cons w ws ih =>
    simp only [sumL, sumAbsL, fabs_eq_abs]
    have := abs_add_le w (sumL ws)
    linarith

theorem sumAbsL_nonneg (l : List ℚ) : 0 ≤ sumAbsL l := (abs_nonneg _).trans (abs_sumL_le l)

/-! ### a sum in any order -/

namespace SumTree

theorem abs_exact_le (a : List ℚ) : ∀ t : SumTree, |t.exact a| ≤ t.absSum a
  | leaf i => by simp only [exact, absSum, fabs_eq_abs]; exact le_refl _
  | node l r => by
    exact (abs_add_le _ _).trans (add_le_add (abs_exact_le a l) (abs_exact_le a r))

theorem absSum_nonneg (a : List ℚ) (t : SumTree) : 0 ≤ t.absSum a :=
  (abs_nonneg _).trans (abs_exact_le a t)

/-- **Any summation order.** Each entry passes through at most `depth` rounded additions. -/
theorem evalFl_error {fl : ℚ → ℚ} {u : ℚ} (h : Fl fl u) (a : List ℚ) :
    ∀ t : SumTree, |t.evalFl fl a - t.exact a| ≤ gamPow u t.depth * t.absSum a
  | leaf i => by
    simp only [evalFl, exact, depth, sub_self, abs_zero, gamPow_zero, zero_mul]
    exact le_refl 0
  | node l r => by
    have hu := h.u_nonneg
    have el := (evalFl_error h a l).trans (mul_le_mul_of_nonneg_right
      (gamPow_mono hu (le_max_left l.depth r.depth)) (absSum_nonneg a l))
    have er := (evalFl_error h a r).trans (mul_le_mul_of_nonneg_right
      (gamPow_mono hu (le_max_right l.depth r.depth)) (absSum_nonneg a r))
    have hs := add_perturb el er
    rw [← mul_add] at hs
    simp only [evalFl, exact, depth, absSum, gamPow_succ]
    exact h.round_rel hs (abs_exact_le a (node l r))

theorem depth_lt_leaves : ∀ t : SumTree, t.depth + 1 ≤ t.leaves.length
  | leaf _ => by simp [depth, leaves]
  | node l r => by
    have := depth_lt_leaves l
    have := depth_lt_leaves r
    simp only [depth, leaves, List.length_append]
    omega

theorem exact_eq_sum (a : List ℚ) : ∀ t : SumTree, t.exact a = (t.leaves.map fun i => a.getD i 0).sum
  | leaf i => by simp [exact, leaves]
  | node l r => by
    simp only [exact, leaves, List.map_append, List.sum_append, exact_eq_sum a l, exact_eq_sum a r]

theorem absSum_eq_sum (a : List ℚ) :
    ∀ t : SumTree, t.absSum a = (t.leaves.map fun i => |a.getD i 0|).sum
  | leaf i => by simp [absSum, leaves, fabs_eq_abs]
  | node l r => by
    simp only [absSum, leaves, List.map_append, List.sum_append, absSum_eq_sum a l,
      absSum_eq_sum a r]

end SumTree

/-- **Order-independent bound.** A tree that adds up every entry of `a` exactly once, in any
order and with any bracketing: `|computed - Σ a_i| ≤ ((1+u)^(n-1) - 1) * Σ|a_i|`. -/
theorem SumTree.evalFl_error_perm {fl : ℚ → ℚ} {u : ℚ} (h : Fl fl u) (a : List ℚ) (t : SumTree)
    (hp : t.leaves.Perm (List.range a.length)) :
    |t.evalFl fl a - sumL a| ≤ gamPow u (a.length - 1) * sumAbsL a := by
  have e := SumTree.evalFl_error h a t
  have h1 : t.exact a = sumL a := by
    rw [SumTree.exact_eq_sum, sumL_eq, (hp.map _).sum_eq, List.map_getD_range]
  have h2 : t.absSum a = sumAbsL a := by
    rw [SumTree.absSum_eq_sum, sumAbsL_eq, (hp.map _).sum_eq]
    exact congrArg List.sum ((List.map_map).symm.trans
      (congrArg (List.map fun v : ℚ => |v|) (List.map_getD_range a 0)))
  have hd : t.depth ≤ a.length - 1 := by
    have := SumTree.depth_lt_leaves t
    have hl := hp.length_eq
    rw [List.length_range] at hl
    omega
  rw [h1, h2] at e
  exact le_trans e (mul_le_mul_of_nonneg_right (gamPow_mono h.u_nonneg hd) (sumAbsL_nonneg a))

/-! ### an instance: left-to-right accumulation -/

theorem seqTree_leaves : ∀ n : ℕ, (seqTree n).leaves = List.range (n + 1)
  | 0 => rfl
  | n + 1 => by
    simp only [seqTree, SumTree.leaves, seqTree_leaves n]
    rw [List.range_succ (n := n + 1)]

theorem seqTree_perm (n : ℕ) : (seqTree n).leaves.Perm (List.range (n + 1)) := by
  rw [seqTree_leaves]

/-- the left-to-right order attains the full depth `n` -/
theorem seqTree_depth : ∀ n : ℕ, (seqTree n).depth = n
  | 0 => rfl
  | n + 1 => by simp [seqTree, SumTree.depth, seqTree_depth n]

end SA

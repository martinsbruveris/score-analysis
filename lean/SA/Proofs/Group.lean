/-
Helper lemmas for the GroupScores model (SA/Model/Group.lean): joint sorting, the default group
list, per-group filtering, the partition of counts over groups, the cache invariant, gathering of
pairs, the by_group sampling loop, what a sample is, the requests of each stratification mode.
-/
import SA.Model.Group
import SA.Spec.C12
import SA.Proofs.Sampling

namespace SA

/-! ### joint sort -/

theorem c12_sortPairs_perm (l : List (Rat × Nat)) : (c12_sortPairs l).Perm l :=
  List.mergeSort_perm _ _

theorem c12_sortPairs_sorted (l : List (Rat × Nat)) :
    (c12_sortPairs l).Pairwise (fun a b => a.1 ≤ b.1) := by
  unfold c12_sortPairs
  have := List.pairwise_mergeSort (le := fun a b : Rat × Nat => decide (a.1 ≤ b.1))
    (by intro a b c hab hbc; simp only [decide_eq_true_eq] at *; exact le_trans hab hbc)
    (by intro a b; simp only [Bool.or_eq_true, decide_eq_true_eq]; exact le_total a.1 b.1) l
  simpa using this

/-! ### `sorted(set(..))` -/

theorem c12_mem_insertU {x y : Nat} {l : List Nat} : y ∈ c12_insertU x l ↔ y = x ∨ y ∈ l := by
  induction l with
  | nil => simp [c12_insertU]
  | cons z zs ih =>
    unfold c12_insertU
    by_cases h1 : x < z
    · simp [h1]
    · by_cases h2 : x = z
      · subst h2; simp
      · simp only [h1, h2, if_false, List.mem_cons, ih]
        exact or_left_comm

theorem c12_insertU_sorted {x : Nat} {l : List Nat} (h : l.Pairwise (· < ·)) :
    (c12_insertU x l).Pairwise (· < ·) := by
  induction l with
  | nil => simp [c12_insertU]
  | cons z zs ih =>
    unfold c12_insertU
    rw [List.pairwise_cons] at h
    by_cases h1 : x < z
    · simp only [h1, if_true]
      rw [List.pairwise_cons]
      refine ⟨?_, List.pairwise_cons.mpr h⟩
      intro a ha
      rcases List.mem_cons.mp ha with rfl | ha
      · exact h1
      · exact Nat.lt_trans h1 (h.1 a ha)
    · by_cases h2 : x = z
      · subst h2
        simp only [Nat.lt_irrefl, if_false, if_true]
        exact List.pairwise_cons.mpr h
      · simp only [h1, h2, if_false]
        rw [List.pairwise_cons]
        refine ⟨?_, ih h.2⟩
        intro a ha
        rcases c12_mem_insertU.mp ha with rfl | ha
        · omega
        · exact h.1 a ha

theorem c12_codes_cons (x : Nat) (xs : List Nat) :
    c12_codes (x :: xs) = c12_insertU x (c12_codes xs) := rfl

theorem c12_mem_codes {y : Nat} {l : List Nat} : y ∈ c12_codes l ↔ y ∈ l := by
  induction l with
  | nil => rfl
  | cons x xs ih => rw [c12_codes_cons, c12_mem_insertU, ih, List.mem_cons]

theorem c12_codes_sorted (l : List Nat) : (c12_codes l).Pairwise (· < ·) := by
  induction l with
  | nil => exact List.Pairwise.nil
  | cons x xs ih => rw [c12_codes_cons]; exact c12_insertU_sorted ih

theorem c12_codes_nodup (l : List Nat) : (c12_codes l).Nodup :=
  (c12_codes_sorted l).imp (fun h => Nat.ne_of_lt h)

/-- `sorted(set(..))` depends on the set only -/
theorem c12_codes_ext {l₁ l₂ : List Nat} (h : ∀ y, y ∈ l₁ ↔ y ∈ l₂) :
    c12_codes l₁ = c12_codes l₂ := by
  apply List.Perm.eq_of_pairwise (le := (· < ·)) _ (c12_codes_sorted l₁) (c12_codes_sorted l₂)
  · rw [List.perm_ext_iff_of_nodup (c12_codes_nodup l₁) (c12_codes_nodup l₂)]
    intro a; rw [c12_mem_codes, c12_mem_codes]; exact h a
  · intro a b _ _ h1 h2; omega

theorem c12_defaultGroups_comm (pos neg : List (Rat × Nat)) :
    c12_defaultGroups neg pos = c12_defaultGroups pos neg := by
  unfold c12_defaultGroups
  apply c12_codes_ext
  intro y
  simp only [List.map_append, List.mem_append]
  exact Or.comm

theorem c12_defaultGroups_nodup (pos neg : List (Rat × Nat)) :
    (c12_defaultGroups pos neg).Nodup := c12_codes_nodup _

theorem c12_defaultGroups_covers (pos neg : List (Rat × Nat)) :
    ∀ p ∈ pos ++ neg, p.2 ∈ c12_defaultGroups pos neg := by
  intro p hp
  unfold c12_defaultGroups
  rw [c12_mem_codes]
  exact List.mem_map.mpr ⟨p, hp, rfl⟩

/-- the default list depends on the multiset of pairs only (so sorting does not change it) -/
theorem c12_defaultGroups_perm {p₁ p₂ n₁ n₂ : List (Rat × Nat)} (hp : p₁.Perm p₂)
    (hn : n₁.Perm n₂) : c12_defaultGroups p₁ n₁ = c12_defaultGroups p₂ n₂ := by
  unfold c12_defaultGroups
  apply c12_codes_ext
  intro y
  simp only [List.mem_map, List.mem_append]
  constructor
  · rintro ⟨a, ha | ha, rfl⟩
    · exact ⟨a, Or.inl (hp.mem_iff.mp ha), rfl⟩
    · exact ⟨a, Or.inr (hn.mem_iff.mp ha), rfl⟩
  · rintro ⟨a, ha | ha, rfl⟩
    · exact ⟨a, Or.inl (hp.mem_iff.mpr ha), rfl⟩
    · exact ⟨a, Or.inr (hn.mem_iff.mpr ha), rfl⟩

/-! ### filtering by group -/

theorem c12_mem_filterGroup {l : List (Rat × Nat)} {grp : Nat} {x : Rat} :
    x ∈ c12_filterGroup l grp ↔ (x, grp) ∈ l := by
  unfold c12_filterGroup
  simp only [List.mem_map, List.mem_filter, beq_iff_eq]
  constructor
  · rintro ⟨⟨a, b⟩, ⟨h, rfl⟩, rfl⟩; exact h
  · intro h; exact ⟨(x, grp), ⟨h, rfl⟩, rfl⟩

/-- exactly the scores carrying the label, with multiplicity -/
theorem c12_count_filterGroup (l : List (Rat × Nat)) (grp : Nat) (x : Rat) :
    (c12_filterGroup l grp).count x = l.count (x, grp) := by
  unfold c12_filterGroup
  rw [List.count, List.countP_map, List.countP_filter, List.count]
  refine List.countP_congr fun a _ => ?_
  simp only [Function.comp_def, Bool.and_eq_true, beq_iff_eq, Prod.ext_iff]

theorem c12_length_filterGroup (l : List (Rat × Nat)) (grp : Nat) :
    (c12_filterGroup l grp).length = l.countP (fun p => p.2 == grp) := by
  unfold c12_filterGroup
  rw [List.length_map, List.countP_eq_length_filter]

/-- the filter of a sorted list is sorted: the `is_sorted=True` shortcut of `__getitem__` -/
theorem c12_filterGroup_sorted {l : List (Rat × Nat)} (h : l.Pairwise (fun a b => a.1 ≤ b.1))
    (grp : Nat) : (c12_filterGroup l grp).Pairwise (· ≤ ·) := by
  unfold c12_filterGroup
  rw [List.pairwise_map]
  exact h.filter _

/-! ### the counts of the groups add up -/

theorem c12_sum_indicator {α : Type} [BEq α] [LawfulBEq α] [DecidableEq α] (groups : List α)
    (c : α) (k : Nat) :
    (groups.map (fun grp => if c = grp then k else 0)).sum = groups.count c * k := by
  induction groups with
  | nil => simp
  | cons a l ih =>
    simp only [List.map_cons, List.sum_cons, ih, List.count_cons]
    by_cases h : c = a
    · subst h; simp [Nat.add_mul, Nat.add_comm]
    · have : (a == c) = false := by simpa using fun h' => h h'.symm
      simp [h, this]

/-- For a duplicate-free group list that contains every label of `l`, the per-group counts of any
predicate on the score add up to the count over all scores. -/
theorem c12_sum_countP (groups : List Nat) (hn : groups.Nodup) (l : List (Rat × Nat))
    (hc : ∀ p ∈ l, p.2 ∈ groups) (q : Rat → Bool) :
    (groups.map (fun grp => (c12_filterGroup l grp).countP q)).sum = (l.map (·.1)).countP q := by
  induction l with
  | nil => simp [c12_filterGroup]
  | cons a l ih =>
    obtain ⟨x, c⟩ := a
    have hc' : ∀ p ∈ l, p.2 ∈ groups := fun p hp => hc p (List.mem_cons_of_mem _ hp)
    have hcm : c ∈ groups := hc (x, c) (List.mem_cons_self)
    have step : ∀ grp, (c12_filterGroup ((x, c) :: l) grp).countP q =
        (c12_filterGroup l grp).countP q + (if c = grp then (if q x then 1 else 0) else 0) := by
      intro grp
      unfold c12_filterGroup
      by_cases h : c = grp
      · subst h
        simp only [List.filter_cons, beq_self_eq_true, if_true, List.map_cons, List.countP_cons]
      · have : (c == grp) = false := by simpa using h
        simp only [List.filter_cons, this, Bool.false_eq_true, if_false, h, Nat.add_zero]
    simp only [step]
    rw [List.sum_map_add, ih hc', c12_sum_indicator, List.count_eq_one_of_mem hn hcm]
    simp only [List.map_cons, List.countP_cons, Nat.one_mul]

/-! ### sums of matrices -/

theorem c12_CM_ext {a b : CM} (h1 : a.tp = b.tp) (h2 : a.fn = b.fn) (h3 : a.fp = b.fp)
    (h4 : a.tn = b.tn) : a = b := by
  cases a; cases b; simp only [CM.mk.injEq]; exact ⟨h1, h2, h3, h4⟩

theorem c12_sumCM_cells (l : List CM) :
    (c12_sumCM l).tp = (l.map (·.tp)).sum ∧ (c12_sumCM l).fn = (l.map (·.fn)).sum ∧
    (c12_sumCM l).fp = (l.map (·.fp)).sum ∧ (c12_sumCM l).tn = (l.map (·.tn)).sum := by
  induction l with
  | nil => simp [c12_sumCM]
  | cons a l ih =>
    have : c12_sumCM (a :: l) = a.add (c12_sumCM l) := rfl
    simp only [this, CM.add, List.map_cons, List.sum_cons, ih, and_self]

/-- summing the counting matrices of the groups gives the counting matrix of the whole -/
theorem c12_sum_countCM (groups : List Nat) (hn : groups.Nodup) (pos neg : List (Rat × Nat))
    (hcp : ∀ p ∈ pos, p.2 ∈ groups) (hcn : ∀ p ∈ neg, p.2 ∈ groups) (cfg : Cfg) (t : ERat) :
    c12_sumCM (groups.map (fun grp =>
      countCM (c12_filterGroup pos grp) (c12_filterGroup neg grp) 0 0 cfg t)) =
    countCM (pos.map (·.1)) (neg.map (·.1)) 0 0 cfg t := by
  obtain ⟨e1, e2, e3, e4⟩ := c12_sumCM_cells (groups.map (fun grp =>
      countCM (c12_filterGroup pos grp) (c12_filterGroup neg grp) 0 0 cfg t))
  apply c12_CM_ext
  · rw [e1, List.map_map]
    simp only [Function.comp_def, countCM, Nat.add_zero]
    exact c12_sum_countP groups hn pos hcp _
  · rw [e2, List.map_map]
    simp only [Function.comp_def, countCM]
    exact c12_sum_countP groups hn pos hcp _
  · rw [e3, List.map_map]
    simp only [Function.comp_def, countCM]
    exact c12_sum_countP groups hn neg hcn _
  · rw [e4, List.map_map]
    simp only [Function.comp_def, countCM, Nat.add_zero]
    exact c12_sum_countP groups hn neg hcn _

/-! ### objects that satisfy the constructor invariant -/

/-- both held arrays are sorted by score -/
def GInv (g : GScores) : Prop :=
  g.pos.Pairwise (fun a b => a.1 ≤ b.1) ∧ g.neg.Pairwise (fun a b => a.1 ≤ b.1)

theorem c12_groupScores_eq (g : GScores) (grp : Nat) :
    g.groupScores grp = ⟨c12_filterGroup g.pos grp, c12_filterGroup g.neg grp, 0, 0, g.cfg⟩ := rfl

theorem c12_groupScores_sorted {g : GScores} (h : GInv g) (grp : Nat) :
    (g.groupScores grp).pos.Pairwise (· ≤ ·) ∧ (g.groupScores grp).neg.Pairwise (· ≤ ·) :=
  ⟨c12_filterGroup_sorted h.1 grp, c12_filterGroup_sorted h.2 grp⟩

theorem c12_toScores_length (g : GScores) :
    g.toScores.pos.length = g.pos.length ∧ g.toScores.neg.length = g.neg.length :=
  ⟨List.length_map _, List.length_map _⟩

theorem c12_toScores_sorted {g : GScores} (h : GInv g) :
    g.toScores.pos.Pairwise (· ≤ ·) ∧ g.toScores.neg.Pairwise (· ≤ ·) :=
  ⟨List.pairwise_map.mpr h.1, List.pairwise_map.mpr h.2⟩

theorem c12_make_inv (pos neg : List (Rat × Nat)) (cfg : Cfg) (gn : Option (List Nat))
    (b : Bool) (h : b = true → pos.Pairwise (fun a b => a.1 ≤ b.1) ∧
      neg.Pairwise (fun a b => a.1 ≤ b.1)) : GInv (GScores.make pos neg cfg gn b) := by
  cases b
  · exact ⟨c12_sortPairs_sorted pos, c12_sortPairs_sorted neg⟩
  · exact h rfl

theorem c12_make_perm (pos neg : List (Rat × Nat)) (cfg : Cfg) (gn : Option (List Nat))
    (b : Bool) : (GScores.make pos neg cfg gn b).pos.Perm pos ∧
      (GScores.make pos neg cfg gn b).neg.Perm neg := by
  cases b
  · exact ⟨c12_sortPairs_perm pos, c12_sortPairs_perm neg⟩
  · exact ⟨List.Perm.refl _, List.Perm.refl _⟩

theorem c12_make_cfg (pos neg : List (Rat × Nat)) (cfg : Cfg) (gn : Option (List Nat))
    (b : Bool) : (GScores.make pos neg cfg gn b).cfg = cfg := by cases b <;> rfl

theorem c12_make_groups_some (pos neg : List (Rat × Nat)) (cfg : Cfg) (l : List Nat)
    (b : Bool) : (GScores.make pos neg cfg (some l) b).groups = l := by cases b <;> rfl

theorem c12_make_groups_none (pos neg : List (Rat × Nat)) (cfg : Cfg) (b : Bool) :
    (GScores.make pos neg cfg none b).groups = c12_defaultGroups pos neg := by cases b <;> rfl

/-! ### the cache -/

/-- every cached entry is the freshly computed object of its key -/
def CacheInv (st : GState) : Prop := ∀ p ∈ st.cache, p.2 = st.g.groupScores p.1

theorem c12_cacheInv_fresh (g : GScores) : CacheInv (GState.fresh g) := fun _ h => nomatch h

theorem c12_fetch_spec (st : GState) (hc : CacheInv st) (grp : Nat) :
    (st.fetch grp).2 = st.g.getItem grp ∧ CacheInv (st.fetch grp).1 ∧
    (st.fetch grp).1.g = st.g := by
  unfold GState.fetch GScores.getItem
  by_cases hm : st.g.groups.contains grp = true
  · rw [if_pos hm, if_pos hm]
    cases hl : st.cache.lookup grp with
    | some s =>
      obtain ⟨l₁, l₂, hl', -⟩ := List.lookup_eq_some_iff.mp hl
      have hs : s = st.g.groupScores grp :=
        hc _ (hl' ▸ List.mem_append_right _ List.mem_cons_self)
      exact ⟨by rw [hs], hc, rfl⟩
    | none =>
      refine ⟨rfl, ?_, rfl⟩
      intro p hp
      rcases List.mem_cons.mp hp with rfl | hp
      · rfl
      · exact hc p hp
  · rw [if_neg hm, if_neg hm]
    exact ⟨rfl, hc, rfl⟩

theorem c12_fetchAll_spec (st : GState) (hc : CacheInv st) (grps : List Nat)
    (hg : ∀ grp ∈ grps, grp ∈ st.g.groups) :
    (st.fetchAll grps).2 = .ok (grps.map st.g.groupScores) ∧ CacheInv (st.fetchAll grps).1 ∧
    (st.fetchAll grps).1.g = st.g := by
  induction grps generalizing st with
  | nil => exact ⟨rfl, hc, rfl⟩
  | cons grp rest ih =>
    obtain ⟨f1, f2, f3⟩ := c12_fetch_spec st hc grp
    have hm : st.g.groups.contains grp = true := by
      simpa using hg grp List.mem_cons_self
    have f1' : (st.fetch grp).2 = .ok (st.g.groupScores grp) := by
      rw [f1]; simp only [GScores.getItem, hm, if_true]
    obtain ⟨i1, i2, i3⟩ := ih (st.fetch grp).1 f2
      (fun x hx => by rw [f3]; exact hg x (List.mem_cons_of_mem _ hx))
    unfold GState.fetchAll
    simp only [f1']
    rw [i1, f3] at *
    exact ⟨rfl, i2, i3⟩

theorem c12_step_spec (st : GState) (hc : CacheInv st) (q : GQuery) :
    (st.step q).2 = st.g.answer q ∧ CacheInv (st.step q).1 ∧ (st.step q).1.g = st.g := by
  cases q with
  | getItem grp =>
    obtain ⟨f1, f2, f3⟩ := c12_fetch_spec st hc grp
    exact ⟨by simp only [GState.step, GScores.answer, f1], f2, f3⟩
  | groupCm t =>
    obtain ⟨f1, f2, f3⟩ := c12_fetchAll_spec st hc st.g.groups (fun _ h => h)
    refine ⟨?_, f2, f3⟩
    simp only [GState.step, GScores.answer, f1, Except.map, GScores.groupCm, List.map_map,
      Function.comp_def]
  | groupRate n t =>
    obtain ⟨f1, f2, f3⟩ := c12_fetchAll_spec st hc st.g.groups (fun _ h => h)
    refine ⟨?_, f2, f3⟩
    simp only [GState.step, GScores.answer, f1, Except.map, GScores.groupRate, GScores.groupCm,
      List.map_map, Function.comp_def]
  | overallCm t => exact ⟨rfl, hc, rfl⟩

theorem c12_run_spec (st : GState) (hc : CacheInv st) (qs : List GQuery) :
    (st.run qs).2 = qs.map st.g.answer ∧ CacheInv (st.run qs).1 ∧ (st.run qs).1.g = st.g := by
  induction qs generalizing st with
  | nil => exact ⟨rfl, hc, rfl⟩
  | cons q qs ih =>
    obtain ⟨s1, s2, s3⟩ := c12_step_spec st hc q
    obtain ⟨i1, i2, i3⟩ := ih (st.step q).1 s2
    unfold GState.run
    simp only [List.map_cons, s1, i1, s3, true_and]
    exact ⟨i2, by rw [i3, s3]⟩

/-! ### gathering pairs -/

theorem c12_gatherPairs_eq (a : List (Rat × Nat)) (idx : List Nat) :
    c12_gatherPairs a idx =
      idx.map (fun i => ((a.map (·.1)).getD i 0, (a.map (·.2)).getD i 0)) := by
  unfold c12_gatherPairs gather c12_gatherN
  rw [List.zip_map']

theorem c12_getD_pair (a : List (Rat × Nat)) (i : Nat) (h : i < a.length) :
    ((a.map (·.1)).getD i 0, (a.map (·.2)).getD i 0) = a[i] := by
  simp [List.getD_eq_getElem?_getD, List.getElem?_eq_getElem h]

theorem c12_gatherPairs_getD (a : List (Rat × Nat)) (idx : List Nat)
    (hi : ∀ i ∈ idx, i < a.length) :
    c12_gatherPairs a idx = idx.map (fun i => a.getD i (0, 0)) := by
  rw [c12_gatherPairs_eq]
  apply List.map_congr_left
  intro i h
  rw [c12_getD_pair a i (hi i h), List.getD_eq_getElem?_getD, List.getElem?_eq_getElem (hi i h),
    Option.getD_some]

/-- scores and labels are gathered by the same indices: every gathered pair is a source pair -/
theorem c12_gatherPairs_mem (a : List (Rat × Nat)) (idx : List Nat)
    (hi : ∀ i ∈ idx, i < a.length) : ∀ p ∈ c12_gatherPairs a idx, p ∈ a := by
  intro p hp
  rw [c12_gatherPairs_eq, List.mem_map] at hp
  obtain ⟨i, hi', rfl⟩ := hp
  rw [c12_getD_pair a i (hi i hi')]
  exact List.getElem_mem _

theorem c12_gatherPairs_fst (a : List (Rat × Nat)) (idx : List Nat) :
    (c12_gatherPairs a idx).map (·.1) = gather (a.map (·.1)) idx := by
  rw [c12_gatherPairs_eq, List.map_map]; rfl

theorem c12_gatherPairs_length (a : List (Rat × Nat)) (idx : List Nat) :
    (c12_gatherPairs a idx).length = idx.length := by
  rw [c12_gatherPairs_eq, List.length_map]

/-- the `is_sorted=True` path of single-pass sampling, with labels -/
theorem c12_gatherPairs_sorted (a : List (Rat × Nat)) (idx : List Nat)
    (ha : a.Pairwise (fun x y => x.1 ≤ y.1)) (hidx : idx.Pairwise (· ≤ ·))
    (hi : ∀ i ∈ idx, i < a.length) :
    (c12_gatherPairs a idx).Pairwise (fun x y => x.1 ≤ y.1) := by
  rw [← List.pairwise_map, c12_gatherPairs_fst]
  exact gather_sorted _ _ (List.pairwise_map.mpr ha) hidx (by simpa using hi)

/-! ### sampling a source without easy samples draws no easy samples -/

theorem c12_drawStrata_noeasy (s : Scores) (st : RngState) (h : (drawStrata s st).2.ok = true)
    (hp : s.easyPos = 0) (hn : s.easyNeg = 0) :
    (drawStrata s st).1.easyPos = 0 ∧ (drawStrata s st).1.easyNeg = 0 := by
  simp only [drawStrata, drawScalar_fst, drawScalar_snd] at h ⊢
  obtain ⟨h3, r3⟩ := draw_ok h
  obtain ⟨_, r2⟩ := draw_ok h3
  rw [(easyPos_range r2).2.1 hp, (easyNeg_range r3).2.1 hn]
  exact ⟨easyDrawn_zero _ _, easyDrawn_zero _ _⟩

theorem c12_sampleIndices_noeasy (s : Scores) (sp : Bool) (st : RngState)
    (h : (sampleIndices s false sp st).2.ok = true) (hp : s.easyPos = 0) (hn : s.easyNeg = 0) :
    (sampleIndices s false sp st).1.easyPos = 0 ∧ (sampleIndices s false sp st).1.easyNeg = 0 := by
  have := c12_drawStrata_noeasy s st (sampleIndices_strata_ok h) hp hn
  cases sp <;> exact this

/-! ### the `by_group` loop -/

theorem c12_countP_label_piece (l : List Rat) (grp grp' : Nat) :
    (l.map (fun x => (x, grp))).countP (fun p => p.2 == grp') =
      if grp = grp' then l.length else 0 := by
  rw [List.countP_map]
  by_cases h : grp = grp'
  · subst h; simp only [Function.comp_def, beq_self_eq_true, List.countP_true, if_true]
  · simp only [Function.comp_def, beq_false_of_ne h, List.countP_false, if_neg h, Function.const]

/-- What an `ok` run of the loop knows: the run was `ok` from the start, every drawn pair is a
pair of the source of the same class, and (replacement sampling) each label is drawn as many times
as the group list names it (the loop runs once per entry, duplicates included) times the number of
samples carrying it. -/
theorem c12_byGroupLoop_spec (g : GScores) (sp : Bool) (grps : List Nat) (st : RngState)
    (h : (c12_byGroupLoop g sp grps st).2.ok = true) :
    st.ok = true ∧
    (∀ p ∈ (c12_byGroupLoop g sp grps st).1.1, p ∈ g.pos ∧ p.2 ∈ grps) ∧
    (∀ p ∈ (c12_byGroupLoop g sp grps st).1.2, p ∈ g.neg ∧ p.2 ∈ grps) ∧
    (sp = false → ∀ grp,
      (c12_byGroupLoop g sp grps st).1.1.countP (fun p => p.2 == grp) +
      (c12_byGroupLoop g sp grps st).1.2.countP (fun p => p.2 == grp) =
      grps.count grp * Spec.C12.labelCount g grp) := by
  induction grps generalizing st with
  | nil =>
    exact ⟨h, fun _ hp => absurd hp List.not_mem_nil, fun _ hp => absurd hp List.not_mem_nil,
      fun _ _ => (Nat.zero_mul _).symm⟩
  | cons grp rest ih =>
    simp only [c12_byGroupLoop] at h ⊢
    obtain ⟨i0, i1, i2, i3⟩ := ih _ h
    obtain ⟨s0, facts⟩ := sampleIndices_spec (g.groupScores grp) false sp st i0
    refine ⟨s0, ?_, ?_, ?_⟩
    · intro p hp
      rcases List.mem_append.mp hp with hp | hp
      · obtain ⟨x, hx, rfl⟩ := List.mem_map.mp hp
        have := gather_mem _ _ facts.posRange x hx
        exact ⟨c12_mem_filterGroup.mp this, List.mem_cons_self⟩
      · exact ⟨(i1 p hp).1, List.mem_cons_of_mem _ (i1 p hp).2⟩
    · intro p hp
      rcases List.mem_append.mp hp with hp | hp
      · obtain ⟨x, hx, rfl⟩ := List.mem_map.mp hp
        have := gather_mem _ _ facts.negRange x hx
        exact ⟨c12_mem_filterGroup.mp this, List.mem_cons_self⟩
      · exact ⟨(i2 p hp).1, List.mem_cons_of_mem _ (i2 p hp).2⟩
    · intro hsp grp'
      subst hsp
      have hne := c12_sampleIndices_noeasy (g.groupScores grp) false st i0 rfl rfl
      have htot := facts.total rfl
      rw [hne.1, hne.2] at htot
      have hN : (g.groupScores grp).nbAll =
          (c12_filterGroup g.pos grp).length + (c12_filterGroup g.neg grp).length := by
        simp only [Scores.nbAll, Scores.nbEasy, Scores.nbHard, c12_groupScores_eq]; omega
      rw [hN, c12_length_filterGroup, c12_length_filterGroup] at htot
      have i3' := i3 rfl grp'
      simp only [List.countP_append, c12_countP_label_piece, gather_length, List.count_cons]
      by_cases hg : grp = grp'
      · subst hg
        simp only [if_true, beq_self_eq_true, Nat.add_mul, Nat.one_mul,
          Spec.C12.labelCount] at i3' ⊢
        omega
      · have hb : (grp == grp') = false := by simpa using hg
        simp only [hg, if_false, hb, Bool.false_eq_true, Nat.add_zero, Nat.zero_add] at i3' ⊢
        exact i3'

/-! ### `bootstrap_sample`: the ways a sample comes about -/

/-- the run on `script` returned the sample `out` and was `ok` -/
def GRun (g : GScores) (c : GBootCfg) (script : List (List Nat)) (out : GScores) : Prop :=
  (g.runSample c script).1 = .ok out ∧ (g.runSample c script).2.ok = true

/-- A successful `ok` run of the replacement / single-pass branch is either an index sample of the
whole object (no / label stratification) or the group loop. -/
theorem c12_resample_cases (g : GScores) (strat : Strat) (sp : Bool) (st : RngState)
    (out : GScores) (k1 : (g.resample strat sp st).1 = .ok out)
    (k2 : (g.resample strat sp st).2.ok = true) :
    ((strat = .none ∨ strat = .byLabel) ∧ ∃ r : Indices,
      IndexFacts g.toScores (strat == .byLabel) sp r ∧
      out = GScores.make (c12_gatherPairs g.pos r.idxPos) (c12_gatherPairs g.neg r.idxNeg)
        g.cfg (some g.groups) sp) ∨
    (strat = .byGroup ∧ g.groups ≠ [] ∧ (c12_byGroupLoop g sp g.groups st).2.ok = true ∧
      out = GScores.make (c12_byGroupLoop g sp g.groups st).1.1
        (c12_byGroupLoop g sp g.groups st).1.2 g.cfg (some g.groups) false) := by
  unfold GScores.resample at k1 k2
  cases strat with
  | none =>
    exact Or.inl ⟨Or.inl rfl, _, (sampleIndices_spec g.toScores _ sp _ k2).2,
      (Except.ok.inj k1).symm⟩
  | byLabel =>
    exact Or.inl ⟨Or.inr rfl, _, (sampleIndices_spec g.toScores _ sp _ k2).2,
      (Except.ok.inj k1).symm⟩
  | byGroup =>
    simp only at k1 k2
    split at k1
    · exact absurd k1 (by simp)
    · next he =>
      rw [if_neg he] at k2
      exact Or.inr ⟨rfl, by simpa using he, k2, (Except.ok.inj k1).symm⟩
  | unknown => exact absurd k1 (by simp)

/-- `out` is a sample of `g` -/
structure c12_SampleOf (g out : GScores) : Prop where
  groups : out.groups = g.groups
  cfg : out.cfg = g.cfg
  pos : ∀ p ∈ out.pos, p ∈ g.pos
  neg : ∀ p ∈ out.neg, p ∈ g.neg
  inv : GInv g → GInv out

theorem c12_resample_facts (g : GScores) (strat : Strat) (sp : Bool) (st : RngState)
    (out : GScores) (k1 : (g.resample strat sp st).1 = .ok out)
    (k2 : (g.resample strat sp st).2.ok = true) : c12_SampleOf g out := by
  rcases c12_resample_cases g strat sp st out k1 k2 with ⟨_, r, f, rfl⟩ | ⟨_, _, hok, rfl⟩
  · have hp := c12_make_perm (c12_gatherPairs g.pos r.idxPos) (c12_gatherPairs g.neg r.idxNeg)
      g.cfg (some g.groups) sp
    have hpr : ∀ i ∈ r.idxPos, i < g.pos.length := fun i hi =>
      (c12_toScores_length g).1 ▸ f.posRange i hi
    have hnr : ∀ i ∈ r.idxNeg, i < g.neg.length := fun i hi =>
      (c12_toScores_length g).2 ▸ f.negRange i hi
    exact ⟨c12_make_groups_some _ _ _ _ _, c12_make_cfg _ _ _ _ _,
      fun p hp' => c12_gatherPairs_mem _ _ hpr p (hp.1.mem_iff.mp hp'),
      fun p hp' => c12_gatherPairs_mem _ _ hnr p (hp.2.mem_iff.mp hp'),
      fun hg => c12_make_inv _ _ _ _ _ fun hsp =>
        ⟨c12_gatherPairs_sorted _ _ hg.1 (f.sortedIdx hsp).1 hpr,
          c12_gatherPairs_sorted _ _ hg.2 (f.sortedIdx hsp).2 hnr⟩⟩
  · obtain ⟨_, l1, l2, _⟩ := c12_byGroupLoop_spec g sp g.groups _ hok
    have hp := c12_make_perm (c12_byGroupLoop g sp g.groups st).1.1
      (c12_byGroupLoop g sp g.groups st).1.2 g.cfg (some g.groups) false
    exact ⟨c12_make_groups_some _ _ _ _ _, c12_make_cfg _ _ _ _ _,
      fun p hp' => (l1 p (hp.1.mem_iff.mp hp')).1, fun p hp' => (l2 p (hp.2.mem_iff.mp hp')).1,
      fun _ => c12_make_inv _ _ _ _ _ nofun⟩

theorem c12_run_resample {g : GScores} {c : GBootCfg} {script : List (List Nat)} {out : GScores}
    (hr : GRun g c script out) :
    c.smoothing = false ∧
    (g.samplingMethod c = .replacement ∨ g.samplingMethod c = .singlePass) ∧
    g.runSample c script =
      g.resample c.strat (g.samplingMethod c == .singlePass) (RngState.init script) := by
  have h1 := hr.1
  unfold GScores.runSample GScores.bootstrapSample at h1 ⊢
  split at h1
  · exact nomatch h1
  · next hs =>
    rw [if_neg hs]
    refine ⟨by simpa using hs, ?_⟩
    cases hm : g.samplingMethod c <;> rw [hm] at h1
    · exact ⟨Or.inl rfl, rfl⟩
    · exact ⟨Or.inr rfl, rfl⟩
    all_goals exact nomatch h1

theorem GRun.facts {g : GScores} {c : GBootCfg} {script : List (List Nat)} {out : GScores}
    (h : GRun g c script out) : c12_SampleOf g out :=
  have e := (c12_run_resample h).2.2
  c12_resample_facts g c.strat _ _ out (e ▸ h.1) (e ▸ h.2)

theorem c12_bootstrap_cases (g : GScores) (c : GBootCfg) (script : List (List Nat))
    (out : GScores) (h : GRun g c script out) :
    c.smoothing = false ∧ ∃ sp : Bool,
      ((g.samplingMethod c = .replacement ∧ sp = false) ∨
       (g.samplingMethod c = .singlePass ∧ sp = true)) ∧
      (((c.strat = .none ∨ c.strat = .byLabel) ∧ ∃ r : Indices,
          IndexFacts g.toScores (c.strat == .byLabel) sp r ∧
          out = GScores.make (c12_gatherPairs g.pos r.idxPos) (c12_gatherPairs g.neg r.idxNeg)
            g.cfg (some g.groups) sp) ∨
       (c.strat = .byGroup ∧ g.groups ≠ [] ∧
          (c12_byGroupLoop g sp g.groups (RngState.init script)).2.ok = true ∧
          out = GScores.make (c12_byGroupLoop g sp g.groups (RngState.init script)).1.1
            (c12_byGroupLoop g sp g.groups (RngState.init script)).1.2 g.cfg (some g.groups)
            false)) := by
  obtain ⟨hs, hm, e⟩ := c12_run_resample h
  refine ⟨hs, g.samplingMethod c == .singlePass, ?_,
    c12_resample_cases g c.strat _ _ out (e ▸ h.1) (e ▸ h.2)⟩
  rcases hm with hm | hm <;> rw [hm]
  · exact Or.inl ⟨rfl, rfl⟩
  · exact Or.inr ⟨rfl, rfl⟩

/-! ### the requests of each stratification mode (`Spec.C12.stratReqsOK`) -/

section Requests
open Spec.C11 Spec.C12

/-- the stratum stage: the requests it adds (`XR`, most recent first) are what the first stage of
`consumeReqs` accepts -/
theorem c12_strata_consume (s : Scores) (b : Bool) (st : RngState)
    (hok : (strataFor s b st).2.ok = true) :
    ∃ XR : Obs, (strataFor s b st).2.trace = XR ++ st.trace ∧
      ∀ rest, (if b = true then some (s.pos.length, s.neg.length, XR.reverse ++ rest)
        else strataReqs 0 s (XR.reverse ++ rest)) =
        some ((strataFor s b st).1.hardPos, (strataFor s b st).1.hardNeg, rest) := by
  obtain ⟨XR, hX, -, hstart⟩ := strataFor_requests s b st hok
  refine ⟨XR.reverse, List.reverse_injective ?_, ?_⟩
  · rw [hX, List.reverse_append, List.reverse_reverse]
  · rwa [List.reverse_reverse]

/-- The requests one `_sample_indices` call adds to the trace (`newR`, most recent first) are
exactly what `consumeReqs` accepts, whatever follows. -/
theorem c12_sampleIndices_consume (s : Scores) (b sp : Bool) (st : RngState)
    (hok : (sampleIndices s b sp st).2.ok = true) :
    ∃ newR : Obs, (sampleIndices s b sp st).2.trace = newR ++ st.trace ∧
      ∀ tail, consumeReqs 0 s b sp (newR.reverse ++ tail) = some tail := by
  obtain ⟨XR, body, hp, hn, htr, -, hstart, hrep, hsp⟩ := sampleIndices_requests s b sp st hok
  refine ⟨(XR ++ body).reverse, List.reverse_injective ?_, fun tail => ?_⟩
  · rw [htr, List.reverse_append, List.reverse_reverse]
  rw [List.reverse_reverse, List.append_assoc]
  simp only [consumeReqs, hstart]
  cases sp with
  | false =>
    obtain ⟨x1, x2, rfl⟩ := hrep rfl
    simp only [Bool.false_eq_true, if_false, List.cons_append, List.nil_append, choiceReqOK,
      beq_self_eq_true, Bool.and_self, if_true]
  | true =>
    obtain ⟨c1, c2, extra, rfl, hex⟩ := hsp rfl
    have hlen : (forcedReqs s.pos.length s.neg.length hp hn c1 c2).length = extra.length := by
      rw [← hex, List.length_map]
    simp only [if_true, List.cons_append, countsReqOK_singlePassReq, Bool.true_and, hlen,
      List.take_left,
      List.drop_left, hex, beq_self_eq_true]

/-- the requests of the `by_group` loop: one `_sample_indices(by_label=False)` block per listed
group, in order -/
theorem c12_byGroupLoop_consume (g : GScores) (sp : Bool) (grps : List Nat) (st : RngState)
    (hok : (c12_byGroupLoop g sp grps st).2.ok = true) :
    ∃ newR : Obs, (c12_byGroupLoop g sp grps st).2.trace = newR ++ st.trace ∧
      ∀ tail, grps.foldl (fun acc grp => acc.bind (consumeReqs 0 (g.groupScores grp) false sp))
        (some (newR.reverse ++ tail)) = some tail := by
  induction grps generalizing st with
  | nil => exact ⟨[], by simp [c12_byGroupLoop], fun tail => rfl⟩
  | cons grp rest ih =>
    simp only [c12_byGroupLoop] at hok ⊢
    obtain ⟨n2, t2, k2⟩ := ih _ hok
    have hok1 := (c12_byGroupLoop_spec g sp rest _ hok).1
    obtain ⟨n1, t1, k1⟩ := c12_sampleIndices_consume (g.groupScores grp) false sp st hok1
    refine ⟨n2 ++ n1, by rw [t2, t1, List.append_assoc], fun tail => ?_⟩
    simp only [List.foldl_cons, Option.bind_some, List.reverse_append, List.append_assoc, k1, k2]

end Requests

end SA

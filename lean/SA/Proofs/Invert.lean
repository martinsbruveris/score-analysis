/-
The normalised core of threshold setting: `_invert_increasing_function` on a sorted list.
`cntLt s t = #{x ∈ s : x < t}`, `cntLe s t = #{x ∈ s : x ≤ t}`.
The interpolated threshold lies between the two neighbouring entries, so the counts at it are
known to within one sample (exactly, on a list without ties).
-/
import SA.Proofs.Threshold

namespace SA

def cntLt (s : List ℚ) (t : ℚ) : ℕ := s.countP (fun x => decide (x < t))
def cntLe (s : List ℚ) (t : ℚ) : ℕ := s.countP (fun x => decide (x ≤ t))

theorem countP_le_of_imp {P Q : ℚ → Prop} [DecidablePred P] [DecidablePred Q] (s : List ℚ)
    (h : ∀ x, P x → Q x) :
    s.countP (fun x => decide (P x)) ≤ s.countP (fun x => decide (Q x)) :=
  List.countP_mono_left fun x _ hx => decide_eq_true (h x (of_decide_eq_true hx))

theorem cntLt_le_cntLe (s : List ℚ) (t : ℚ) : cntLt s t ≤ cntLe s t :=
  countP_le_of_imp s fun _ => le_of_lt

theorem cntLe_le_length (s : List ℚ) (t : ℚ) : cntLe s t ≤ s.length := List.countP_le_length

theorem cntLe_le_cntLt_of_lt (s : List ℚ) (a b : ℚ) (h : a < b) : cntLe s a ≤ cntLt s b :=
  countP_le_of_imp s fun _ hx => lt_of_le_of_lt hx h

theorem cntLt_mono (s : List ℚ) (a b : ℚ) (h : a ≤ b) : cntLt s a ≤ cntLt s b :=
  countP_le_of_imp s fun _ hx => lt_of_lt_of_le hx h

theorem cntLe_mono (s : List ℚ) (a b : ℚ) (h : a ≤ b) : cntLe s a ≤ cntLe s b :=
  countP_le_of_imp s fun _ hx => le_trans hx h

theorem lt_iff_cntLt (s : List ℚ) (hs : s.Pairwise (· ≤ ·)) (t : ℚ) (i : ℕ) (hi : i < s.length) :
    s[i] < t ↔ i < cntLt s t := by
  have := sorted_prefix s hs (fun x => decide (x < t))
    (by intro a b hab hb; simp only [decide_eq_true_eq] at *; exact lt_of_le_of_lt hab hb) i hi
  simpa [cntLt] using this

theorem le_iff_cntLe (s : List ℚ) (hs : s.Pairwise (· ≤ ·)) (t : ℚ) (i : ℕ) (hi : i < s.length) :
    s[i] ≤ t ↔ i < cntLe s t := by
  have := sorted_prefix s hs (fun x => decide (x ≤ t))
    (by intro a b hab hb; simp only [decide_eq_true_eq] at *; exact le_trans hab hb) i hi
  simpa [cntLe] using this

theorem cnt_of_all_gt (s : List ℚ) (t : ℚ) (h : ∀ x ∈ s, t < x) :
    cntLt s t = 0 ∧ cntLe s t = 0 := by
  unfold cntLt cntLe
  constructor <;> rw [List.countP_eq_zero] <;> intro x hx <;> have := h x hx <;> simp <;> linarith

theorem cnt_of_all_lt (s : List ℚ) (t : ℚ) (h : ∀ x ∈ s, x < t) :
    cntLt s t = s.length ∧ cntLe s t = s.length := by
  unfold cntLt cntLe
  constructor <;> rw [List.countP_eq_length] <;> intro x hx <;> have := h x hx <;> simp <;> linarith

/-! ### the interpolated threshold and its two neighbours -/

theorem convexComb_between {a b la : ℚ} (hab : a ≤ b) (h0 : 0 ≤ la) (h1 : la ≤ 1) :
    a ≤ la * a + (1 - la) * b ∧ la * a + (1 - la) * b ≤ b :=
  ⟨by linarith [mul_nonneg (sub_nonneg.2 h1) (sub_nonneg.2 hab)],
   by linarith [mul_nonneg h0 (sub_nonneg.2 hab)]⟩

theorem convexComb_strictly_between {a b la : ℚ} (hab : a < b) (h0 : 0 < la) (h1 : la < 1) :
    a < la * a + (1 - la) * b ∧ la * a + (1 - la) * b < b :=
  ⟨by linarith [mul_pos (sub_pos.2 h1) (sub_pos.2 hab)],
   by linarith [mul_pos h0 (sub_pos.2 hab)]⟩

theorem raw_order (s : List ℚ) (hs : s.Pairwise (· ≤ ·)) (hne : s.length ≠ 0) (x : ℚ) :
    rawThr s x .lower ≤ rawThr s x .linear ∧ rawThr s x .linear ≤ rawThr s x .higher :=
  convexComb_between
    (getD_mono s hs _ _ (clampIdx_mono _ _ _ (floor_le_ceilQ x)) (clampIdx_lt _ _ hne))
    (la_range x).1 (la_range x).2.le

theorem interp_bracket (s : List ℚ) (hs : s.Pairwise (· ≤ ·)) (x : ℚ)
    (hx0 : 0 ≤ x) (hxN : x < s.length) :
    (cntLt s (interp s x) : ℤ) ≤ ⌈x⌉ ∧ ⌊x⌋ + 1 ≤ (cntLe s (interp s x) : ℤ) := by
  have hne := ne_zero_of_target_lt hx0 hxN
  obtain ⟨hlo, hhi⟩ := raw_order s hs hne x
  simp only [rawThr] at hlo hhi
  have hk := clampIdx_floor s.length x hx0 hxN
  have hkN := clampIdx_lt x.floor s.length hne
  have hjN := clampIdx_lt (ceilQ x) s.length hne
  have hj : (clampIdx (ceilQ x) s.length : ℤ) ≤ ⌈x⌉ := by
    rw [clampIdx_ceil s.length x hx0 hne]; exact min_le_left _ _
  rw [getD_eq s _ hkN] at hlo
  rw [getD_eq s _ hjN] at hhi
  -- `interp s x ≤ s[j]`, `j ≤ ⌈x⌉`: at most `j` samples below; `s[k] ≤ interp s x`, `k = ⌊x⌋`:
  -- at least `k + 1` at or below
  have h1 : ¬ clampIdx (ceilQ x) s.length < cntLt s (interp s x) := fun h =>
    absurd ((lt_iff_cntLt s hs _ _ hjN).2 h) (not_lt.2 hhi)
  have h2 := (le_iff_cntLe s hs _ _ hkN).1 hlo
  refine ⟨(Int.ofNat_le.2 (Nat.le_of_not_lt h1)).trans hj, ?_⟩
  rw [← hk]; exact_mod_cast h2

/-- The Python does not clip, it returns a sentinel for targets at or beyond the ends;
`clip01 r * N` is the count the returned threshold is compared with in all three cases. -/
def clip01 (r : ℚ) : ℚ := max 0 (min r 1)

theorem c09_clip01_range (r : ℚ) : 0 ≤ clip01 r ∧ clip01 r ≤ 1 :=
  ⟨le_max_left _ _, max_le zero_le_one (min_le_right _ _)⟩

theorem clip01_of_nonpos {r : ℚ} (h : r ≤ 0) : clip01 r = 0 :=
  max_eq_left ((min_le_left _ _).trans h)

theorem clip01_of_mem {r : ℚ} (h0 : 0 ≤ r) (h1 : r ≤ 1) : clip01 r = r := by
  unfold clip01; rw [min_eq_left h1, max_eq_right h0]

theorem clip01_of_one_le {r : ℚ} (h : 1 ≤ r) : clip01 r = 1 := by
  unfold clip01; rw [min_eq_right h, max_eq_right zero_le_one]

theorem clip01_one_sub (x : ℚ) : clip01 (1 - x) = 1 - clip01 x := by
  rcases le_total x 0 with h0 | h0
  · rw [clip01_of_nonpos h0, clip01_of_one_le (by linarith), sub_zero]
  · rcases le_total x 1 with h1 | h1
    · rw [clip01_of_mem h0 h1, clip01_of_mem (by linarith) (by linarith)]
    · rw [clip01_of_one_le h1, clip01_of_nonpos (by linarith), sub_self]

theorem interior_target (s : List ℚ) (hne : s.length ≠ 0) (r : ℚ) (lc : Bool) (h1 : ¬ 1 ≤ r)
    (h0 : ¬ (if lc then r else r - 1 / (s.length : ℚ)) ≤ 0) :
    0 < indexTarget s r lc ∧ indexTarget s r lc < s.length ∧ clip01 r = r := by
  have hN : (0 : ℚ) < (s.length : ℚ) := by exact_mod_cast Nat.pos_of_ne_zero hne
  have hx0 : 0 < indexTarget s r lc := mul_pos (not_le.1 h0) hN
  have hb := (indexTarget_bounds s hne r lc).2
  have hr0 : 0 < r := by
    by_contra h
    linarith [mul_nonpos_of_nonpos_of_nonneg (not_lt.1 h) hN.le]
  refine ⟨hx0, ?_, clip01_of_mem hr0.le (not_le.1 h1).le⟩
  linarith [mul_lt_mul_of_pos_right (not_le.1 h1) hN]

/-- **Normalised bracket.** On a sorted non-empty list, for every target `r` and both
continuity conventions, the counts strictly below and up to the returned threshold bracket
`clip01 r * N` to within one sample. -/
theorem invert_bracket (u : Ulp) (hu : u.Lawful) (s : List ℚ) (hs : s.Pairwise (· ≤ ·))
    (hne : s.length ≠ 0) (r : ℚ) (lc : Bool) :
    ((cntLt s (invertIncreasing u s r lc .linear) : ℚ) - 1 ≤ clip01 r * (s.length : ℚ)) ∧
    (clip01 r * (s.length : ℚ) ≤ (cntLe s (invertIncreasing u s r lc .linear) : ℚ) + 1) := by
  have hN : (0 : ℚ) < (s.length : ℚ) := by exact_mod_cast Nat.pos_of_ne_zero hne
  obtain ⟨hb1, hb2⟩ := indexTarget_bounds s hne r lc
  rcases invertIncreasing_cases u s r lc with ⟨h1, e⟩ | ⟨h1, h0, e⟩ | ⟨h1, h0, e⟩ <;> rw [e]
  · obtain ⟨hL, hU⟩ := cnt_of_all_lt s _ (lt_up_last hu hs)
    rw [hL, hU, clip01_of_one_le h1]; constructor <;> linarith only []
  · -- lower special case: `r * N - 1 ≤ x ≤ 0`
    obtain ⟨hL, hU⟩ := cnt_of_all_gt s _ (down_head_lt hu hs)
    have hx : indexTarget s r lc ≤ 0 := mul_nonpos_of_nonpos_of_nonneg h0 hN.le
    rw [hL, hU, Nat.cast_zero]
    rcases le_total r 0 with hr | hr
    · rw [clip01_of_nonpos hr]; constructor <;> linarith only []
    · rw [clip01_of_mem hr (not_le.1 h1).le]
      exact ⟨by linarith only [mul_nonneg hr hN.le], by linarith only [hb1, hx]⟩
  · obtain ⟨hx0, hxN, hc⟩ := interior_target s hne r lc h1 h0
    obtain ⟨hL, hU⟩ := interp_bracket s hs _ hx0.le hxN
    have hLq : (cntLt s (interp s (indexTarget s r lc)) : ℚ) ≤ (⌈indexTarget s r lc⌉ : ℚ) := by
      exact_mod_cast hL
    have hUq : ((⌊indexTarget s r lc⌋ : ℚ) + 1) ≤
        (cntLe s (interp s (indexTarget s r lc)) : ℚ) := by
      exact_mod_cast hU
    have hceil := Int.ceil_lt_add_one (indexTarget s r lc)
    have hfloor := Int.lt_floor_add_one (indexTarget s r lc)
    rw [hc]; simp only [rawThr]
    -- `cntLt - 1 ≤ ⌈x⌉ - 1 < x ≤ r * N` and `r * N ≤ x + 1 < ⌊x⌋ + 2 ≤ cntLe + 1`
    exact ⟨by linarith only [hLq, hceil, hb2], by linarith only [hUq, hfloor, hb1]⟩

/-! ### tie-free lists: exact counts -/

theorem cnt_strict (s : List ℚ) (hs : s.Pairwise (· < ·)) (i : ℕ) (hi : i < s.length) :
    cntLt s s[i] = i ∧ cntLe s s[i] = i + 1 := by
  have hs' : s.Pairwise (· ≤ ·) := hs.imp le_of_lt
  have hlt : ∀ j k (hj : j < s.length) (hk : k < s.length), j < k → s[j] < s[k] := fun j k hj hk =>
    List.pairwise_iff_getElem.mp hs j k hj hk
  constructor
  · exact Nat.le_antisymm
      (Nat.le_of_not_lt fun h => lt_irrefl _ ((lt_iff_cntLt s hs' _ i hi).2 h))
      (Nat.le_of_not_lt fun h => Nat.lt_irrefl _
        ((lt_iff_cntLt s hs' _ _ (h.trans hi)).1 (hlt _ _ (h.trans hi) hi h)))
  · refine Nat.le_antisymm (Nat.le_of_not_lt fun h => ?_)
      ((le_iff_cntLe s hs' _ i hi).1 (le_refl _))
    have h4 : i + 1 < s.length := h.trans_le (cntLe_le_length s _)
    exact absurd ((le_iff_cntLe s hs' s[i] (i + 1) h4).2 h)
      (not_le.2 (hlt i (i + 1) hi h4 (Nat.lt_succ_self i)))

theorem cnt_between (s : List ℚ) (hs : s.Pairwise (· ≤ ·)) (k : ℕ) (hk : k + 1 < s.length) (t : ℚ)
    (h1 : s[k] < t) (h2 : t < s[k+1]) : cntLt s t = k + 1 ∧ cntLe s t = k + 1 := by
  have a1 : k < cntLt s t := (lt_iff_cntLt s hs t k (by omega)).mp h1
  have a2 : ¬ (k + 1 < cntLe s t) := fun h =>
    absurd ((le_iff_cntLe s hs t (k+1) hk).mpr h) (not_le.mpr h2)
  have a3 := cntLt_le_cntLe s t
  omega

/-- Counts at the interpolated threshold on a strictly sorted list: the two neighbours are
`s[k]` and `s[j]` with `j = k` (then the threshold is `s[k]`) or `j = k + 1` (then it lies
strictly between them). -/
theorem interp_counts (s : List ℚ) (hs : s.Pairwise (· < ·)) (x : ℚ)
    (hx0 : 0 ≤ x) (hxN : x < s.length) :
    (cntLt s (interp s x) : ℤ) = min ⌈x⌉ ((s.length : ℤ) - 1) ∧
      (cntLe s (interp s x) : ℤ) = ⌊x⌋ + 1 := by
  have hne := ne_zero_of_target_lt hx0 hxN
  have hkN := clampIdx_lt x.floor s.length hne
  have hjN := clampIdx_lt (ceilQ x) s.length hne
  obtain ⟨c1, c2⟩ : cntLt s (interp s x) = clampIdx (ceilQ x) s.length ∧
      cntLe s (interp s x) = clampIdx x.floor s.length + 1 := by
    rcases clampIdx_floor_ceil_cases s.length x hx0 hxN with hjk | ⟨hjk, hc⟩
    · have hthr : interp s x = s[clampIdx x.floor s.length] := by
        unfold interp; rw [hjk, getD_eq s _ hkN]; ring
      rw [hthr, hjk]; exact cnt_strict s hs _ hkN
    · have hk1 : clampIdx x.floor s.length + 1 < s.length := hjk ▸ hjN
      have hla : 0 < ((ceilQ x : ℤ) : ℚ) - x := by
        rw [ceilQ_eq, hc]; push_cast; exact sub_pos.2 (Int.lt_floor_add_one x)
      obtain ⟨h1, h2⟩ := convexComb_strictly_between
        (List.pairwise_iff_getElem.mp hs _ _ hkN hk1 (Nat.lt_succ_self _)) hla (la_range x).2
      have hthr : interp s x = (((ceilQ x : ℤ) : ℚ) - x) * s[clampIdx x.floor s.length] +
          (1 - (((ceilQ x : ℤ) : ℚ) - x)) * s[clampIdx x.floor s.length + 1] := by
        unfold interp; simp only [hjk, getD_eq s _ hkN, getD_eq s _ hk1]
      rw [← hthr] at h1 h2
      rw [hjk]; exact cnt_between s (hs.imp le_of_lt) _ hk1 _ h1 h2
  rw [c1, c2, Nat.cast_add, Nat.cast_one, clampIdx_floor s.length x hx0 hxN,
    clampIdx_ceil s.length x hx0 hne]
  exact ⟨rfl, rfl⟩

theorem interp_exact (s : List ℚ) (hs : s.Pairwise (· < ·)) (x : ℚ)
    (hx0 : 0 ≤ x) (hxN : x < s.length) :
    ((⌊x⌋ : ℚ) = x → (cntLt s (interp s x) : ℤ) = ⌊x⌋ ∧ (cntLe s (interp s x) : ℤ) = ⌊x⌋ + 1) ∧
    ((⌊x⌋ : ℚ) ≠ x → ⌊x⌋ + 1 < (s.length : ℤ) →
      (cntLt s (interp s x) : ℤ) = ⌊x⌋ + 1 ∧ (cntLe s (interp s x) : ℤ) = ⌊x⌋ + 1) ∧
    ((⌊x⌋ : ℚ) ≠ x → ⌊x⌋ + 1 = (s.length : ℤ) →
      (cntLt s (interp s x) : ℤ) = ⌊x⌋ ∧ (cntLe s (interp s x) : ℤ) = ⌊x⌋ + 1) := by
  obtain ⟨e1, e2⟩ := interp_counts s hs x hx0 hxN
  have hflN : ⌊x⌋ + 1 ≤ s.length := Int.floor_lt.2 (by exact_mod_cast hxN)
  have hce : (⌊x⌋ : ℚ) ≠ x → ⌈x⌉ = ⌊x⌋ + 1 := fun hint =>
    le_antisymm (Int.ceil_le_floor_add_one x)
      (Int.add_one_le_iff.2 (Int.lt_ceil.2 (lt_of_le_of_ne (Int.floor_le x) hint)))
  rw [e1, e2]
  refine ⟨fun hint => ?_, fun hint hlast => ?_, fun hint hlast => ?_⟩
  · rw [← hint, Int.ceil_intCast, Int.floor_intCast, min_eq_left (by omega)]
    exact ⟨rfl, rfl⟩
  · rw [hce hint, min_eq_left (by omega)]; exact ⟨rfl, rfl⟩
  · rw [hce hint, min_eq_right (by omega)]; exact ⟨by omega, rfl⟩

/-- **Normalised round trip (tie-free).** On a strictly sorted list every count `c` between
`cntLt` and `cntLe` at the returned threshold is within one sample of `clip01 r * N`. -/
theorem invert_within (u : Ulp) (hu : u.Lawful) (s : List ℚ) (hs : s.Pairwise (· < ·))
    (hne : s.length ≠ 0) (r : ℚ) (lc : Bool) (c : ℕ)
    (hc1 : cntLt s (invertIncreasing u s r lc .linear) ≤ c)
    (hc2 : c ≤ cntLe s (invertIncreasing u s r lc .linear)) :
    ((c : ℚ) - 1 ≤ clip01 r * (s.length : ℚ)) ∧ (clip01 r * (s.length : ℚ) ≤ (c : ℚ) + 1) := by
  have hs' : s.Pairwise (· ≤ ·) := hs.imp le_of_lt
  have hN : (0 : ℚ) < (s.length : ℚ) := by exact_mod_cast Nat.pos_of_ne_zero hne
  obtain ⟨hB1, hB2⟩ := invert_bracket u hu s hs' hne r lc
  rcases invertIncreasing_cases u s r lc with ⟨h1, e⟩ | ⟨h1, h0, e⟩ | ⟨h1, h0, e⟩ <;>
    rw [e] at hc1 hc2 hB1 hB2
  · -- at a sentinel both counts agree, so `c` is that count
    obtain ⟨hL, hU⟩ := cnt_of_all_lt s _ (lt_up_last hu hs')
    rw [hL] at hc1 hB1; rw [hU] at hc2 hB2
    obtain rfl : c = s.length := le_antisymm hc2 hc1
    exact ⟨hB1, hB2⟩
  · obtain ⟨hL, hU⟩ := cnt_of_all_gt s _ (down_head_lt hu hs')
    rw [hL] at hc1 hB1; rw [hU] at hc2 hB2
    obtain rfl : c = 0 := le_antisymm hc2 hc1
    exact ⟨hB1, hB2⟩
  · obtain ⟨hx0, hxN, hc⟩ := interior_target s hne r lc h1 h0
    obtain ⟨hb1, hb2⟩ := indexTarget_bounds s hne r lc
    obtain ⟨e1, e2⟩ := interp_counts s hs _ hx0.le hxN
    simp only [rawThr] at hc1 hc2
    -- `c ≤ ⌊x⌋ + 1` and `min ⌈x⌉ (N - 1) ≤ c`, where `r * N - 1 ≤ x ≤ r * N < N`
    have hj : (⌈indexTarget s r lc⌉ : ℤ) ≤ c ∨ (s.length : ℤ) - 1 ≤ c := by
      rw [← min_le_iff, ← e1]; exact_mod_cast hc1
    have hcU : (c : ℚ) ≤ (⌊indexTarget s r lc⌋ : ℚ) + 1 := by
      have : (c : ℤ) ≤ ⌊indexTarget s r lc⌋ + 1 := by rw [← e2]; exact_mod_cast hc2
      exact_mod_cast this
    have hfloor := Int.floor_le (indexTarget s r lc)
    have hceil := Int.le_ceil (indexTarget s r lc)
    have hrN := mul_lt_mul_of_pos_right (not_le.1 h1) hN
    rw [hc]
    refine ⟨by linarith only [hcU, hfloor, hb2], ?_⟩
    rcases hj with hj | hj
    · have : ((⌈indexTarget s r lc⌉ : ℤ) : ℚ) ≤ (c : ℚ) := by exact_mod_cast hj
      linarith only [this, hceil, hb1]
    · have : (s.length : ℚ) - 1 ≤ (c : ℚ) := by exact_mod_cast hj
      linarith only [this, hrN]

end SA

/-
Helper lemmas for C17: `absPL`, one crossing segment, the crossing indices, `argminL`.
-/
import SA.Model.InvertPL
import SA.Proofs.Threshold
import Mathlib.Data.List.GetD

namespace SA

theorem absPL_eq_abs (a : ℚ) : absPL a = |a| := by
  unfold absPL
  split
  · rw [abs_of_neg ‹_›]
  · rw [abs_of_nonneg (not_lt.mp ‹_›)]

theorem absR_nonneg (a : ℚ) : 0 ≤ absPL a := by
  rw [absPL_eq_abs]; exact abs_nonneg a

theorem absPL_le_zero {a : ℚ} : absPL a ≤ 0 ↔ a = 0 := by
  rw [absPL_eq_abs]; exact abs_nonpos_iff

theorem absPL_zero : absPL (0 : ℚ) = 0 := by rw [absPL_eq_abs, abs_zero]

/-- the interpolation weight `la` of utils.py on a crossing segment is defined and in `[0, 1)` -/
theorem crossing_la (a b t : ℚ) (h : isCrossing a b t = true) :
    a ≠ b ∧ 0 ≤ (t - a) / (b - a) ∧ (t - a) / (b - a) < 1 := by
  simp only [isCrossing, Bool.or_eq_true, Bool.and_eq_true, decide_eq_true_eq, gt_iff_lt,
    ge_iff_le] at h
  rcases h with ⟨h1, h2⟩ | ⟨h1, h2⟩
  · have hba : 0 < b - a := sub_pos.mpr (h1.trans_lt h2)
    exact ⟨(h1.trans_lt h2).ne, div_nonneg (sub_nonneg.mpr h1) hba.le,
      (div_lt_one hba).mpr (sub_lt_sub_right h2 a)⟩
  · -- downward: the same with both differences negated
    have hab : 0 < a - b := sub_pos.mpr (h2.trans_le h1)
    rw [← neg_sub a t, ← neg_sub a b, neg_div_neg_eq]
    exact ⟨(h2.trans_le h1).ne', div_nonneg (sub_nonneg.mpr h1) hab.le,
      (div_lt_one hab).mpr (sub_lt_sub_left h2 a)⟩

/-- the point `(1 - la) x0 + la x1`: in `[x0, x1)`, and (division-free) where the chord takes `t` -/
theorem seg_spec (x0 x1 a b t : ℚ) (hx : x0 < x1) (h : isCrossing a b t = true) :
    x0 ≤ (1 - (t - a) / (b - a)) * x0 + (t - a) / (b - a) * x1 ∧
    (1 - (t - a) / (b - a)) * x0 + (t - a) / (b - a) * x1 < x1 ∧
    ((1 - (t - a) / (b - a)) * x0 + (t - a) / (b - a) * x1 - x0) * (b - a)
      = (t - a) * (x1 - x0) := by
  obtain ⟨hab, h0, h1⟩ := crossing_la a b t h
  have hla : (t - a) / (b - a) * (b - a) = t - a := div_mul_cancel₀ _ (sub_ne_zero.mpr hab.symm)
  generalize (t - a) / (b - a) = la at *
  have hdx : 0 < x1 - x0 := sub_pos.mpr hx
  have e : (1 - la) * x0 + la * x1 = x0 + la * (x1 - x0) := by ring
  rw [e]
  refine ⟨le_add_of_nonneg_right (mul_nonneg h0 hdx.le), ?_, ?_⟩
  · have := mul_lt_of_lt_one_left hdx h1
    linarith only [this]
  · rw [add_sub_cancel_left, mul_right_comm, hla]

theorem mem_crossIdx (y : List ℚ) (t : ℚ) (j : ℕ) :
    j ∈ crossIdx y t ↔ j + 1 < y.length ∧ isCrossing (y.getD j 0) (y.getD (j + 1) 0) t = true := by
  unfold crossIdx
  rw [List.mem_filter, List.mem_range, Nat.lt_sub_iff_add_lt]

theorem crossIdx_pairwise (y : List ℚ) (t : ℚ) : (crossIdx y t).Pairwise (· < ·) := by
  unfold crossIdx
  exact List.Pairwise.filter _ List.pairwise_lt_range

theorem argminL_spec (d : List ℚ) (hd : d ≠ []) :
    argminL d < d.length ∧ (∀ k, k < d.length → d.getD (argminL d) 0 ≤ d.getD k 0) ∧
    (∀ k, k < argminL d → d.getD (argminL d) 0 < d.getD k 0) := by
  induction d with
  | nil => exact absurd rfl hd
  | cons v vs ih =>
    rcases vs with _ | ⟨w, ws⟩
    · exact ⟨Nat.one_pos, fun k hk => by rw [Nat.lt_one_iff.mp hk]; exact le_refl v,
        fun k hk => absurd hk (Nat.not_lt_zero k)⟩
    · obtain ⟨i1, i2, i3⟩ := ih (List.cons_ne_nil w ws)
      rw [argminL]
      simp only [List.isEmpty_cons, Bool.false_or, decide_eq_true_eq]
      split
      · -- the head is a minimum: index 0
        rename_i hle
        refine ⟨Nat.succ_pos _, fun k hk => ?_, fun k hk => absurd hk (Nat.not_lt_zero k)⟩
        rcases k with _ | k
        · exact le_refl v
        · exact hle.trans (i2 k (Nat.lt_of_succ_lt_succ hk))
      · -- the minimum of the tail is smaller: its index, shifted
        rename_i hle
        rw [not_le] at hle
        refine ⟨Nat.succ_lt_succ i1, fun k hk => ?_, fun k hk => ?_⟩ <;> rcases k with _ | k
        · exact hle.le
        · exact i2 k (Nat.lt_of_succ_lt_succ hk)
        · exact hle
        · exact i3 k (Nat.lt_of_succ_lt_succ hk)

theorem getD_map_abs (y : List ℚ) (t : ℚ) (i : ℕ) (hi : i < y.length) :
    (y.map fun v => absPL (v - t)).getD i 0 = absPL (y.getD i 0 - t) := by
  simp [List.getD_eq_getElem?_getD, hi]

theorem argminAbs_spec (y : List ℚ) (t : ℚ) (hy : y ≠ []) :
    argminAbs y t < y.length ∧
    (∀ k, k < y.length → absPL (y.getD (argminAbs y t) 0 - t) ≤ absPL (y.getD k 0 - t)) ∧
    (∀ k, k < argminAbs y t → absPL (y.getD (argminAbs y t) 0 - t) < absPL (y.getD k 0 - t)) := by
  have hd : (y.map fun v => absPL (v - t)) ≠ [] := by simpa using hy
  obtain ⟨h1, h2, h3⟩ := argminL_spec _ hd
  rw [List.length_map] at h1 h2
  unfold argminAbs
  refine ⟨h1, ?_, ?_⟩
  · intro k hk
    have := h2 k hk
    rwa [getD_map_abs y t _ h1, getD_map_abs y t k hk] at this
  · intro k hk
    have := h3 k hk
    rwa [getD_map_abs y t _ h1, getD_map_abs y t k (by omega)] at this

end SA

/-
Small list facts several files need.
-/
import Mathlib.Data.List.GetD

theorem List.map_getD_range {α : Type} (l : List α) (d : α) :
    (List.range l.length).map (fun m => l.getD m d) = l := by
  apply List.ext_getElem
  · simp
  · intro i h1 h2
    simp at h1
    simp [h1]

theorem List.length_flatMap_const {α β : Type} (f : α → List β) (c : Nat) (l : List α)
    (hc : ∀ x ∈ l, (f x).length = c) : (l.flatMap f).length = l.length * c := by
  induction l with
  | nil => simp
  | cons a l ih =>
    rw [List.flatMap_cons, List.length_append, hc a List.mem_cons_self,
      ih fun x hx => hc x (List.mem_cons_of_mem _ hx), List.length_cons, Nat.add_mul, Nat.one_mul,
        Nat.add_comm]

theorem List.getElem?_flatMap_const {α β : Type} (f : α → List β) (c : Nat) (l : List α)
    (hc : ∀ x ∈ l, (f x).length = c) (i k : Nat) (hk : k < c) :
    (l.flatMap f)[c * i + k]? = (l[i]?).bind fun x => (f x)[k]? := by
  induction l generalizing i with
  | nil => rfl
  | cons a l ih =>
    have ha := hc a List.mem_cons_self
    rw [List.flatMap_cons]
    cases i with
    | zero =>
      rw [Nat.mul_zero, Nat.zero_add, List.getElem?_append_left (by rw [ha]; exact hk)]
      rfl
    | succ i =>
      rw [Nat.mul_succ, Nat.add_comm (c * i) c, Nat.add_assoc, ← ha,
        List.getElem?_append_right (Nat.le_add_right _ _), Nat.add_sub_cancel_left, ha,
        ih fun x hx => hc x (List.mem_cons_of_mem _ hx)]
      rfl

theorem List.all_zip_map {α β : Type} (l : List α) (f : α → β) (g : α × β → Bool)
    (h : ∀ k ∈ l, g (k, f k) = true) : (l.zip (l.map f)).all g = true := by
  induction l with
  | nil => rfl
  | cons a l ih =>
    simp only [List.map_cons, List.zip_cons_cons, List.all_cons, Bool.and_eq_true]
    exact ⟨h a List.mem_cons_self, ih fun k hk => h k (List.mem_cons_of_mem _ hk)⟩

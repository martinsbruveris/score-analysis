/-
Helper lemmas for C05: index maps, the accumulation loop, finite sums, permutations.
-/
import SA.Spec.C05
import SA.Proofs.ListGetD
import Mathlib.Data.List.Nodup
import Mathlib.Data.List.Perm.Basic
import Mathlib.Algebra.BigOperators.Group.List.Basic
import Mathlib.Algebra.Order.Field.Rat
import Mathlib.Tactic.Ring

namespace SA
open Spec.C05

/-! ### lists of class codes -/

theorem getD_mem_of_lt (l : List Nat) (i : Nat) (hi : i < l.length) : l.getD i 0 ∈ l := by
  rw [List.getD_eq_getElem l 0 hi]; exact List.getElem_mem hi

theorem getD_idxOf (l : List Nat) (x : Nat) (hx : x ∈ l) : l.getD (l.idxOf x) 0 = x := by
  rw [List.getD_eq_getElem l 0 (List.idxOf_lt_length_of_mem hx)]; exact List.getElem_idxOf _

theorem idxOf_getD (l : List Nat) (hnd : l.Nodup) (i : Nat) (hi : i < l.length) :
    l.idxOf (l.getD i 0) = i := by
  rw [List.getD_eq_getElem l 0 hi]; exact hnd.idxOf_getElem i hi

/-- for a class list without duplicates, "sits at position `i`" and "is the class `classes[i]`"
are the same thing -/
theorem idx_eq_iff (l : List Nat) (hnd : l.Nodup) (i : Nat) (hi : i < l.length) (x : Nat)
    (hx : x ∈ l) : i = l.idxOf x ↔ x = l.getD i 0 := by
  constructor
  · intro h; rw [h, getD_idxOf l x hx]
  · intro h; rw [h, idxOf_getD l hnd i hi]

theorem idxOf_range (n k : Nat) (hk : k < n) : (List.range n).idxOf k = k := by
  have h := idxOf_getD (List.range n) List.nodup_range k (by simpa using hk)
  have e : (List.range n).getD k 0 = k := by simp [List.getD_eq_getElem?_getD, hk]
  rw [e] at h; exact h

theorem lookup_zip_getD {α}
    : ∀ (cs : List Nat) (vs : List α) (j : Nat) (_ : j < cs.length) (hjv : j < vs.length),
    cs.Nodup → (cs.zip vs).lookup (cs.getD j 0) = some vs[j]
  | c :: cs, v :: vs, 0, _, _, _ => by
    rw [List.getD_cons_zero, List.zip_cons_cons, List.lookup_cons_self]; rfl
  | c :: cs, v :: vs, j + 1, hj, hjv, hnd => by
    have hj' : j < cs.length := Nat.lt_of_succ_lt_succ hj
    have hne : (cs.getD j 0 == c) = false :=
      beq_false_of_ne fun h => (List.nodup_cons.mp hnd).1 (h ▸ getD_mem_of_lt cs j hj')
    rw [List.getD_cons_succ, List.zip_cons_cons, List.lookup_cons, hne]
    exact lookup_zip_getD cs vs j hj' (Nat.lt_of_succ_lt_succ hjv) (List.nodup_cons.mp hnd).2

/-! ### `idx_map` -/

theorem idxMapFrom_none (cs : List Nat) (k x : Nat) : idxMapFrom cs k x = none ↔ x ∉ cs := by
  fun_induction idxMapFrom cs k x with
  | case1 => exact iff_of_true rfl List.not_mem_nil
  | case2 c cs k x i h ih =>
    exact iff_of_false nofun fun hn => by rw [ih.mpr fun hm => hn (List.mem_cons_of_mem _ hm)] at h; cases h
  | case3 cs k x h ih => exact iff_of_false nofun fun hn => hn List.mem_cons_self
  | case4 c cs k x h hne ih =>
    exact iff_of_true rfl fun hm => (List.mem_cons.mp hm).elim hne (ih.mp h)

theorem idxMapFrom_lt (cs : List Nat) (k x i : Nat) (h : idxMapFrom cs k x = some i) :
    k ≤ i ∧ i < k + cs.length := by
  fun_induction idxMapFrom cs k x with
  | case1 => cases h
  | case2 c cs k x j hj ih =>
    cases h
    rw [List.length_cons, Nat.add_comm cs.length 1, ← Nat.add_assoc]
    exact ⟨Nat.le_of_succ_le (ih hj).1, (ih hj).2⟩
  | case3 cs k x _ _ => cases h; exact ⟨Nat.le_refl _, Nat.lt_add_of_pos_right (Nat.succ_pos _)⟩
  | case4 => cases h

theorem idxMapFrom_nodup (cs : List Nat) (k x : Nat) (hnd : cs.Nodup) (hx : x ∈ cs) :
    idxMapFrom cs k x = some (k + cs.idxOf x) := by
  fun_induction idxMapFrom cs k x with
  | case1 => cases hx
  | case2 c cs k x j hj ih =>
    obtain ⟨hc, hcs⟩ := List.nodup_cons.mp hnd
    have hx' : x ∈ cs := by
      by_contra hn; rw [(idxMapFrom_none cs (k + 1) x).mpr hn] at hj; cases hj
    rw [List.idxOf_cons_ne _ (fun e : c = x => hc (e ▸ hx')), ← hj, ih hcs hx', Nat.add_assoc,
      Nat.add_comm 1]
  | case3 cs k x _ _ => rw [List.idxOf_cons_self, Nat.add_zero]
  | case4 c cs k x h hne _ =>
    exact absurd ((List.mem_cons.mp hx).resolve_left hne) ((idxMapFrom_none cs (k + 1) x).mp h)

theorem idxMap_nodup (cs : List Nat) (x : Nat) (hnd : cs.Nodup) (hx : x ∈ cs) :
    idxMap cs x = some (cs.idxOf x) := by
  simp [idxMap, idxMapFrom_nodup cs 0 x hnd hx]

theorem idxMap_none (cs : List Nat) (x : Nat) : idxMap cs x = none ↔ x ∉ cs :=
  idxMapFrom_none cs 0 x

theorem idxMap_some_mem {cs : List Nat} {x i : Nat} (h : idxMap cs x = some i) : x ∈ cs := by
  by_contra hn; rw [(idxMap_none cs x).mpr hn] at h; cases h

/-! ### the accumulation loop -/

/-- the loop adds, at position `(i, j)`, the weight of every sample whose label is `classes[i]`
and whose prediction is `classes[j]` -/
theorem accumulate_spec (classes : List Nat) (hnd : classes.Nodup) (samples : List Sample)
    (hin : ∀ s ∈ samples, s.label ∈ classes ∧ s.pred ∈ classes) (M0 : Mat) :
    ∃ M, accumulate classes samples M0 = .ok M ∧
      ∀ i j, i < classes.length → j < classes.length →
        M i j = M0 i j + weightOf samples (classes.getD i 0) (classes.getD j 0) := by
  induction samples generalizing M0 with
  | nil => exact ⟨M0, rfl, fun i j _ _ => (add_zero _).symm⟩
  | cons s rest ih =>
    obtain ⟨⟨hl, hp⟩, hrest⟩ := List.forall_mem_cons.mp hin
    obtain ⟨M, hM, hE⟩ := ih hrest
      (addAt M0 (classes.idxOf s.label) (classes.idxOf s.pred) s.weight)
    refine ⟨M, ?_, fun i j hi hj => ?_⟩
    · rw [accumulate, idxMap_nodup classes _ hnd hl, idxMap_nodup classes _ hnd hp]; exact hM
    · -- position `(i, j)` is written iff the sample carries the labels `classes[i]`, `classes[j]`
      have e : (i = classes.idxOf s.label ∧ j = classes.idxOf s.pred) ↔
          (s.label = classes.getD i 0 ∧ s.pred = classes.getD j 0) :=
        and_congr (idx_eq_iff classes hnd i hi s.label hl) (idx_eq_iff classes hnd j hj s.pred hp)
      rw [hE i j hi hj, addAt, weightOf, if_congr e rfl rfl]
      split <;> ring

/-- positions outside the class range are never written -/
theorem accumulate_outside (classes : List Nat) (samples : List Sample) (M0 M : Mat)
    (h : accumulate classes samples M0 = .ok M) (i j : Nat)
    (hij : classes.length ≤ i ∨ classes.length ≤ j) : M i j = M0 i j := by
  fun_induction accumulate classes samples M0 with
  | case1 M0 => cases h; rfl
  | case2 => cases h
  | case3 => cases h
  | case4 s rest M0 a ha b hb ih =>
    have := idxMapFrom_lt classes 0 s.label a ha
    have := idxMapFrom_lt classes 0 s.pred b hb
    rw [ih h, addAt, if_neg (by omega)]

/-- the loop fails exactly when some label or prediction is not a class, and then with KeyError -/
theorem accumulate_error_iff (classes : List Nat) (samples : List Sample) (M0 : Mat) :
    accumulate classes samples M0 = .error .keyError ↔
      ∃ s ∈ samples, s.label ∉ classes ∨ s.pred ∉ classes := by
  fun_induction accumulate classes samples M0 with
  | case1 => exact iff_of_false nofun nofun
  | case2 s rest M0 h =>
    exact iff_of_true rfl ⟨s, List.mem_cons_self, Or.inl ((idxMap_none _ _).mp h)⟩
  | case3 s rest M0 a ha h =>
    exact iff_of_true rfl ⟨s, List.mem_cons_self, Or.inr ((idxMap_none _ _).mp h)⟩
  | case4 s rest M0 a ha b hb ih =>
    rw [ih, List.exists_mem_cons_iff]
    exact (or_iff_right fun h => h.elim (· (idxMap_some_mem ha)) (· (idxMap_some_mem hb))).symm

theorem accumulate_error_kind (classes : List Nat) (samples : List Sample) (M0 : Mat) (e : Err)
    (h : accumulate classes samples M0 = .error e) : e = .keyError := by
  fun_induction accumulate classes samples M0 with
  | case1 => cases h
  | case2 => cases h; rfl
  | case3 => cases h; rfl
  | case4 s rest M0 a ha b hb ih => exact ih h

/-! ### finite sums -/

theorem sumTo_congr (n : Nat) (f g : Nat → Rat) (h : ∀ k, k < n → f k = g k) :
    sumTo n f = sumTo n g := by
  induction n with
  | zero => rfl
  | succ n ih =>
    simp only [sumTo]
    rw [ih (fun k hk => h k (Nat.lt_succ_of_lt hk)), h n (Nat.lt_succ_self n)]

theorem sumTo_add (n : Nat) (f g : Nat → Rat) :
    sumTo n (fun k => f k + g k) = sumTo n f + sumTo n g := by
  induction n with
  | zero => exact (add_zero 0).symm
  | succ n ih => rw [sumTo, sumTo, sumTo, ih]; exact add_add_add_comm _ _ _ _

theorem sumTo_sub (n : Nat) (f g : Nat → Rat) :
    sumTo n (fun k => f k - g k) = sumTo n f - sumTo n g := by
  induction n with
  | zero => exact (sub_zero 0).symm
  | succ n ih => rw [sumTo, sumTo, sumTo, ih]; exact (add_sub_add_comm _ _ _ _).symm

theorem sumTo_zero (n : Nat) : sumTo n (fun _ => 0) = 0 := by
  induction n with
  | zero => rfl
  | succ n ih => rw [sumTo, ih, add_zero]

theorem sumTo_nonneg (n : Nat) (f : Nat → Rat) (h : ∀ k, k < n → 0 ≤ f k) : 0 ≤ sumTo n f := by
  induction n with
  | zero => exact le_refl 0
  | succ n ih =>
    exact add_nonneg (ih fun k hk => h k (Nat.lt_succ_of_lt hk)) (h n (Nat.lt_succ_self n))

/-- exchanging the order of a double sum -/
theorem sumTo_comm (n m : Nat) (f : Nat → Nat → Rat) :
    sumTo n (fun i => sumTo m (fun j => f i j)) = sumTo m (fun j => sumTo n (fun i => f i j)) := by
  induction n with
  | zero => simp [sumTo, sumTo_zero]
  | succ n ih => simp only [sumTo]; rw [ih, ← sumTo_add]

theorem sumTo_split (n : Nat) (f : Nat → Rat) (j : Nat) (hj : j < n) :
    sumTo n f = f j + sumTo n (fun i => if i = j then 0 else f i) := by
  induction n with
  | zero => cases hj
  | succ n ih =>
    rw [sumTo, sumTo]
    rcases Nat.lt_succ_iff_lt_or_eq.mp hj with h | rfl
    · rw [ih h, if_neg (Nat.ne_of_gt h), add_assoc]
    · rw [if_pos rfl, add_zero, add_comm,
        sumTo_congr j _ f fun k hk => if_neg (Nat.ne_of_lt hk)]

theorem sumTo_eq_sum (n : Nat) (f : Nat → Rat) : sumTo n f = ((List.range n).map f).sum := by
  induction n with
  | zero => simp [sumTo]
  | succ n ih => rw [List.sum_range_succ, ← ih]; rfl

/-- a sum over `0..n-1` may be taken in any order -/
theorem sumTo_perm (n : Nat) (p : List Nat) (hp : p.Perm (List.range n)) (f : Nat → Rat) :
    sumTo n (fun i => f (p.getD i 0)) = sumTo n f := by
  have hlen : p.length = n := by rw [hp.length_eq, List.length_range]
  rw [sumTo_eq_sum, sumTo_eq_sum]
  have : (List.range n).map (fun i => f (p.getD i 0)) = p.map f := by
    conv_rhs => rw [← List.map_getD_range p 0]
    rw [List.map_map, hlen]; rfl
  rw [this]
  exact (hp.map f).sum_eq

theorem perm_getD_lt (n : Nat) (p : List Nat) (hp : p.Perm (List.range n)) (i : Nat) (hi : i < n) :
    p.getD i 0 < n := by
  have hlen : p.length = n := by rw [hp.length_eq, List.length_range]
  have := getD_mem_of_lt p i (hlen.symm ▸ hi)
  exact List.mem_range.mp (hp.mem_iff.mp this)

/-! ### totals -/

theorem total_eq_colSums (n : Nat) (M : Mat) : total n M = sumTo n (colSum n M) := by
  unfold total rowSum colSum; exact sumTo_comm n n M

theorem rowSum_permute (n : Nat) (p : List Nat) (hp : p.Perm (List.range n)) (M : Mat) (i : Nat) :
    rowSum n (permute p M) i = rowSum n M (p.getD i 0) := by
  unfold rowSum permute; exact sumTo_perm n p hp (fun k => M (p.getD i 0) k)

theorem colSum_permute (n : Nat) (p : List Nat) (hp : p.Perm (List.range n)) (M : Mat) (j : Nat) :
    colSum n (permute p M) j = colSum n M (p.getD j 0) := by
  unfold colSum permute; exact sumTo_perm n p hp (fun k => M k (p.getD j 0))

theorem total_permute (n : Nat) (p : List Nat) (hp : p.Perm (List.range n)) (M : Mat) :
    total n (permute p M) = total n M := by
  unfold total
  rw [sumTo_congr n _ _ (fun i _ => rowSum_permute n p hp M i)]
  exact sumTo_perm n p hp (rowSum n M)

theorem trace_permute (n : Nat) (p : List Nat) (hp : p.Perm (List.range n)) (M : Mat) :
    trace n (permute p M) = trace n M := by
  unfold trace permute; exact sumTo_perm n p hp (fun k => M k k)

/-! ### default classes (`np.unique`) -/

theorem mem_insertU (x y : Nat) (l : List Nat) : y ∈ insertU x l ↔ y = x ∨ y ∈ l := by
  fun_induction insertU x l with
  | case1 => rw [List.mem_singleton]; exact (or_iff_left List.not_mem_nil).symm
  | case2 c cs h => exact List.mem_cons
  | case3 cs _ => exact (or_iff_right_of_imp fun e => e ▸ List.mem_cons_self).symm
  | case4 c cs _ _ ih => rw [List.mem_cons, ih, List.mem_cons, or_left_comm]

theorem insertU_sorted (x : Nat) (l : List Nat) (h : l.Pairwise (· < ·)) :
    (insertU x l).Pairwise (· < ·) := by
  fun_induction insertU x l with
  | case1 => exact List.pairwise_singleton _ _
  | case2 c cs h1 =>
    exact List.pairwise_cons.mpr ⟨fun a ha => (List.mem_cons.mp ha).elim (· ▸ h1)
      fun e => Nat.lt_trans h1 ((List.pairwise_cons.mp h).1 a e), h⟩
  | case3 => exact h
  | case4 c cs h1 h2 ih =>
    obtain ⟨hc, hcs⟩ := List.pairwise_cons.mp h
    refine List.pairwise_cons.mpr ⟨fun a ha => ?_, ih hcs⟩
    rcases (mem_insertU x a cs).mp ha with e | e
    · rw [e]; exact Nat.lt_of_le_of_ne (Nat.le_of_not_lt h1) (Ne.symm h2)
    · exact hc a e

theorem mem_uniqueSorted (y : Nat) (l : List Nat) : y ∈ uniqueSorted l ↔ y ∈ l := by
  induction l with
  | nil => simp [uniqueSorted]
  | cons c cs ih =>
    have : uniqueSorted (c :: cs) = insertU c (uniqueSorted cs) := rfl
    rw [this, mem_insertU, ih]; simp

theorem uniqueSorted_sorted (l : List Nat) : (uniqueSorted l).Pairwise (· < ·) := by
  induction l with
  | nil => simp [uniqueSorted]
  | cons c cs ih =>
    have : uniqueSorted (c :: cs) = insertU c (uniqueSorted cs) := rfl
    rw [this]; exact insertU_sorted c _ ih

theorem mem_defaultClasses (y : Nat) (labels preds : List Nat) :
    y ∈ defaultClasses labels preds ↔ y ∈ labels ∨ y ∈ preds := by
  simp [defaultClasses, mem_uniqueSorted]

theorem defaultClasses_sorted (labels preds : List Nat) :
    (defaultClasses labels preds).Pairwise (· < ·) := uniqueSorted_sorted _

theorem defaultClasses_nodup (labels preds : List Nat) : (defaultClasses labels preds).Nodup :=
  (defaultClasses_sorted labels preds).imp (fun h => Nat.ne_of_lt h)

/-! ### sets of class names, index quantifiers -/

theorem sameSet_iff (a b : List Nat) : sameSet a b = true ↔ ∀ x, x ∈ a ↔ x ∈ b := by
  simp only [sameSet, Bool.and_eq_true, List.all_eq_true, List.contains_iff_mem]
  constructor
  · rintro ⟨h1, h2⟩ x; exact ⟨h1 x, h2 x⟩
  · intro h; exact ⟨fun x hx => (h x).mp hx, fun x hx => (h x).mpr hx⟩

theorem sameSet_of_perm (a b : List Nat) (h : a.Perm b) : sameSet a b = true :=
  (sameSet_iff a b).mpr (fun _ => h.mem_iff)

theorem allIdx_iff (n : Nat) (f : Nat → Bool) : allIdx n f = true ↔ ∀ i, i < n → f i = true := by
  simp [allIdx, List.all_eq_true]

theorem allIdx2_iff (n : Nat) (f : Nat → Nat → Bool) :
    allIdx2 n f = true ↔ ∀ i j, i < n → j < n → f i j = true := by
  simp only [allIdx2, allIdx_iff]
  constructor
  · intro h i j hi hj; exact h i hi j hj
  · intro h i hi j hj; exact h i j hi hj

end SA

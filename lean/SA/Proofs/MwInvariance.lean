/-
The two AUC reference semantics (`mannWhitney`, `stepArea`) depend on the scores only through
comparisons between a positive and a negative and through counts.  Transfer lemmas under maps
that keep the comparisons and under appended replicates, used by C07 (constructed objects),
C08 (affine maps, negation) and C09 (materialised easy samples).
-/
import SA.Proofs.Auc

namespace SA

/-- Σ_{p ∈ pos} #{q ∈ neg : r p q} is unchanged when both lists are mapped by `f` and the
relation is replaced by one that agrees on images. -/
theorem mwi_pairs_map (f : ℚ → ℚ) (r r' : ℚ → ℚ → Bool) (pos neg : List ℚ)
    (h : ∀ p q, r' (f p) (f q) = r p q) :
    ((pos.map f).map fun p => (neg.map f).countP fun q => r' p q).sum =
      (pos.map fun p => neg.countP fun q => r p q).sum := by
  rw [List.map_map]
  congr 1
  apply List.map_congr_left
  intro p _
  simp only [Function.comp_def, List.countP_map, h]

theorem mwi_pairs_perm (r : ℚ → ℚ → Bool) {pos pos' neg neg' : List ℚ} (hp : pos'.Perm pos)
    (hn : neg'.Perm neg) :
    (pos'.map fun p => neg'.countP fun q => r p q).sum =
      (pos.map fun p => neg.countP fun q => r p q).sum := by
  rw [(hp.map _).sum_eq]
  congr 1
  apply List.map_congr_left
  intro p _
  exact hn.countP_eq _

/-- the comparison `ranksAbove` is invariant under an increasing affine map -/
theorem mwi_ranksAbove_affine (sc : Label) (a b : ℚ) (ha : 0 < a) (p q : ℚ) :
    ranksAbove sc (a * p + b) (a * q + b) = ranksAbove sc p q := by
  cases sc <;> simp only [ranksAbove, affine_lt_iff ha]

/-- negating both scores and flipping `score_class` leaves the comparison unchanged -/
theorem mwi_ranksAbove_negate (sc : Label) (p q : ℚ) :
    ranksAbove sc.flip (-p) (-q) = ranksAbove sc p q := by
  cases sc <;> simp only [ranksAbove, Label.flip] <;> rw [decide_eq_decide] <;>
    constructor <;> intro h <;> linarith

/-- `mannWhitney` is determined by the class sizes, the easy counts, the win count and the tie
count. -/
theorem mwi_mw_congr (s s' : Scores) (hp : s'.pos.length = s.pos.length)
    (hn : s'.neg.length = s.neg.length) (hep : s'.easyPos = s.easyPos)
    (hen : s'.easyNeg = s.easyNeg) (hw : mwWins s' = mwWins s) (ht : mwTies s' = mwTies s) :
    mannWhitney s' = mannWhitney s := by
  rw [mannWhitney_eq, mannWhitney_eq, mwValue, mwValue, hp, hn, hep, hen, hw, ht]

/-- `stepAreaAux` along a mapped list, for an object with the same totals and the same levels -/
theorem mwi_stepAux_map (s s' : Scores) (f : ℚ → ℚ) (lo hi : ℚ)
    (hN : s'.neg.length + s'.easyNeg = s.neg.length + s.easyNeg)
    (hP : s'.pos.length + s'.easyPos = s.pos.length + s.easyPos) (l : List ℚ)
    (hw : ∀ q ∈ l, s'.easyPos + winsOver s' (f q) = s.easyPos + winsOver s q) (j : ℕ) :
    stepAreaAux s' lo hi (l.map f) j = stepAreaAux s lo hi l j := by
  induction l generalizing j with
  | nil => simp only [List.map_nil, stepAreaAux]
  | cons q rest ih =>
    simp only [List.map_cons, stepAreaAux]
    rw [ih (fun q' hq' => hw q' (List.mem_cons_of_mem _ hq')) (j + 1), hN, hP,
      hw q List.mem_cons_self]

/-- `stepArea` is determined by the totals, the number of scored negatives and the levels along
the rank order. -/
theorem mwi_step_congr (s s' : Scores) (f : ℚ → ℚ) (lo hi : ℚ)
    (hn : s'.neg.length = s.neg.length) (hen : s'.easyNeg = s.easyNeg)
    (hP : s'.pos.length + s'.easyPos = s.pos.length + s.easyPos)
    (hl : negsByRank s' = (negsByRank s).map f)
    (hw : ∀ q ∈ negsByRank s, s'.easyPos + winsOver s' (f q) = s.easyPos + winsOver s q) :
    stepArea s' lo hi = stepArea s lo hi := by
  have hN : s'.neg.length + s'.easyNeg = s.neg.length + s.easyNeg := by rw [hn, hen]
  unfold stepArea
  rw [hl, mwi_stepAux_map s s' f lo hi hN hP _ hw, hN, hP, hn]

/-- pair count when `k` copies of `Mp` are appended to the first list and `m` copies of `Mn` to
the second, `Mp` being related to everything in the second list and everything in the first
list being related to `Mn` -/
theorem mwi_pairs_append_true (r : ℚ → ℚ → Bool) (pos neg : List ℚ) (k m : ℕ) (Mp Mn : ℚ)
    (h1 : ∀ p ∈ pos, r p Mn = true) (h2 : ∀ q ∈ neg, r Mp q = true) (h3 : r Mp Mn = true) :
    ((pos ++ List.replicate k Mp).map fun p =>
        (neg ++ List.replicate m Mn).countP fun q => r p q).sum =
      (pos.map fun p => neg.countP fun q => r p q).sum + pos.length * m + k * (neg.length + m) := by
  rw [List.map_append, List.sum_append]
  have e1 : (pos.map fun p => (neg ++ List.replicate m Mn).countP fun q => r p q) =
      pos.map fun p => m + neg.countP fun q => r p q := by
    apply List.map_congr_left
    intro p hp
    rw [List.countP_append, List.countP_replicate, h1 p hp, if_pos rfl]; omega
  have e2 : ((neg ++ List.replicate m Mn).countP fun q => r Mp q) = neg.length + m := by
    rw [List.countP_append, List.countP_replicate, h3, if_pos rfl]
    congr 1
    rw [List.countP_eq_length]
    exact fun q hq => h2 q hq
  rw [e1, sum_map_const_add, List.map_replicate, e2, List.sum_replicate_nat]
  omega

/-- ... and when nothing involving `Mp` or `Mn` is related -/
theorem mwi_pairs_append_false (r : ℚ → ℚ → Bool) (pos neg : List ℚ) (k m : ℕ) (Mp Mn : ℚ)
    (h1 : ∀ p ∈ pos, r p Mn = false) (h2 : ∀ q ∈ neg, r Mp q = false) (h3 : r Mp Mn = false) :
    ((pos ++ List.replicate k Mp).map fun p =>
        (neg ++ List.replicate m Mn).countP fun q => r p q).sum =
      (pos.map fun p => neg.countP fun q => r p q).sum := by
  rw [List.map_append, List.sum_append]
  have e1 : (pos.map fun p => (neg ++ List.replicate m Mn).countP fun q => r p q) =
      pos.map fun p => neg.countP fun q => r p q := by
    apply List.map_congr_left
    intro p hp
    rw [List.countP_append, List.countP_replicate, h1 p hp]; simp
  have e2 : ((neg ++ List.replicate m Mn).countP fun q => r Mp q) = 0 := by
    rw [List.countP_append, List.countP_replicate, h3]
    simp only [Bool.false_eq_true, if_false, Nat.add_zero]
    rw [List.countP_eq_zero]
    intro q hq
    rw [h2 q hq]; simp
  rw [e1, List.map_replicate, e2, List.sum_replicate_nat, Nat.mul_zero, Nat.add_zero]

/-- Step area of an object `M` in which the easy samples of `E` are materialised: `M` has no easy
samples, its scored negatives in rank order are those of `E` followed by the materialised easy
negatives `Mn`, every level along the negatives of `E` is unchanged, and every positive of `M`
ranks above `Mn`. -/
theorem mwi_step_materialise (E M : Scores) (lo hi : ℚ) (hlu : lo ≤ hi) (Mn : ℚ)
    (hME : M.easyPos = 0) (hMN : M.easyNeg = 0)
    (hP : M.pos.length = E.pos.length + E.easyPos)
    (hN : M.neg.length = E.neg.length + E.easyNeg)
    (hl : negsByRank M = negsByRank E ++ List.replicate E.easyNeg Mn)
    (hw : ∀ q ∈ negsByRank E, winsOver M q = E.easyPos + winsOver E q)
    (hwM : E.easyNeg ≠ 0 → winsOver M Mn = M.pos.length) :
    stepArea M lo hi = stepArea E lo hi := by
  have hP' : M.pos.length + M.easyPos = E.pos.length + E.easyPos := by rw [hME, hP]; rfl
  have hN' : M.neg.length + M.easyNeg = E.neg.length + E.easyNeg := by rw [hMN, hN]; rfl
  unfold stepArea
  rw [hP', hN']
  by_cases h : E.pos.length + E.easyPos = 0 ∨ E.neg.length + E.easyNeg = 0
  · rw [if_pos h, if_pos h]
  · rw [if_neg h, if_neg h]
    rw [not_or] at h
    obtain ⟨hPne, hNne⟩ := h
    have hNq : ((E.neg.length + E.easyNeg : ℕ) : ℚ) ≠ 0 := by exact_mod_cast hNne
    have hPq : ((E.pos.length + E.easyPos : ℕ) : ℚ) ≠ 0 := by exact_mod_cast hPne
    have e1 : stepAreaAux M lo hi (negsByRank E) 0 = stepAreaAux E lo hi (negsByRank E) 0 := by
      have := mwi_stepAux_map E M id lo hi hN' hP' (negsByRank E)
        (fun q hq => by rw [hME, Nat.zero_add]; exact hw q hq) 0
      rwa [List.map_id] at this
    have e2 := stepAreaAux_const M lo hi hlu 1 (List.replicate E.easyNeg Mn)
      (0 + (negsByRank E).length) (by
        intro q hq
        rw [List.mem_replicate] at hq
        obtain ⟨hm, rfl⟩ := hq
        rw [hwM hm, hME, Nat.zero_add, Nat.add_zero]
        apply div_self
        rw [hP]; exact hPq)
    rw [hl, stepAreaAux_append, e1, e2, hN']
    simp only [List.length_replicate, negsByRank_length, Nat.zero_add, mul_one]
    rw [hN, div_self hNq, overlap_self]
    rw [add_zero]

end SA

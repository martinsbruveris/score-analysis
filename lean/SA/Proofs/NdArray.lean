/-
Index arithmetic of the row-major N-d array model (`SA/Model/NdArray.lean`), and the one axis move of
`utils.bootstrap_ci`: `np.moveaxis(ci, [0, 1], [-1, -2])`, for any rank.
-/
import SA.Model.NdArray
import SA.Proofs.ListGetD
import Mathlib.Tactic.Linarith
import Mathlib.Data.List.Nodup

namespace SA

theorem shapeProd_append (s t : List ℕ) : shapeProd (s ++ t) = shapeProd s * shapeProd t := by
  induction s with
  | nil => simp [shapeProd]
  | cons d ds ih => simp [shapeProd, ih, Nat.mul_assoc]

theorem InRange.length_eq : ∀ {s i : List ℕ}, InRange s i → i.length = s.length
  | [], [], _ => rfl
  | [], _ :: _, h => h.elim
  | _ :: _, [], h => h.elim
  | _ :: _, _ :: _, h => congrArg (· + 1) (InRange.length_eq h.2)

theorem flatIndex_lt : ∀ {s i : List ℕ}, InRange s i → flatIndex s i < shapeProd s
  | [], [], _ => Nat.one_pos
  | [], _ :: _, h => h.elim
  | _ :: _, [], h => h.elim
  | d :: ds, i :: is, h =>
    calc i * shapeProd ds + flatIndex ds is < i * shapeProd ds + shapeProd ds :=
          Nat.add_lt_add_left (flatIndex_lt h.2) _
      _ = (i + 1) * shapeProd ds := (Nat.succ_mul _ _).symm
      _ ≤ d * shapeProd ds := Nat.mul_le_mul_right _ h.1

theorem unravel_flatIndex : ∀ {s i : List ℕ}, InRange s i → unravel s (flatIndex s i) = i
  | [], [], _ => rfl
  | [], _ :: _, h => h.elim
  | _ :: _, [], h => h.elim
  | d :: ds, i :: is, h => by
    have h2 := flatIndex_lt h.2
    have hP : 0 < shapeProd ds := Nat.zero_lt_of_lt h2
    have e1 : (i * shapeProd ds + flatIndex ds is) / shapeProd ds = i := by
      rw [Nat.add_comm, Nat.add_mul_div_right _ _ hP, Nat.div_eq_of_lt h2, Nat.zero_add]
    have e2 : (i * shapeProd ds + flatIndex ds is) % shapeProd ds = flatIndex ds is := by
      rw [Nat.add_comm, Nat.add_mul_mod_self_right, Nat.mod_eq_of_lt h2]
    simp only [flatIndex, unravel]
    rw [e1, e2, unravel_flatIndex h.2]

theorem unravel_inRange : ∀ {s : List ℕ} {t : ℕ}, t < shapeProd s → InRange s (unravel s t)
  | [], _, _ => trivial
  | _ :: ds, _, h =>
    have hP : 0 < shapeProd ds := Nat.pos_of_lt_mul_left h
    ⟨(Nat.div_lt_iff_lt_mul hP).mpr h, unravel_inRange (Nat.mod_lt _ hP)⟩

theorem flatIndex_unravel : ∀ {s : List ℕ} {t : ℕ}, t < shapeProd s → flatIndex s (unravel s t) = t
  | [], _, h => (Nat.lt_one_iff.mp h).symm
  | _ :: ds, t, h => by
    simp only [unravel, flatIndex]
    rw [flatIndex_unravel (Nat.mod_lt _ (Nat.pos_of_lt_mul_left h))]
    exact Nat.div_add_mod' t (shapeProd ds)

theorem flatIndex_append : ∀ (s1 s2 i1 i2 : List ℕ), i1.length = s1.length →
    flatIndex (s1 ++ s2) (i1 ++ i2) = flatIndex s1 i1 * shapeProd s2 + flatIndex s2 i2
  | [], s2, [], i2, _ => by
    show flatIndex s2 i2 = 0 * shapeProd s2 + flatIndex s2 i2
    rw [Nat.zero_mul, Nat.zero_add]
  | [], _, _ :: _, _, h => nomatch h
  | _ :: _, _, [], _, h => nomatch h
  | d :: ds, s2, i :: is, i2, h => by
    simp only [List.cons_append, flatIndex,
      flatIndex_append ds s2 is i2 (Nat.succ.inj h), shapeProd_append]
    rw [Nat.add_mul, Nat.mul_assoc, Nat.add_assoc]

theorem flatIndex_merge (s1 s2 s3 i1 i2 i3 : List ℕ) (h1 : i1.length = s1.length)
    (h2 : i2.length = s2.length) :
    flatIndex (s1 ++ s2 ++ s3) (i1 ++ i2 ++ i3) =
      flatIndex (s1 ++ shapeProd s2 :: s3) (i1 ++ flatIndex s2 i2 :: i3) := by
  rw [List.append_assoc, List.append_assoc, flatIndex_append _ _ _ _ h1,
    flatIndex_append _ _ _ _ h2, flatIndex_append _ _ _ _ h1, shapeProd_append]
  rfl

theorem shapeProd_merge (s1 s2 s3 : List ℕ) :
    shapeProd (s1 ++ s2 ++ s3) = shapeProd (s1 ++ shapeProd s2 :: s3) := by
  rw [List.append_assoc, shapeProd_append, shapeProd_append, shapeProd_append]
  rfl

theorem flatIndex_flatten (N n : ℕ) (Y y : List ℕ) :
    flatIndex [N, shapeProd Y] [n, flatIndex Y y] = flatIndex (N :: Y) (n :: y) := by
  show n * (shapeProd Y * 1) + (flatIndex Y y * 1 + 0) = n * shapeProd Y + flatIndex Y y
  rw [Nat.mul_one, Nat.mul_one, Nat.add_zero]

theorem inRange_append : ∀ {s1 s2 i1 i2 : List ℕ}, InRange s1 i1 → InRange s2 i2 →
    InRange (s1 ++ s2) (i1 ++ i2)
  | [], _, [], _, _, h2 => h2
  | [], _, _ :: _, _, h, _ => h.elim
  | _ :: _, _, [], _, h, _ => h.elim
  | _ :: _, _, _ :: _, _, h1, h2 => ⟨h1.1, inRange_append h1.2 h2⟩

theorem inRange_split : ∀ {s1 s2 idx : List ℕ}, InRange (s1 ++ s2) idx →
    ∃ i1 i2, idx = i1 ++ i2 ∧ InRange s1 i1 ∧ InRange s2 i2
  | [], _, idx, h => ⟨[], idx, rfl, trivial, h⟩
  | _ :: _, _, [], h => h.elim
  | _ :: _, _, i :: _, h =>
    let ⟨i1, i2, e, h1, h2⟩ := inRange_split h.2
    ⟨i :: i1, i2, congrArg (i :: ·) e, ⟨h.1, h1⟩, h2⟩

theorem inRange_singleton {d : ℕ} {idx : List ℕ} (h : InRange [d] idx) : ∃ k, idx = [k] ∧ k < d :=
  match idx, h with
  | [k], h => ⟨k, rfl, h.1⟩

namespace Nd
variable {α : Type}

theorem ofFn_shape (s : List ℕ) (f : List ℕ → α) : (ofFn s f).shape = s := rfl

theorem ofFn_wf (s : List ℕ) (f : List ℕ → α) : (ofFn s f).WF := by
  simp [WF, ofFn]

theorem ofFn_size (s : List ℕ) (f : List ℕ → α) : (ofFn s f).size = shapeProd s := rfl

theorem ofFn_get [Inhabited α] {s i : List ℕ} (f : List ℕ → α) (h : InRange s i) :
    (ofFn s f).get i = f i := by
  have hlt := flatIndex_lt h
  simp only [get, ofFn, List.getD_eq_getElem?_getD, List.getElem?_map,
    List.getElem?_range hlt, Option.map_some, Option.getD_some, unravel_flatIndex h]

theorem get_mem [Inhabited α] (a : Nd α) (hw : a.WF) (i : List ℕ) (hi : InRange a.shape i) :
    a.get i ∈ a.data := by
  have hlt : flatIndex a.shape i < a.data.length := by rw [hw]; exact flatIndex_lt hi
  unfold Nd.get
  rw [List.getD_eq_getElem?_getD, List.getElem?_eq_getElem hlt]; exact List.getElem_mem hlt

/-- the buffer of a full array holds exactly the entries at the valid multi-indices -/
theorem forall_mem_data [Inhabited α] (a : Nd α) (hw : a.WF) (P : α → Prop) :
    (∀ x ∈ a.data, P x) ↔ ∀ i, InRange a.shape i → P (a.get i) := by
  refine ⟨fun h i hi => h _ (get_mem a hw i hi), fun h x hx => ?_⟩
  obtain ⟨t, ht, rfl⟩ := List.getElem_of_mem hx
  have ht' : t < shapeProd a.shape := hw ▸ ht
  have := h _ (unravel_inRange ht')
  rwa [Nd.get, flatIndex_unravel ht', List.getD_eq_getElem?_getD, List.getElem?_eq_getElem ht] at this

theorem ofFn_data_eq_nil {s : List ℕ} (f : List ℕ → α) (h : shapeProd s = 0) :
    (ofFn s f).data = [] := by
  simp [ofFn, h]

theorem ext_get [Inhabited α] (a b : Nd α) (hs : a.shape = b.shape) (ha : a.WF)
    (hb : b.WF) (h : ∀ i, InRange a.shape i → a.get i = b.get i) : a.data = b.data := by
  apply List.ext_getElem
  · rw [ha, hb, hs]
  · intro t h1 h2
    have ht : t < shapeProd a.shape := by rw [← ha]; exact h1
    have := h _ (unravel_inRange ht)
    unfold Nd.get at this
    rw [← hs, flatIndex_unravel ht, List.getD_eq_getElem?_getD, List.getD_eq_getElem?_getD,
      List.getElem?_eq_getElem h1, List.getElem?_eq_getElem h2] at this
    exact this

end Nd

/-! ### `np.moveaxis(ci, source=[0, 1], destination=[-1, -2])` for any rank -/

theorem nd_filter_not_01 (r : ℕ) :
    (List.range (r + 2)).filter (fun n => !([0, 1] : List ℕ).contains n) =
      (List.range r).map (· + 2) := by
  induction r with
  | zero => decide
  | succ r ih =>
    rw [List.range_succ, List.filter_append, ih, List.range_succ (n := r), List.map_append]
    simp

theorem nd_insertIdx_len {α : Type} (l : List α) (n : ℕ) (a : α) (h : n = l.length) :
    l.insertIdx n a = l ++ [a] := by
  subst h; exact List.insertIdx_length_self ..

theorem moveaxisOrder_lead2 (r : ℕ) :
    moveaxisOrder (r + 2) [0, 1] [r + 1, r] = (List.range r).map (· + 2) ++ [1, 0] := by
  have hs : sortPairs ([r + 1, r].zip [0, 1]) = [(r, 1), (r + 1, 0)] :=
    if_neg (Nat.not_succ_le_self r)
  unfold moveaxisOrder
  rw [nd_filter_not_01, hs]
  show ((((List.range r).map (· + 2)).insertIdx r 1).insertIdx (r + 1) 0) = _
  rw [nd_insertIdx_len _ r 1 (by simp), nd_insertIdx_len _ (r + 1) 0 (by simp), List.append_assoc]
  rfl

theorem normAxis_nonneg (rank : ℕ) (k : ℕ) (h : k < rank) : normAxis rank (k : ℤ) = .ok k := by
  unfold normAxis
  rw [if_pos (by omega), if_neg (by omega)]; rfl

theorem normAxis_neg (rank : ℕ) (k : ℕ) (h : 0 < k) (h' : k ≤ rank) :
    normAxis rank (-(k : ℤ)) = .ok (rank - k) := by
  have hk : -(k : ℤ) < 0 := Int.neg_neg_of_pos (Int.natCast_pos.mpr h)
  unfold normAxis
  rw [if_pos ⟨Int.neg_le_neg (Int.ofNat_le.mpr h'), hk.trans_le (Int.natCast_nonneg _)⟩, if_pos hk,
    Int.add_comm, ← Int.sub_eq_add_neg, Int.toNat_sub]

theorem moveaxis_ok {α : Type} [Inhabited α] (a : Nd α) (source destination : List ℤ)
    (src dst : List ℕ) (hs : source.mapM (normAxis a.shape.length) = .ok src)
    (hd : destination.mapM (normAxis a.shape.length) = .ok dst) (hl : src.length = dst.length)
    (hns : src.Nodup) (hnd : dst.Nodup) :
    a.moveaxis source destination = .ok (a.transpose (moveaxisOrder a.shape.length src dst)) := by
  unfold Nd.moveaxis
  rw [hs, hd]
  simp [bind, Except.bind, pure, Except.pure, hl, hns, hnd]

/-- the axis order `np.moveaxis(·, [0, 1], [-1, -2])` hands to `transpose`: `Y`'s axes, then 1, 0 -/
def leadPerm (Y : List ℕ) : List ℕ := (List.range Y.length).map (· + 2) ++ [1, 0]

theorem moveaxis_lead2 {α : Type} [Inhabited α] (a : Nd α) (d0 d1 : ℕ) (Y : List ℕ)
    (h : a.shape = d0 :: d1 :: Y) :
    a.moveaxis [0, 1] [-1, -2] =
      .ok (a.transpose (leadPerm Y)) := by
  unfold leadPerm
  have hr : a.shape.length = Y.length + 2 := by rw [h]; rfl
  have e0 : normAxis (Y.length + 2) 0 = .ok 0 := normAxis_nonneg _ 0 (Nat.succ_pos _)
  have e1 : normAxis (Y.length + 2) 1 = .ok 1 := normAxis_nonneg _ 1 (Nat.succ_lt_succ (Nat.succ_pos _))
  have e2 : normAxis (Y.length + 2) (-1) = .ok (Y.length + 1) :=
    normAxis_neg (Y.length + 2) 1 Nat.one_pos (Nat.le_add_left _ _)
  have e3 : normAxis (Y.length + 2) (-2) = .ok Y.length :=
    normAxis_neg (Y.length + 2) 2 Nat.two_pos (Nat.le_add_left _ _)
  rw [moveaxis_ok a _ _ [0, 1] [Y.length + 1, Y.length] (by rw [hr]; simp [e0, e1]; rfl)
    (by rw [hr]; simp [e2, e3]; rfl) rfl (by decide) (by simp), hr, moveaxisOrder_lead2]

theorem nd_range_add_two (r : ℕ) : List.range (r + 2) = 0 :: 1 :: (List.range r).map (· + 2) := by
  rw [List.range_succ_eq_map, List.range_succ_eq_map]
  simp [List.map_map, Function.comp_def]

theorem lead2_ge_two (r x : ℕ) (hx : x ∈ (List.range r).map (· + 2)) : 2 ≤ x := by
  obtain ⟨m, -, rfl⟩ := List.mem_map.mp hx
  exact Nat.le_add_left 2 m

theorem idxOf_lead2_shift (r m : ℕ) (h : m < r) :
    ((List.range r).map (· + 2) ++ [1, 0]).idxOf (m + 2) = m := by
  have hnd : ((List.range r).map (· + 2)).Nodup :=
    List.Nodup.map (fun a b hab => Nat.add_right_cancel hab) List.nodup_range
  have hlen : m < ((List.range r).map (· + 2)).length := by
    rw [List.length_map, List.length_range]; exact h
  have hm : ((List.range r).map (· + 2))[m] = m + 2 := by
    rw [List.getElem_map, List.getElem_range]
  rw [List.idxOf_append_of_mem (hm ▸ List.getElem_mem hlen)]
  conv_lhs => rw [← hm]
  exact hnd.idxOf_getElem m hlen

theorem idxOf_lead2_zero (r : ℕ) : ((List.range r).map (· + 2) ++ [1, 0]).idxOf 0 = r + 1 := by
  rw [List.idxOf_append_of_notMem fun h => absurd (lead2_ge_two r 0 h) (by decide),
    List.length_map, List.length_range]
  rfl

theorem idxOf_lead2_one (r : ℕ) : ((List.range r).map (· + 2) ++ [1, 0]).idxOf 1 = r := by
  rw [List.idxOf_append_of_notMem fun h => absurd (lead2_ge_two r 1 h) (by decide),
    List.length_map, List.length_range]
  rfl

theorem transpose_lead2_shape {α : Type} [Inhabited α] (a : Nd α) (d0 d1 : ℕ) (Y : List ℕ)
    (h : a.shape = d0 :: d1 :: Y) :
    (a.transpose (leadPerm Y)).shape = Y ++ [d1, d0] := by
  unfold Nd.transpose leadPerm
  rw [Nd.ofFn_shape, h, List.map_append, List.map_map]
  show (List.range Y.length).map (fun m => Y.getD m 0) ++ [d1, d0] = _
  rw [List.map_getD_range]

theorem lead2_gather (y : List ℕ) (z k : ℕ) :
    (List.range (y.length + 2)).map (fun ax =>
      (y ++ [z, k]).getD (((List.range y.length).map (· + 2) ++ [1, 0]).idxOf ax) 0) =
      k :: z :: y := by
  rw [nd_range_add_two, List.map_cons, List.map_cons, idxOf_lead2_zero, idxOf_lead2_one,
    List.map_map]
  have e0 : (y ++ [z, k]).getD (y.length + 1) 0 = k := by
    rw [List.getD_eq_getElem?_getD, List.getElem?_append_right (Nat.le_add_right _ _),
      Nat.add_sub_cancel_left]; rfl
  have e1 : (y ++ [z, k]).getD y.length 0 = z := by
    rw [List.getD_eq_getElem?_getD, List.getElem?_append_right (Nat.le_refl _), Nat.sub_self]; rfl
  rw [e0, e1]
  congr 2
  conv_rhs => rw [← List.map_getD_range y 0]
  apply List.map_congr_left
  intro m hm
  have hm' := List.mem_range.mp hm
  show (y ++ [z, k]).getD (((List.range y.length).map (· + 2) ++ [1, 0]).idxOf (m + 2)) 0 = _
  rw [idxOf_lead2_shift _ _ hm', List.getD_eq_getElem?_getD, List.getD_eq_getElem?_getD,
    List.getElem?_append_left hm']

theorem transpose_lead2_get {α : Type} [Inhabited α] (a : Nd α) (d0 d1 : ℕ) (Y : List ℕ)
    (h : a.shape = d0 :: d1 :: Y) (y : List ℕ) (z k : ℕ) (hy : InRange Y y) (hz : z < d1)
    (hk : k < d0) :
    (a.transpose (leadPerm Y)).get (y ++ [z, k]) =
      a.get (k :: z :: y) := by
  have hsh := transpose_lead2_shape a d0 d1 Y h
  have hin : InRange (Y ++ [d1, d0]) (y ++ [z, k]) := inRange_append hy ⟨hz, hk, trivial⟩
  unfold Nd.transpose leadPerm at hsh ⊢
  rw [Nd.ofFn_shape] at hsh
  rw [hsh, Nd.ofFn_get _ hin, h, List.length_cons, List.length_cons, ← hy.length_eq, lead2_gather]

end SA

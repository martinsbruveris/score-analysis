/-
NumPy's linear quantile on a sorted list (`qcore`) and on possibly-NaN replicates
(`quantileLinear`): monotone in the level, within the range of the data, equivariant under
increasing affine maps; every limit of `bootstrapCI` is such a quantile.
-/
import SA.Model.Bootstrap
import SA.Spec.C13
import SA.Proofs.Coherence

namespace SA

/-- the interpolation formula of `quantileLinear` on the sorted finite values -/
def qcore (v : List ℚ) (q : ℚ) : ℚ :=
  let h : ℚ := q * ((v.length : ℚ) - 1)
  v.getD (clampIdx h.floor v.length) 0 +
    (h - ((h.floor : ℤ) : ℚ)) * (v.getD (clampIdx (ceilQ h) v.length) 0 - v.getD
        (clampIdx h.floor v.length) 0)

theorem quantileLinear_eq (vals : List (Option ℚ)) (q : ℚ) :
    quantileLinear vals q =
      if (sortQ (vals.filterMap id)).length = 0 then none
      else some (qcore (sortQ (vals.filterMap id)) q) := rfl

/-- NumPy's `a + t (b - a)` form equals the convex-combination form used in threshold setting -/
theorem qcore_eq_interp (v : List ℚ) (q : ℚ) :
    qcore v q = rawThr v (q * ((v.length : ℚ) - 1)) .linear := by
  unfold qcore rawThr interp
  generalize q * ((v.length : ℚ) - 1) = h
  rcases ceilQ_cases h with ⟨hint, hc⟩ | hc
  · simp only [hc, hint]; ring
  · simp only [hc]; push_cast; ring

theorem qcore_mono (v : List ℚ) (hs : v.Pairwise (· ≤ ·)) (hne : v.length ≠ 0) (q1 q2 : ℚ)
    (h : q1 ≤ q2) : qcore v q1 ≤ qcore v q2 := by
  rw [qcore_eq_interp, qcore_eq_interp]
  have hl : (0 : ℚ) ≤ (v.length : ℚ) - 1 := by
    have : (1 : ℚ) ≤ (v.length : ℚ) := by exact_mod_cast Nat.pos_of_ne_zero hne
    linarith
  exact raw_mono v hs hne .linear _ _ (mul_le_mul_of_nonneg_right h hl)

theorem qcore_bounds (v : List ℚ) (hs : v.Pairwise (· ≤ ·)) (hne : v.length ≠ 0) (q : ℚ) :
    v.getD 0 0 ≤ qcore v q ∧ qcore v q ≤ v.getD (v.length - 1) 0 := by
  rw [qcore_eq_interp]; exact raw_bounds v hs hne _ .linear

theorem qcore_map_affine (v : List ℚ) (hne : v.length ≠ 0) (c d q : ℚ) :
    qcore (v.map fun x => c * x + d) q = c * qcore v q + d := by
  unfold qcore
  simp only [List.length_map]
  rw [getD_map_affine v c d _ (clampIdx_lt _ _ hne), getD_map_affine v c d _ (clampIdx_lt _ _ hne)]
  ring

/-! ### `quantileLinear` and `bootstrapCI` of possibly-NaN replicates -/

/-- order on possibly-NaN results: both defined and ordered, or both NaN -/
def optLe : Option ℚ → Option ℚ → Prop
  | some a, some b => a ≤ b
  | none, none => True
  | _, _ => False

theorem optLe_refl (x : Option ℚ) : optLe x x := by
  cases x <;> simp [optLe]

/-- bc / bca: NaN limits without a finite replicate, otherwise the quantiles at the adjusted
levels -/
theorem bootstrapCI_of_frac (nrm : Normal) (p15 : ℚ → ℚ) (m : BootMethod) (hm : m ≠ .quantile)
    (vals : List (Option ℚ)) (th al : ℚ) :
    bootstrapCI nrm p15 m vals th al =
      match fracLe vals th with
      | none => (none, none)
      | some p0 =>
        (quantileLinear vals (nrm.cdf (adjustedZ m (if m = .bca then acceleration p15 vals th else 0)
          (nrm.ppf p0) (nrm.ppf (al / 2)))),
         quantileLinear vals (nrm.cdf (adjustedZ m (if m = .bca then acceleration p15 vals th else 0)
          (nrm.ppf p0) (nrm.ppf (1 - al / 2))))) := by
  cases m with
  | quantile => exact absurd rfl hm
  | bc | bca => rfl

theorem quantileLinear_eq_none_iff (vals : List (Option ℚ)) (q : ℚ) :
    quantileLinear vals q = none ↔ vals.filterMap id = [] := by
  simp only [quantileLinear_eq, length_sortQ, ite_eq_left_iff, List.length_eq_zero_iff,
    reduceCtorEq, imp_false, not_not]

theorem fracLe_eq_none_iff (vals : List (Option ℚ)) (th : ℚ) :
    fracLe vals th = none ↔ vals.filterMap id = [] := by
  simp only [fracLe, ite_eq_left_iff, List.length_eq_zero_iff, reduceCtorEq, imp_false, not_not]

/-- Whatever the method, both limits are linear quantiles of the replicates at SOME levels (the
methods differ only in the levels; with no finite replicate every quantile is NaN). -/
theorem bootstrapCI_eq_quantiles (nrm : Normal) (p15 : ℚ → ℚ) (m : BootMethod)
    (vals : List (Option ℚ)) (th al : ℚ) :
    ∃ q1 q2, bootstrapCI nrm p15 m vals th al = (quantileLinear vals q1, quantileLinear vals q2) := by
  by_cases hm : m = .quantile
  · subst hm; exact ⟨_, _, rfl⟩
  · rw [bootstrapCI_of_frac nrm p15 m hm]
    cases hf : fracLe vals th with
    | none =>
      have hq := (quantileLinear_eq_none_iff vals 0).mpr ((fracLe_eq_none_iff vals th).mp hf)
      exact ⟨0, 0, by rw [hq]⟩
    | some p0 => exact ⟨_, _, rfl⟩

theorem quantile_mono (vals : List (Option ℚ)) (q1 q2 : ℚ) (h : q1 ≤ q2) :
    optLe (quantileLinear vals q1) (quantileLinear vals q2) := by
  rw [quantileLinear_eq, quantileLinear_eq]
  by_cases hl : (sortQ (vals.filterMap id)).length = 0
  · rw [if_pos hl, if_pos hl]; trivial
  · rw [if_neg hl, if_neg hl]
    exact qcore_mono _ (sortQ_pairwise _) hl q1 q2 h

theorem quantile_in_range (vals : List (Option ℚ)) (q : ℚ) :
    match quantileLinear vals q with
    | none => vals.filterMap id = []
    | some r => (∃ a ∈ vals.filterMap id, a ≤ r) ∧ (∃ b ∈ vals.filterMap id, r ≤ b) := by
  rw [quantileLinear_eq]
  by_cases hl : (sortQ (vals.filterMap id)).length = 0
  · simp only [hl, if_true]
    rw [length_sortQ] at hl
    exact List.eq_nil_of_length_eq_zero hl
  · simp only [hl, if_false]
    obtain ⟨b1, b2⟩ := qcore_bounds _ (sortQ_pairwise _) hl q
    have m1 : (sortQ (vals.filterMap id)).getD 0 0 ∈ vals.filterMap id :=
      (sortQ_perm _).mem_iff.mp (getD_mem _ 0 (by omega))
    have m2 : (sortQ (vals.filterMap id)).getD ((sortQ (vals.filterMap id)).length - 1) 0 ∈
        vals.filterMap id := (sortQ_perm _).mem_iff.mp (getD_mem _ _ (by omega))
    exact ⟨⟨_, m1, b1⟩, ⟨_, m2, b2⟩⟩

theorem filterMap_map_optionMap {α β : Type} (f : α → β) (vals : List (Option α)) :
    (vals.map (Option.map f)).filterMap id = (vals.filterMap id).map f := by
  rw [List.filterMap_map, List.map_filterMap]; rfl

/-- **C13 (affine equivariance, quantiles).** -/
theorem quantile_affine (vals : List (Option ℚ)) (c d q : ℚ) (hc : 0 < c) :
    quantileLinear (vals.map (Option.map fun x => c * x + d)) q =
      (quantileLinear vals q).map (fun x => c * x + d) := by
  rw [quantileLinear_eq, quantileLinear_eq, filterMap_map_optionMap, sortQ_map_affine _ c d hc,
    List.length_map]
  by_cases hl : (sortQ (vals.filterMap id)).length = 0
  · rw [if_pos hl, if_pos hl]; rfl
  · rw [if_neg hl, if_neg hl, Option.map_some, qcore_map_affine _ hl]

theorem c14_qcore_const (v : List ℚ) (c : ℚ) (hne : v.length ≠ 0) (hc : ∀ x ∈ v, x = c) (q : ℚ) :
    qcore v q = c := by
  unfold qcore
  simp only []
  rw [hc _ (getD_mem v _ (clampIdx_lt _ _ hne)), hc _ (getD_mem v _ (clampIdx_lt _ _ hne))]
  ring

theorem c14_filterMap_const (l : List (Option ℚ)) (c : ℚ) (hc : ∀ x ∈ l, x = some c) :
    l.filterMap id = List.replicate l.length c := by
  conv_lhs => rw [List.eq_replicate_iff.mpr ⟨rfl, hc⟩]
  exact List.filterMap_replicate_of_some rfl

theorem Spec.C13.nearO_self (x : Option ℚ) : Spec.C13.nearO 0 x x = true := by
  cases x <;> simp [Spec.C13.nearO, Spec.C13.absQ]

end SA

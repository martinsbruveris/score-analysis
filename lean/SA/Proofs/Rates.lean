/-
The complement of a guarded quotient is again one: `1 - a / d = (d - a) / d`, and both are NaN
together.  So all twelve rates of `SA/Model/Metrics.lean` have the form `divQ num den`, and a fact
about `divQ` covers them all.
-/
import SA.Model.Metrics
import Mathlib.Tactic.Ring

namespace SA

theorem divQ_compl (a d : ℚ) : (divQ a d).map (fun x => 1 - x) = divQ (d - a) d := by
  unfold divQ
  split_ifs with hd
  · rfl
  · exact congrArg some (one_sub_div hd)

theorem CMq.errorRate_eq (m : CMq) : m.errorRate = divQ (m.fn + m.fp) m.pop := by
  rw [CMq.errorRate, CMq.accuracy, divQ_compl]
  congr 1
  rw [CMq.pop]
  ring

theorem CMq.fdr_eq (m : CMq) : m.fdr = divQ m.fp m.top := by
  rw [CMq.fdr, CMq.ppv, divQ_compl, CMq.top, add_sub_cancel_left]

theorem CMq.for_eq (m : CMq) : m.for_ = divQ m.fn m.ton := by
  rw [CMq.for_, CMq.npv, divQ_compl, CMq.ton, add_sub_cancel_right]

end SA

/-
The easy-sample target rescaling of `threshold_at_*` is exactly "clip the target to the
achievable range and express it as a fraction of the scored samples" (all six metrics):
after clipping to `[0, 1]` it is `(r * population - lowest count) / scored samples`.
-/
import SA.Spec.C02
import SA.Proofs.Invert

namespace SA
open Spec

/-! ### clipping -/

theorem clipQ_mul (x lo hi c : ℚ) (hc : 0 < c) :
    clipQ x lo hi * c = clipQ (x * c) (lo * c) (hi * c) := by
  unfold clipQ
  rw [max_mul_of_nonneg _ _ (le_of_lt hc), min_mul_of_nonneg _ _ (le_of_lt hc)]

theorem clipQ_shift (x b n : ℚ) : clipQ x b (b + n) = b + clipQ (x - b) 0 n := by
  unfold clipQ
  rw [← max_add_add_left, add_zero, ← min_add_add_left, add_sub_cancel]

theorem clip01_div_mul (a n : ℚ) (hn : 0 < n) : clip01 (a / n) * n = clipQ a 0 n := by
  have h := clipQ_mul (a / n) 0 1 n hn
  rwa [div_mul_cancel₀ _ hn.ne', zero_mul, one_mul] at h

theorem clip01_min_one (y : ℚ) : clip01 (min y 1) = clip01 y := by
  unfold clip01; rw [min_assoc, min_self]

theorem clip01_max_zero (y : ℚ) : clip01 (max y 0) = clip01 y := by
  rcases le_total y 0 with h | h
  · rw [max_eq_right h, clip01_of_nonpos h, clip01_of_nonpos le_rfl]
  · rw [max_eq_left h]

theorem clip01_min_max_div (a : ℚ) {h : ℚ} (hh : 0 ≤ h) :
    clip01 (min (max a 0 / h) 1) = clip01 (a / h) := by
  rw [clip01_min_one, ← max_div_div_right hh a 0, zero_div, clip01_max_zero]

theorem one_le_of_clip01_eq_one {z : ℚ} (h : clip01 z = 1) : 1 ≤ z := by
  by_contra hz
  exact absurd h (ne_of_lt (max_lt zero_lt_one ((min_le_left _ _).trans_lt (not_le.1 hz))))

/-! ### the hard-sample ratios -/

/-- `hard_pos_ratio` / `hard_neg_ratio` with `n` scored and `e` easy samples -/
theorem hardRatio_of_counts (n e : ℕ) (hn : n ≠ 0) :
    (if e > 0 then (n : ℚ) / ((n + e : ℕ) : ℚ) else 1) = (n : ℚ) / ((e + n : ℕ) : ℚ) := by
  split
  · rw [Nat.add_comm]
  · rw [show e = 0 by omega, Nat.zero_add, div_self (Nat.cast_ne_zero.2 hn)]

theorem hardPosRatio_eq (s : Scores) (h : s.pos.length ≠ 0) :
    s.hardPosRatio = (s.pos.length : ℚ) / (s.nbAllPos : ℚ) := hardRatio_of_counts _ _ h

theorem hardNegRatio_eq (s : Scores) (h : s.neg.length ≠ 0) :
    s.hardNegRatio = (s.neg.length : ℚ) / (s.nbAllNeg : ℚ) := hardRatio_of_counts _ _ h

theorem div_add_pos_le_one (n e : ℕ) (hn : n ≠ 0) :
    0 < (n : ℚ) / ((e + n : ℕ) : ℚ) ∧ (n : ℚ) / ((e + n : ℕ) : ℚ) ≤ 1 := by
  have h : (0 : ℚ) < ((e + n : ℕ) : ℚ) := by exact_mod_cast Nat.pos_of_ne_zero (by omega)
  exact ⟨div_pos (by exact_mod_cast Nat.pos_of_ne_zero hn) h,
    (div_le_one h).2 (by exact_mod_cast Nat.le_add_left n e)⟩

theorem hardPosRatio_pos (s : Scores) (h : s.pos.length ≠ 0) :
    0 < s.hardPosRatio ∧ s.hardPosRatio ≤ 1 := by
  rw [hardPosRatio_eq s h]; exact div_add_pos_le_one _ _ h

theorem hardNegRatio_pos (s : Scores) (h : s.neg.length ≠ 0) :
    0 < s.hardNegRatio ∧ s.hardNegRatio ≤ 1 := by
  rw [hardNegRatio_eq s h]; exact div_add_pos_le_one _ _ h

theorem hardPosRatio_nonneg (s : Scores) : 0 ≤ s.hardPosRatio := by
  unfold Scores.hardPosRatio; split <;> positivity

theorem hardNegRatio_nonneg (s : Scores) : 0 ≤ s.hardNegRatio := by
  unfold Scores.hardNegRatio; split <;> positivity

theorem hardRatio_eq (s : Scores) (h : s.nbHard ≠ 0) :
    s.hardRatio = (s.nbHard : ℚ) / (s.nbAll : ℚ) := by
  have hall : (s.nbAll : ℚ) = (s.nbEasy : ℚ) + (s.nbHard : ℚ) := Nat.cast_add _ _
  have hpos : (s.nbAll : ℚ) ≠ 0 := Nat.cast_ne_zero.2 (by unfold Scores.nbAll; omega)
  unfold Scores.hardRatio Scores.easyRatio
  split
  · rw [eq_div_iff hpos, sub_mul, div_mul_cancel₀ _ hpos, hall]; ring
  · rw [hall, show s.nbEasy = 0 by omega, Nat.cast_zero, zero_add, sub_zero,
      div_self (Nat.cast_ne_zero.2 h)]

theorem hardRatio_nonneg (s : Scores) : 0 ≤ s.hardRatio := by
  unfold Scores.hardRatio Scores.easyRatio
  split
  · refine sub_nonneg.2 (div_le_one_of_le₀ ?_ (Nat.cast_nonneg _))
    exact_mod_cast Nat.le_add_right s.nbEasy s.nbHard
  · norm_num

/-! ### the rescaled target -/

/-- every rescaling has one of two shapes, for empty arrays too -/
theorem rescale_shape (s : Scores) (metric : Metric) :
    ∃ A e h : ℚ, 0 ≤ A ∧ 0 ≤ e ∧ 0 ≤ h ∧
      ((∀ r, s.rescale metric r = min (max (r * A - e) 0 / h) 1) ∨
        (∀ r, s.rescale metric r = min (r / h) 1)) := by
  have hq : ∀ a b : ℕ, (0 : ℚ) ≤ (a : ℚ) / (b : ℚ) := fun a b =>
    div_nonneg (Nat.cast_nonneg a) (Nat.cast_nonneg b)
  cases metric
  · exact ⟨_, _, _, Nat.cast_nonneg _, Nat.cast_nonneg _, Nat.cast_nonneg _, Or.inl fun _ => rfl⟩
  · exact ⟨0, 0, _, le_rfl, le_rfl, hardPosRatio_nonneg s, Or.inr fun _ => rfl⟩
  · exact ⟨_, _, _, Nat.cast_nonneg _, Nat.cast_nonneg _, Nat.cast_nonneg _, Or.inl fun _ => rfl⟩
  · exact ⟨0, 0, _, le_rfl, le_rfl, hardNegRatio_nonneg s, Or.inr fun _ => rfl⟩
  · exact ⟨1, _, _, zero_le_one, hq _ _, hardRatio_nonneg s, Or.inl fun r => by rw [mul_one]; rfl⟩
  · exact ⟨1, _, _, zero_le_one, hq _ _, hardRatio_nonneg s, Or.inl fun r => by rw [mul_one]; rfl⟩

theorem rescale_mono (s : Scores) (metric : Metric) (r1 r2 : ℚ) (h : r1 ≤ r2) :
    s.rescale metric r1 ≤ s.rescale metric r2 := by
  obtain ⟨A, e, d, hA, -, hd, hs | hs⟩ := rescale_shape s metric <;> rw [hs, hs]
  · exact min_le_min (div_le_div_of_nonneg_right
      (max_le_max (sub_le_sub_right (mul_le_mul_of_nonneg_right h hA) e) le_rfl) hd) le_rfl
  · exact min_le_min (div_le_div_of_nonneg_right h hd) le_rfl

theorem rescale_low (s : Scores) (metric : Metric) (r : ℚ) (hr : r ≤ 0) :
    s.rescale metric r ≤ 0 := by
  obtain ⟨A, e, d, hA, he, hd, hs | hs⟩ := rescale_shape s metric <;> rw [hs]
  · have ha : r * A - e ≤ 0 := sub_nonpos.2 ((mul_nonpos_of_nonpos_of_nonneg hr hA).trans he)
    rw [max_eq_right ha, zero_div]; exact min_le_left _ _
  · exact min_le_of_left_le (div_nonpos_of_nonpos_of_nonneg hr hd)

theorem maxNum_eq (s : Scores) (metric : Metric) :
    maxNum s metric = minNum s metric + (s.metricArray metric).length := by
  cases metric <;> simp only [maxNum, minNum, Scores.metricArray, length_concat] <;> omega

theorem maxNum_le_denom (s : Scores) (metric : Metric) : maxNum s metric ≤ denom s metric := by
  cases metric <;>
    simp only [maxNum, denom, Scores.nbAllPos, Scores.nbAllNeg, Scores.nbAll, Scores.nbHard,
      Scores.nbEasy] <;> omega

theorem denom_pos (s : Scores) (metric : Metric) (hne : (s.metricArray metric).length ≠ 0) :
    (0 : ℚ) < (denom s metric : ℚ) :=
  Nat.cast_pos.2 (lt_of_lt_of_le (Nat.pos_of_ne_zero hne)
    ((Nat.le_add_left _ _).trans (maxNum_eq s metric ▸ maxNum_le_denom s metric)))

/-- **Normal form of the rescaling**, up to clipping to `[0, 1]`. -/
theorem clip01_rescale (s : Scores) (metric : Metric) (r : ℚ)
    (hne : (s.metricArray metric).length ≠ 0) :
    clip01 (s.rescale metric r) =
      clip01 ((r * (denom s metric : ℚ) - (minNum s metric : ℚ)) /
        ((s.metricArray metric).length : ℚ)) := by
  have hconcat : (s.concat.length : ℚ) = (s.nbHard : ℚ) := by
    rw [length_concat, Nat.add_comm]; rfl
  have hall : s.concat.length ≠ 0 → (s.nbAll : ℚ) ≠ 0 := fun h =>
    Nat.cast_ne_zero.2 (by rw [length_concat] at h; unfold Scores.nbAll Scores.nbHard; omega)
  have hhard : s.concat.length ≠ 0 → s.nbHard ≠ 0 := fun h => by
    rw [length_concat] at h; unfold Scores.nbHard; omega
  cases metric <;> simp only [Scores.rescale, Scores.metricArray, denom, minNum] at hne ⊢
  · exact clip01_min_max_div _ (Nat.cast_nonneg _)
  · rw [clip01_min_one, hardPosRatio_eq s hne, div_div_eq_mul_div, Nat.cast_zero, sub_zero]
  · exact clip01_min_max_div _ (Nat.cast_nonneg _)
  · rw [clip01_min_one, hardNegRatio_eq s hne, div_div_eq_mul_div, Nat.cast_zero, sub_zero]
  · rw [clip01_min_max_div _ (hardRatio_nonneg s), hardRatio_eq s (hhard hne),
      div_div_eq_mul_div, sub_mul, div_mul_cancel₀ _ (hall hne), hconcat]
  · rw [clip01_min_max_div _ (hardRatio_nonneg s), hardRatio_eq s (hhard hne),
      div_div_eq_mul_div, sub_mul, div_mul_cancel₀ _ (hall hne), hconcat]

theorem rescale_high (s : Scores) (metric : Metric) (r : ℚ) (hr : 1 ≤ r)
    (hne : (s.metricArray metric).length ≠ 0) : 1 ≤ s.rescale metric r := by
  have hn : (0 : ℚ) < ((s.metricArray metric).length : ℚ) := by
    exact_mod_cast Nat.pos_of_ne_zero hne
  have hD : (minNum s metric : ℚ) + ((s.metricArray metric).length : ℚ) ≤ (denom s metric : ℚ) := by
    have := maxNum_le_denom s metric
    rw [maxNum_eq] at this; exact_mod_cast this
  -- `(r * D - m) / n ≥ (D - m) / n ≥ 1`
  have hy : 1 ≤ (r * (denom s metric : ℚ) - (minNum s metric : ℚ)) /
      ((s.metricArray metric).length : ℚ) := by
    rw [le_div_iff₀ hn]
    linarith [mul_le_mul_of_nonneg_right hr (denom_pos s metric hne).le]
  have h := clip01_rescale s metric r hne
  rw [clip01_of_one_le hy] at h
  exact one_le_of_clip01_eq_one h

theorem clipQ_rescale (s : Scores) (metric : Metric) (r : ℚ)
    (hne : (s.metricArray metric).length ≠ 0) :
    clipQ (r * (denom s metric : ℚ)) (minNum s metric : ℚ)
        ((minNum s metric : ℚ) + ((s.metricArray metric).length : ℚ)) =
      (minNum s metric : ℚ) +
        clip01 (s.rescale metric r) * ((s.metricArray metric).length : ℚ) := by
  rw [clipQ_shift, clip01_rescale s metric r hne,
    clip01_div_mul _ _ (Nat.cast_pos.2 (Nat.pos_of_ne_zero hne))]

/-- **Rescaling lemma.** For every metric: (target clipped to the achievable range) × (whole
population) = (lowest achievable count) + clip01(rescaled target) × (number of scored samples). -/
theorem rescale_spec (s : Scores) (metric : Metric) (r : ℚ)
    (hne : (s.metricArray metric).length ≠ 0) :
    clipped s metric r * (denom s metric : ℚ) =
      (minNum s metric : ℚ) +
        clip01 (s.rescale metric r) * ((s.metricArray metric).length : ℚ) := by
  have hd := denom_pos s metric hne
  unfold clipped
  rw [clipQ_mul _ _ _ _ hd, div_mul_cancel₀ _ (ne_of_gt hd), div_mul_cancel₀ _ (ne_of_gt hd),
    maxNum_eq, Nat.cast_add, clipQ_rescale s metric r hne]

theorem rescale_congr (s t : Scores) (hp : t.pos.length = s.pos.length)
    (hn : t.neg.length = s.neg.length) (hep : t.easyPos = s.easyPos) (hen : t.easyNeg = s.easyNeg)
    (metric : Metric) (r : ℚ) : t.rescale metric r = s.rescale metric r := by
  obtain ⟨p, n, ep, en, c⟩ := s
  obtain ⟨p', n', ep', en', c'⟩ := t
  dsimp only at hp hn hep hen
  subst hep hen
  cases metric <;>
    simp only [Scores.rescale, Scores.nbAllPos, Scores.nbAllNeg, Scores.nbAll, Scores.nbEasy,
      Scores.nbHard, Scores.hardPosRatio, Scores.hardNegRatio, Scores.hardRatio, Scores.easyRatio,
      hp, hn] <;>
    rfl

end SA

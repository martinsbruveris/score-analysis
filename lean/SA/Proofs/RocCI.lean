/-
Helper lemmas for C16: folds of `min` / `max`, the envelope computed by one loop iteration of
`_aggregate_rectangles`, and the agreement of the NaN-aware (float) definitions with the
rational ones on defined inputs.
-/
import SA.Model.RocCI
import Mathlib.Algebra.Order.Field.Rat

namespace SA

/-! ### one loop iteration

`op` is `min` or `max` and `R` is `≤` or `≥`: the fold of `op` over a list, started at `a`, is
`R`-below `a` and every member of the list, and it is `a` or one of the members. -/

theorem c16_foldl_choice {op : ℚ → ℚ → ℚ} {R : ℚ → ℚ → Prop} (hrefl : ∀ a, R a a)
    (htrans : ∀ {a b c}, R a b → R b c → R a c) (hl : ∀ a b, R (op a b) a)
    (hr : ∀ a b, R (op a b) b) (hc : ∀ a b, op a b = a ∨ op a b = b) (l : List ℚ) (a : ℚ) :
    R (l.foldl op a) a ∧ (∀ v ∈ l, R (l.foldl op a) v) ∧
      (l.foldl op a = a ∨ l.foldl op a ∈ l) := by
  induction l generalizing a with
  | nil => exact ⟨hrefl a, fun _ h => absurd h List.not_mem_nil, Or.inl rfl⟩
  | cons b l ih =>
    obtain ⟨i1, i2, i3⟩ := ih (op a b)
    refine ⟨htrans i1 (hl a b), fun v hv => ?_, ?_⟩
    · rcases List.mem_cons.mp hv with rfl | hv
      · exact htrans i1 (hr a v)
      · exact i2 v hv
    · rcases i3 with h | h
      · rcases hc a b with h' | h'
        · exact Or.inl (h.trans h')
        · exact Or.inr (by rw [List.foldl_cons, h, h']; exact List.mem_cons_self)
      · exact Or.inr (List.mem_cons_of_mem _ h)

/-- the outer `min(lower[j], …)` of the code changes nothing: the fold already starts at `lower[j]` -/
theorem envelopeAt_fst (x : ℚ) (own : Iv) (rects : List (Iv × Iv)) :
    (envelopeAt x own rects).1 =
      ((rects.filter fun r => coversQ r.1 x).map fun r => r.2.1).foldl min own.1 :=
  min_eq_right (c16_foldl_choice le_refl le_trans min_le_left min_le_right min_choice _ _).1

theorem envelopeAt_snd (x : ℚ) (own : Iv) (rects : List (Iv × Iv)) :
    (envelopeAt x own rects).2 =
      ((rects.filter fun r => coversQ r.1 x).map fun r => r.2.2).foldl max own.2 :=
  max_eq_right (c16_foldl_choice (R := (· ≥ ·)) le_refl (fun h1 h2 => le_trans h2 h1) le_max_left
    le_max_right max_choice _ _).1

/-- the result of one iteration is the min / max over the point's own rectangle and the covering
rectangles: a lower (upper) bound of all of them that is attained by one of them -/
theorem envelopeAt_spec (x : ℚ) (own : Iv) (rects : List (Iv × Iv)) :
    ((envelopeAt x own rects).1 ≤ own.1 ∧
     (∀ r ∈ rects, coversQ r.1 x = true → (envelopeAt x own rects).1 ≤ r.2.1) ∧
     ((envelopeAt x own rects).1 = own.1 ∨
       ∃ r ∈ rects, coversQ r.1 x = true ∧ (envelopeAt x own rects).1 = r.2.1)) ∧
    (own.2 ≤ (envelopeAt x own rects).2 ∧
     (∀ r ∈ rects, coversQ r.1 x = true → r.2.2 ≤ (envelopeAt x own rects).2) ∧
     ((envelopeAt x own rects).2 = own.2 ∨
       ∃ r ∈ rects, coversQ r.1 x = true ∧ (envelopeAt x own rects).2 = r.2.2)) := by
  rw [envelopeAt_fst, envelopeAt_snd]
  have sel : ∀ {f : Iv × Iv → ℚ} {v : ℚ}, v ∈ (rects.filter fun r => coversQ r.1 x).map f ↔
      ∃ r ∈ rects, coversQ r.1 x = true ∧ v = f r := by
    simp only [List.mem_map, List.mem_filter, and_assoc, eq_comm, implies_true]
  obtain ⟨a1, a2, a3⟩ := c16_foldl_choice (R := (· ≤ ·)) le_refl le_trans min_le_left min_le_right
    min_choice ((rects.filter fun r => coversQ r.1 x).map fun r => r.2.1) own.1
  obtain ⟨b1, b2, b3⟩ := c16_foldl_choice (R := (· ≥ ·)) le_refl (fun h1 h2 => le_trans h2 h1)
    le_max_left le_max_right max_choice ((rects.filter fun r => coversQ r.1 x).map fun r => r.2.2)
    own.2
  exact ⟨⟨a1, fun r hr hc => a2 _ (sel.mpr ⟨r, hr, hc, rfl⟩), a3.imp id sel.mp⟩,
    ⟨b1, fun r hr hc => b2 _ (sel.mpr ⟨r, hr, hc, rfl⟩), b3.imp id sel.mp⟩⟩

theorem length_aggregateRectangles (x : List ℚ) (dxp dyp : List Iv) :
    (aggregateRectangles x dxp dyp).length = min x.length dyp.length := by
  simp [aggregateRectangles]

theorem length_aggregateRectanglesO (x : List (Option ℚ)) (dxp dyp : List OIv) :
    (aggregateRectanglesO x dxp dyp).length = min x.length dyp.length := by
  simp [aggregateRectanglesO]

theorem getElem?_aggregateRectangles (x : List ℚ) (dxp dyp : List Iv) (j : ℕ) (hjx : j < x.length)
    (hj : j < dyp.length) :
    (aggregateRectangles x dxp dyp)[j]? = some (envelopeAt x[j] dyp[j] (dxp.zip dyp)) := by
  unfold aggregateRectangles
  rw [List.getElem?_map, List.getElem?_eq_getElem (by rw [List.length_zip]; omega), List.getElem_zip]
  rfl

theorem mem_aggregateRectangles (x : List ℚ) (dxp dyp : List Iv) (b : Iv)
    (hb : b ∈ aggregateRectangles x dxp dyp) :
    ∃ xj own, own ∈ dyp ∧ b = envelopeAt xj own (dxp.zip dyp) := by
  unfold aggregateRectangles at hb
  obtain ⟨p, hp, rfl⟩ := List.mem_map.mp hb
  exact ⟨p.1, p.2, (List.of_mem_zip hp).2, rfl⟩

/-! ### NaN-aware definitions on defined inputs -/

theorem c16_foldl_nanMin2_some (l : List ℚ) (a : ℚ) :
    (l.map some).foldl nanMin2 (some a) = some (l.foldl min a) := by
  induction l generalizing a with
  | nil => rfl
  | cons b l ih => simp only [List.map_cons, List.foldl_cons, nanMin2, ih]

theorem c16_foldl_nanMax2_some (l : List ℚ) (a : ℚ) :
    (l.map some).foldl nanMax2 (some a) = some (l.foldl max a) := by
  induction l generalizing a with
  | nil => rfl
  | cons b l ih => simp only [List.map_cons, List.foldl_cons, nanMax2, ih]

theorem c16_pyMin_some (a b : ℚ) : pyMin (some a) (some b) = some (min a b) := by
  unfold pyMin ltN
  by_cases h : b < a
  · simp only [h, decide_true, if_true, min_eq_right (le_of_lt h)]
  · simp only [h, decide_false, Bool.false_eq_true, if_false, min_eq_left (not_lt.mp h)]

theorem c16_pyMax_some (a b : ℚ) : pyMax (some a) (some b) = some (max a b) := by
  unfold pyMax ltN
  by_cases h : a < b
  · simp only [h, decide_true, if_true, max_eq_right (le_of_lt h)]
  · simp only [h, decide_false, Bool.false_eq_true, if_false, max_eq_left (not_lt.mp h)]

theorem coversO_lift (r : Iv) (x : ℚ) : coversO r.lift (some x) = coversQ r x := rfl

theorem envelopeAtO_lift (x : ℚ) (own : Iv) (rects : List (Iv × Iv)) :
    envelopeAtO (some x) own.lift (rects.map fun r => (r.1.lift, r.2.lift)) =
      (envelopeAt x own rects).lift := by
  unfold envelopeAtO envelopeAt
  have hf : (rects.map fun r => (r.1.lift, r.2.lift)).filter (fun r => coversO r.1 (some x)) =
      (rects.filter fun r => coversQ r.1 x).map fun r => (r.1.lift, r.2.lift) := by
    rw [List.filter_map]
    rfl
  simp only [hf, List.map_map]
  have h1 : ((fun r : OIv × OIv => r.2.1) ∘ fun r : Iv × Iv => (r.1.lift, r.2.lift)) =
      (some ∘ fun r : Iv × Iv => r.2.1) := rfl
  have h2 : ((fun r : OIv × OIv => r.2.2) ∘ fun r : Iv × Iv => (r.1.lift, r.2.lift)) =
      (some ∘ fun r : Iv × Iv => r.2.2) := rfl
  rw [h1, h2, ← List.map_map, ← List.map_map]
  simp only [Iv.lift]
  rw [c16_foldl_nanMin2_some, c16_foldl_nanMax2_some, c16_pyMin_some, c16_pyMax_some]

/-- on defined inputs the float version of `_aggregate_rectangles` is the rational one -/
theorem aggregateRectanglesO_lift (x : List ℚ) (dxp dyp : List Iv) :
    aggregateRectanglesO (x.map some) (dxp.map Iv.lift) (dyp.map Iv.lift) =
      (aggregateRectangles x dxp dyp).map Iv.lift := by
  unfold aggregateRectanglesO aggregateRectangles
  rw [List.zip_map, List.zip_map, List.map_map, List.map_map]
  apply List.map_congr_left
  intro p _
  exact envelopeAtO_lift p.1 p.2 (dxp.zip dyp)

theorem ruleOfThreeRowO_lift (powA : ℚ) (n : ℕ) (p : ℚ) (c : Iv) :
    ruleOfThreeRowO powA n (some p) c.lift = (ruleOfThreeRow powA n p c).lift := by
  unfold ruleOfThreeRowO ruleOfThreeRow
  by_cases h1 : p < 1 / ((n : ℕ) : ℚ) <;>
  by_cases h2 : p > (((n : ℕ) : ℚ) - 1) / ((n : ℕ) : ℚ) <;>
    simp only [h1, h2, if_true, if_false, Iv.lift]

theorem applyRuleOfThreeO_ok (powA : ℚ) (p : List (Option ℚ)) (ci : List OIv) {n : ℕ} (hn : n ≠ 0) :
    applyRuleOfThreeO powA p ci n = .ok ((p.zip ci).map fun r => ruleOfThreeRowO powA n r.1 r.2) :=
  if_neg hn

theorem applyRuleOfThreeO_lift (powA : ℚ) (p : List ℚ) (ci : List Iv) (n : ℕ) (hn : n ≠ 0) :
    applyRuleOfThree powA p ci n = .ok (ruleOfThreeRows powA n p ci) ∧
    applyRuleOfThreeO powA (p.map some) (ci.map Iv.lift) n =
      .ok ((ruleOfThreeRows powA n p ci).map Iv.lift) := by
  unfold applyRuleOfThree applyRuleOfThreeO ruleOfThreeRows
  rw [if_neg hn, if_neg hn]
  refine ⟨rfl, ?_⟩
  rw [List.zip_map, List.map_map, List.map_map]
  congr 1
  apply List.map_congr_left
  intro r _
  exact ruleOfThreeRowO_lift powA n r.1 r.2

end SA

/-
Helper lemmas for `roc_with_ci` on the scripted RNG (SA/Model/RocCIScript.lean): what RNG calls do to
the state (`RngStep`; shared with SA/Proofs/ShowbiasScript.lean), `bootstrap_sample` started in ANY
state of the script, the loop of `bootstrap_metric` (`drawMapped`), the `_metric` closure and the
joint interval.
-/
import SA.Model.RocCIScript
import SA.Theorems.C11Progress
import SA.Theorems.C16

namespace SA

/-! ### RNG calls: the trace grows, and an `ok` run consumes exactly one answer per request -/

/-- between `st` and `st'` the requests `l` (most recent first) were issued, and the answers they
received are exactly the answers `st'` has read beyond `st`, in order -/
def Consumed (st st' : RngState) : Prop :=
  ∃ l : List (Req × List ℕ), st'.trace = l ++ st.trace ∧
    st.responses = l.reverse.map (·.2) ++ st'.responses

theorem Consumed.refl (st : RngState) : Consumed st st := ⟨[], rfl, rfl⟩

theorem Consumed.trans {a b c : RngState} (h1 : Consumed a b) (h2 : Consumed b c) : Consumed a c := by
  obtain ⟨l1, t1, r1⟩ := h1
  obtain ⟨l2, t2, r2⟩ := h2
  refine ⟨l2 ++ l1, by rw [t2, t1, List.append_assoc], ?_⟩
  rw [r1, r2, List.reverse_append, List.map_append, List.append_assoc]

/-- `st'` is reached from `st` by calls of the generator: the trace only grows, an `ok` end needs
an `ok` start, and then every request has read its own answer -/
def RngStep (st st' : RngState) : Prop :=
  st.trace <:+ st'.trace ∧ (st'.ok = true → st.ok = true ∧ Consumed st st')

theorem RngStep.refl (st : RngState) : RngStep st st :=
  ⟨List.suffix_refl _, fun h => ⟨h, Consumed.refl st⟩⟩

theorem RngStep.trans {a b c : RngState} (h1 : RngStep a b) (h2 : RngStep b c) : RngStep a c :=
  ⟨h1.1.trans h2.1, fun h => ⟨(h1.2 (h2.2 h).1).1, (h1.2 (h2.2 h).1).2.trans (h2.2 h).2⟩⟩

theorem c16s_requests_prefix_of_suffix {st st' : RngState} (h : st.trace <:+ st'.trace) :
    st.requests <+: st'.requests := by
  obtain ⟨l, hl⟩ := h
  refine ⟨(l.reverse).map (·.1), ?_⟩
  simp only [RngState.requests, RngState.paired, ← hl, List.reverse_append, List.map_append]

/-! Consecutive calls of a sampler: `S n st` is the state after `n` calls of `step` (for the two
script models `sampleStates` and `gSampleStates`, both hypotheses hold by `rfl`). -/

section
variable {step : RngState → RngState} {S : ℕ → RngState → RngState}
  (hs : ∀ n st, S (n + 1) st = S n (step st)) (h0 : ∀ st, S 0 st = st)
include hs h0

theorem c16s_states_consumed
    (hok : ∀ st, (step st).ok = true → st.ok = true ∧ Consumed st (step st)) (n : ℕ)
    (st : RngState) (h : (S n st).ok = true) : st.ok = true ∧ Consumed st (S n st) := by
  induction n generalizing st with
  | zero => rw [h0] at h ⊢; exact ⟨h, Consumed.refl st⟩
  | succ n ih =>
    rw [hs] at h ⊢
    obtain ⟨h1, c1⟩ := hok st (ih _ h).1
    exact ⟨h1, c1.trans (ih _ h).2⟩

theorem c16s_states_requests (hsuf : ∀ st, st.trace <:+ (step st).trace) (n : ℕ) (st : RngState) :
    (S n st).requests = st.requests ++ ((List.range n).map fun j =>
      (step (S j st)).requests.drop (S j st).requests.length).flatten := by
  induction n generalizing st with
  | zero => simp [h0]
  | succ n ih =>
    obtain ⟨t, ht⟩ := c16s_requests_prefix_of_suffix (hsuf st)
    simp only [hs, ih, List.range_succ_eq_map, List.map_cons, List.map_map, Function.comp_def,
      List.flatten_cons, h0, ← ht, List.drop_left, List.append_assoc]

end

theorem c16s_draw_step (r : Req) (st : RngState) : RngStep st (draw r st).2 := by
  refine ⟨by rw [draw_trace]; exact List.suffix_cons _ _, fun h => ⟨(draw_ok h).1, ?_⟩⟩
  unfold draw at h ⊢
  cases hr : st.responses with
  | nil => simp [hr] at h
  | cons x rest => exact ⟨[(r, x)], rfl, by simp [hr]⟩

theorem c16s_strataFor_step (s : Scores) (b : Bool) (st : RngState) :
    RngStep st (strataFor s b st).2 := by
  cases b with
  | true => exact RngStep.refl st
  | false => exact ((c16s_draw_step _ st).trans (c16s_draw_step _ _)).trans (c16s_draw_step _ _)

theorem c16s_forceOne_step (k n : ℕ) (counts : List ℕ) (st : RngState) :
    RngStep st (forceOne k n counts st).2 := by
  unfold forceOne
  split
  · exact c16s_draw_step _ st
  · exact RngStep.refl st

theorem c16s_sampleIndices_step (s : Scores) (b sp : Bool) (st : RngState) :
    RngStep st (sampleIndices s b sp st).2 := by
  unfold sampleIndices
  cases sp with
  | true =>
    exact ((((c16s_strataFor_step s b st).trans (c16s_draw_step _ _)).trans
      (c16s_draw_step _ _)).trans (c16s_forceOne_step _ _ _ _)).trans (c16s_forceOne_step _ _ _ _)
  | false =>
    exact ((c16s_strataFor_step s b st).trans (c16s_draw_step _ _)).trans (c16s_draw_step _ _)

/-- one `bootstrap_sample` call.  A call that raises on an infeasible `choice` records the request
without reading an answer, so the answers are accounted for only when a sample is returned. -/
theorem c16s_sample_step (s : Scores) (c : BootCfg) (st : RngState) :
    st.trace <:+ (bootstrapSample s c st).2.trace ∧
    ((bootstrapSample s c st).2.ok = true → st.ok = true ∧
      ((bootstrapSample s c st).1.isOk = true → Consumed st (bootstrapSample s c st).2)) := by
  have weaken : ∀ {st' : RngState} (P : Prop), RngStep st st' →
      st.trace <:+ st'.trace ∧ (st'.ok = true → st.ok = true ∧ (P → Consumed st st')) :=
    fun P h => ⟨h.1, fun hok => ⟨(h.2 hok).1, fun _ => (h.2 hok).2⟩⟩
  have hidx := c16s_sampleIndices_step s c.byLabel
  unfold bootstrapSample
  split
  · -- replacement: the index draws, and two `normal` draws with smoothing
    split
    · exact weaken _ (((hidx false st).trans (c16s_draw_step _ _)).trans (c16s_draw_step _ _))
    · exact weaken _ (hidx false st)
  · -- single pass
    split <;> exact weaken _ (hidx true st)
  · -- proportion: two `choice` draws, each refused if infeasible
    split
    · exact weaken _ (RngStep.refl st)
    · next ratio _ =>
      dsimp only
      have h1 := c16s_draw_step
        (Req.choiceFrom s.pos.length (some (proportionSize c ratio s.pos.length)) false) st
      split
      · exact ⟨List.suffix_cons _ _, fun h => ⟨h, fun hr => absurd hr Bool.false_ne_true⟩⟩
      · split
        · exact ⟨h1.1.trans (List.suffix_cons _ _),
            fun h => ⟨(h1.2 h).1, fun hr => absurd hr Bool.false_ne_true⟩⟩
        · exact weaken _ (h1.trans (c16s_draw_step _ _))
  · exact weaken _ (RngStep.refl st)
  · exact weaken _ (RngStep.refl st)

theorem c16s_sample_ok_mono (s : Scores) (c : BootCfg) (st : RngState)
    (h : (bootstrapSample s c st).2.ok = true) : st.ok = true := ((c16s_sample_step s c st).2 h).1

theorem c16s_sample_suffix (s : Scores) (c : BootCfg) (st : RngState) :
    st.trace <:+ (bootstrapSample s c st).2.trace := (c16s_sample_step s c st).1

theorem c16s_sample_consumed (s : Scores) (c : BootCfg) (st : RngState) (out : Scores)
    (hres : (bootstrapSample s c st).1 = .ok out)
    (h : (bootstrapSample s c st).2.ok = true) : Consumed st (bootstrapSample s c st).2 :=
  ((c16s_sample_step s c st).2 h).2 (by rw [hres]; rfl)

/-! ### `bootstrap_sample` from any state -/

/-- a runnable configuration returns a sample on every script, from every state -/
theorem c16s_sample_isOk (s : Scores) (c : BootCfg) (st : RngState) (h : c11p_Runnable s c) :
    ∃ out, (bootstrapSample s c st).1 = .ok out := by
  have hok := (c11p_isOk_iff s c st).mpr h
  cases hr : (bootstrapSample s c st).1 with
  | ok out => exact ⟨out, rfl⟩
  | error e => rw [hr] at hok; cases hok

/-- `C11_at_least_one`, `C11_flags`, `C11_inv` for a sample drawn in the middle of a script -/
theorem c16s_sample_wellformed (s : Scores) (c : BootCfg) (st : RngState) (out : Scores)
    (h : (bootstrapSample s c st).1 = .ok out) (hok : (bootstrapSample s c st).2.ok = true) :
    (s.pos ≠ [] → out.pos ≠ []) ∧ (s.neg ≠ [] → out.neg ≠ []) ∧ out.cfg = s.cfg ∧
    (Inv s → Inv out) :=
  have w := bootstrapSample_wellformed s c st out h hok
  ⟨w.2.2.2.1, w.2.2.2.2, w.1, w.2.1⟩

/-! ### the replicate loop -/

section
variable {α : Type} {s : Scores} {c : BootCfg} {k : Scores → Except Err α}

theorem c16s_drawMapped_succ_ok {n : ℕ} {st : RngState} {smp : Scores} {a : α}
    (hb : (bootstrapSample s c st).1 = .ok smp) (hk : k smp = .ok a) :
    drawMapped s c k (n + 1) st =
      ((drawMapped s c k n (bootstrapSample s c st).2).1.map (a :: ·),
        (drawMapped s c k n (bootstrapSample s c st).2).2) := by
  rcases hbs : bootstrapSample s c st with ⟨r, st1⟩
  rw [hbs] at hb
  subst hb
  rcases hd : drawMapped s c k n st1 with ⟨r2, st2⟩
  cases r2 <;> simp only [drawMapped, hbs, hk, hd, Except.map]

theorem c16s_drawMapped_succ_inv {n : ℕ} {st : RngState} {l : List α}
    (h : (drawMapped s c k (n + 1) st).1 = .ok l) :
    ∃ smp a rest, (bootstrapSample s c st).1 = .ok smp ∧ k smp = .ok a ∧
      (drawMapped s c k n (bootstrapSample s c st).2).1 = .ok rest ∧ l = a :: rest := by
  rcases hb : bootstrapSample s c st with ⟨r, st1⟩
  cases r with
  | error e => simp only [drawMapped, hb] at h; cases h
  | ok smp =>
    cases hk : k smp with
    | error e => simp only [drawMapped, hb, hk] at h; cases h
    | ok a =>
      rcases hd : drawMapped s c k n st1 with ⟨r2, st2⟩
      cases r2 with
      | error e => simp only [drawMapped, hb, hk, hd] at h; cases h
      | ok rest =>
        simp only [drawMapped, hb, hk, hd] at h
        injection h with h
        exact ⟨smp, a, rest, rfl, hk, rfl, h.symm⟩

theorem c16s_drawMapped_ok_mono (n : ℕ) (st : RngState)
    (h : (drawMapped s c k n st).2.ok = true) : st.ok = true := by
  induction n generalizing st with
  | zero => exact h
  | succ n ih =>
    refine c16s_sample_ok_mono s c st ?_
    rcases hb : bootstrapSample s c st with ⟨r, st1⟩
    cases r with
    | error e => simpa only [drawMapped, hb] using h
    | ok smp =>
      cases hk : k smp with
      | error e => simpa only [drawMapped, hb, hk] using h
      | ok a =>
        have e := c16s_drawMapped_succ_ok (n := n) (by rw [hb] : (bootstrapSample s c st).1 = .ok smp) hk
        rw [e, hb] at h
        exact ih st1 h

end

theorem c16s_drawMapped_inv {α : Type} (s : Scores) (c : BootCfg) (k : Scores → Except Err α) (n : ℕ)
    (st : RngState) (l : List α) (h : (drawMapped s c k n st).1 = .ok l) :
    (drawMapped s c k n st).2 = sampleStates s c n st ∧ l.length = n ∧
    ∃ L, drawSamples s c n st = (.ok L, sampleStates s c n st) ∧
      List.Forall₂ (fun smp a => k smp = .ok a) L l := by
  induction n generalizing st l with
  | zero =>
    injection h with h
    subst h
    exact ⟨rfl, rfl, [], rfl, List.Forall₂.nil⟩
  | succ n ih =>
    obtain ⟨smp, a, rest, hb, hk, hr, rfl⟩ := c16s_drawMapped_succ_inv h
    obtain ⟨hs, hlen, L, hL, hF⟩ := ih _ rest hr
    refine ⟨?_, congrArg (· + 1) hlen, smp :: L, ?_, List.Forall₂.cons hk hF⟩
    · rw [c16s_drawMapped_succ_ok hb hk, hs]; rfl
    · unfold drawSamples at hL ⊢
      rw [c16s_drawMapped_succ_ok hb rfl, hL]
      rfl

/-- the values are `k` of the samples that `drawSamples` draws, and both loops end in the same
state -/
theorem c16s_drawMapped_samples {α : Type} (s : Scores) (c : BootCfg) (k : Scores → Except Err α)
    (n : ℕ) (st : RngState) (l : List α) (h : (drawMapped s c k n st).1 = .ok l) :
    ∃ L, drawSamples s c n st = (.ok L, (drawMapped s c k n st).2) ∧
      List.Forall₂ (fun smp a => k smp = .ok a) L l := by
  obtain ⟨hs, _, L, hL, hF⟩ := c16s_drawMapped_inv s c k n st l h
  exact ⟨L, hs ▸ hL, hF⟩

/-- **the loop returns.** Runnable configuration, final state `ok`, and `k` accepts every sample an
`ok` draw can produce: the loop returns `n` values, each with the property `Q` that `k` guarantees,
and its final state is the state after `n` consecutive `bootstrap_sample` calls. -/
theorem c16s_drawMapped_total {α : Type} (s : Scores) (c : BootCfg) (k : Scores → Except Err α)
    (Q : α → Prop) (hrun : c11p_Runnable s c)
    (hk : ∀ st smp, (bootstrapSample s c st).1 = .ok smp → (bootstrapSample s c st).2.ok = true →
      ∃ a, k smp = .ok a ∧ Q a)
    (n : ℕ) (st : RngState) (hok : (drawMapped s c k n st).2.ok = true) :
    ∃ l, (drawMapped s c k n st).1 = .ok l ∧ l.length = n ∧ (∀ a ∈ l, Q a) ∧
      (drawMapped s c k n st).2 = sampleStates s c n st := by
  induction n generalizing st with
  | zero => exact ⟨[], rfl, rfl, fun _ h => absurd h (by simp), rfl⟩
  | succ n ih =>
    obtain ⟨smp, hsmp⟩ := c16s_sample_isOk s c st hrun
    -- the state after the first draw is `ok`: the final state is that state (if `k` raises) or is
    -- reached from it
    have hst1 : (bootstrapSample s c st).2.ok = true := by
      cases hk1 : k smp with
      | error e =>
        rcases hb : bootstrapSample s c st with ⟨r, st1⟩
        rw [hb] at hsmp
        subst hsmp
        simpa only [drawMapped, hb, hk1] using hok
      | ok a =>
        rw [c16s_drawMapped_succ_ok hsmp hk1] at hok
        exact c16s_drawMapped_ok_mono n _ hok
    obtain ⟨a, ha, hQ⟩ := hk st smp hsmp hst1
    rw [c16s_drawMapped_succ_ok hsmp ha] at hok ⊢
    obtain ⟨l, hl, hlen, hall, hstate⟩ := ih _ hok
    refine ⟨a :: l, by rw [hl]; rfl, congrArg (· + 1) hlen, ?_, hstate⟩
    intro x hx
    rcases List.mem_cons.mp hx with rfl | hx
    · exact hQ
    · exact hall x hx

/-! ### the requests of consecutive calls -/

/-- the requests one `bootstrap_sample` call issues when started in state `st` -/
def callRequests (s : Scores) (c : BootCfg) (st : RngState) : List Req :=
  (bootstrapSample s c st).2.requests.drop st.requests.length

theorem c16s_sampleStates_requests (s : Scores) (c : BootCfg) (n : ℕ) (st : RngState) :
    (sampleStates s c n st).requests =
      st.requests ++ ((List.range n).map fun j => callRequests s c (sampleStates s c j st)).flatten :=
  c16s_states_requests (step := fun st => (bootstrapSample s c st).2) (fun _ _ => rfl) (fun _ => rfl)
    (c16s_sample_suffix s c) n st

theorem c16s_sampleStates_consumed (s : Scores) (c : BootCfg) (hrun : c11p_Runnable s c) (n : ℕ)
    (st : RngState) (h : (sampleStates s c n st).ok = true) : Consumed st (sampleStates s c n st) :=
  (c16s_states_consumed (step := fun st => (bootstrapSample s c st).2) (fun _ _ => rfl) (fun _ => rfl)
    (fun st hok => by
      obtain ⟨out, hout⟩ := c16s_sample_isOk s c st hrun
      exact ⟨c16s_sample_ok_mono s c st hok, c16s_sample_consumed s c st out hout hok⟩) n st h).2

/-! ### the `_metric` closure -/

/-- a possibly-NaN number that is a defined rate in `[0, 1]` -/
def UnitO (x : Option ℚ) : Prop := ∃ q, x = some q ∧ 0 ≤ q ∧ q ≤ 1

theorem c16s_div_unit {a b : ℕ} (h : a ≤ b) : (0 : ℚ) ≤ (a : ℚ) / b ∧ (a : ℚ) / b ≤ 1 :=
  ⟨div_nonneg (Nat.cast_nonneg _) (Nat.cast_nonneg _),
   div_le_one_of_le₀ (Nat.cast_le.mpr h) (Nat.cast_nonneg _)⟩

/-- `_metric` never raises on an object with a scored positive and a scored negative, whatever the
targets; it returns one FNR per FPR target and one FPR per FNR target, all defined and in `[0,1]` -/
theorem c16s_jointMetric_ok (u : Ulp) (fT gT : List ℚ) (s : Scores) (hp : s.pos.length ≠ 0)
    (hn : s.neg.length ≠ 0) :
    ∃ v, jointMetric u fT gT s = .ok v ∧ v.1.length = gT.length ∧ v.2.length = fT.length ∧
      ∀ x ∈ jointFlat v, UnitO x := by
  unfold jointMetric Scores.thresholdAtArr
  simp only [Scores.metricArray, hn, hp, if_false]
  refine ⟨_, rfl, by simp, by simp, ?_⟩
  intro x hx
  simp only [jointFlat, List.mem_append, List.mem_map] at hx
  rcases hx with ⟨t, _, rfl⟩ | ⟨t, _, rfl⟩
  · exact ⟨_, (c16_rates_defined s t).1 hp, c16s_div_unit (Nat.le_add_left _ _)⟩
  · exact ⟨_, (c16_rates_defined s t).2 hn, c16s_div_unit (Nat.le_add_right _ _)⟩

/-- without a scored negative or positive `_metric` raises `ValueError` -/
theorem c16s_jointMetric_error (u : Ulp) (fT gT : List ℚ) (s : Scores)
    (h : s.neg.length = 0 ∨ s.pos.length = 0) : jointMetric u fT gT s = .error .valueError := by
  unfold jointMetric Scores.thresholdAtArr
  by_cases hn : s.neg.length = 0
  · simp only [Scores.metricArray, hn, if_true]
  · have hp : s.pos.length = 0 := h.resolve_left hn
    simp only [Scores.metricArray, hn, hp, if_true, if_false]

/-! ### the interval of one component -/

theorem c16s_exists_map {α β : Type} (f : α → β) (P : α → Prop) (l : List β)
    (h : ∀ x ∈ l, ∃ a, x = f a ∧ P a) : ∃ l' : List α, l = l'.map f ∧ ∀ a ∈ l', P a := by
  induction l with
  | nil => exact ⟨[], rfl, fun _ h => absurd h List.not_mem_nil⟩
  | cons x rest ih =>
    obtain ⟨a, rfl, ha⟩ := h x List.mem_cons_self
    obtain ⟨l', rfl, hl⟩ := ih fun y hy => h y (List.mem_cons_of_mem _ hy)
    exact ⟨a :: l', rfl, List.forall_mem_cons.mpr ⟨ha, hl⟩⟩

theorem c16s_quantile_unit (col : List (Option ℚ)) (hne : col ≠ []) (hall : ∀ x ∈ col, UnitO x)
    (q : ℚ) : UnitO (quantileLinear col q) := by
  obtain ⟨l, rfl, hl⟩ := c16s_exists_map some _ col hall
  have h := C13_in_range (l.map some) q
  simp only [List.filterMap_map, Function.id_comp, List.filterMap_some] at h
  cases hq : quantileLinear (l.map some) q with
  | none =>
    rw [hq] at h
    exact absurd (by rw [h]; rfl) hne
  | some r =>
    rw [hq] at h
    obtain ⟨⟨a, ha, har⟩, ⟨b, hb, hrb⟩⟩ := h
    exact ⟨r, rfl, (hl a ha).1.trans har, hrb.trans (hl b hb).2⟩

/-- **one component, all three methods, any oracles, any alpha:** both limits are defined numbers in
`[0, 1]` when the replicates are defined rates in `[0,1]` and there is at least one -/
theorem c16s_bootstrapCI_unit (nrm : Normal) (p15 : ℚ → ℚ) (m : BootMethod) (col : List (Option ℚ))
    (th al : ℚ) (hne : col ≠ []) (hall : ∀ x ∈ col, UnitO x) :
    UnitO (bootstrapCI nrm p15 m col th al).1 ∧ UnitO (bootstrapCI nrm p15 m col th al).2 := by
  obtain ⟨q1, q2, h⟩ := bootstrapCI_eq_quantiles nrm p15 m col th al
  rw [h]
  exact ⟨c16s_quantile_unit col hne hall _, c16s_quantile_unit col hne hall _⟩

/-! ### the joint interval -/

/-- what a successful run knows about the point estimate and the replicates -/
structure RepsFacts (est : JointVal) (reps : List JointVal) : Prop where
  nonempty : reps ≠ []
  lens : ∀ v ∈ reps, v.1.length = est.1.length ∧ v.2.length = est.2.length
  unit : ∀ v ∈ reps, ∀ x ∈ jointFlat v, UnitO x
  estUnit : ∀ x ∈ jointFlat est, UnitO x

theorem c16s_jointFlat_length (v : JointVal) : (jointFlat v).length = v.1.length + v.2.length := by
  simp [jointFlat]

/-- every row of the interval array is the C13 formula on a non-empty column of defined rates -/
theorem c16s_bootCIOf_rows (nrm : Normal) (p15 : ℚ → ℚ) (m : BootMethod) (al : ℚ) (est : JointVal)
    (reps : List JointVal) (h : RepsFacts est reps) :
    ∀ r ∈ bootstrapCIOf nrm p15 m (fun j => reps.getD j est) jointFlat est reps.length al,
      ∃ col th, col ≠ [] ∧ (∀ x ∈ col, UnitO x) ∧ r = bootstrapCI nrm p15 m col th al := by
  intro r hr
  unfold bootstrapCIOf at hr
  obtain ⟨k, hk, rfl⟩ := List.mem_map.mp hr
  have hk' : k < (jointFlat est).length := List.mem_range.mp hk
  obtain ⟨th, hth, _, _⟩ := h.estUnit _ (List.getElem_mem hk')
  have hget : (jointFlat est).getD k none = some th := by
    rw [List.getD_eq_getElem _ _ hk', hth]
  refine ⟨column (bootstrapMetric (fun j => reps.getD j est) jointFlat reps.length) k, th, ?_, ?_, ?_⟩
  · apply c14_column_ne_nil
    have := List.length_pos_iff.mpr h.nonempty
    omega
  · rw [c14_column_eq]
    intro x hx
    obtain ⟨j, hj, rfl⟩ := List.mem_map.mp hx
    have hj' : j < reps.length := List.mem_range.mp hj
    have hmem : reps.getD j est ∈ reps := by
      rw [List.getD_eq_getElem _ _ hj']; exact List.getElem_mem hj'
    have hlen : k < (jointFlat (reps.getD j est)).length := by
      rw [c16s_jointFlat_length, (h.lens _ hmem).1, (h.lens _ hmem).2, ← c16s_jointFlat_length]
      exact hk'
    rw [List.getD_eq_getElem _ _ hlen]
    exact h.unit _ hmem _ (List.getElem_mem hlen)
  · simp only [hget, ciComponent]

/-- **the joint interval of a successful run.** Both halves have one row per target, every row is
a pair of defined numbers in `[0,1]` (all methods, any oracles, any alpha), and the rows are ordered
whenever every row of the interval array is (`hord`, discharged for the quantile and BC methods by
`C13_ordered_quantile` / `C13_ordered_bc`). -/
theorem c16s_jointBootCI_facts (nrm : Normal) (p15 : ℚ → ℚ) (m : BootMethod) (al : ℚ) (est : JointVal)
    (reps : List JointVal) (h : RepsFacts est reps) (ord : Prop)
    (hord : ord → ∀ r ∈ bootstrapCIOf nrm p15 m (fun j => reps.getD j est) jointFlat est
      reps.length al, optLe r.1 r.2) :
    ∃ bf bg : List Iv, jointBootCI nrm p15 m al est reps = (bf.map Iv.lift, bg.map Iv.lift) ∧
      bf.length = est.1.length ∧ bg.length = est.2.length ∧
      (∀ r ∈ bf, RowGood ord r) ∧ (∀ r ∈ bg, RowGood ord r) := by
  have hrows : ∀ r ∈ bootstrapCIOf nrm p15 m (fun j => reps.getD j est) jointFlat est reps.length al,
      ∃ p : Iv, r = p.lift ∧ RowGood ord p := by
    intro r hr
    obtain ⟨col, th, hne, hall, rfl⟩ := c16s_bootCIOf_rows nrm p15 m al est reps h r hr
    obtain ⟨⟨a, ha, a0, a1⟩, ⟨b, hb, b0, b1⟩⟩ :=
      c16s_bootstrapCI_unit nrm p15 m col th al hne hall
    refine ⟨(a, b), Prod.ext ha hb, ⟨⟨a0, a1⟩, ⟨b0, b1⟩⟩, fun ho => ?_⟩
    have := hord ho _ hr
    rw [ha, hb] at this
    exact this
  obtain ⟨L, hL, hgood⟩ := c16s_exists_map Iv.lift (RowGood ord) _ hrows
  have hlen : L.length = est.1.length + est.2.length := by
    rw [← List.length_map (f := Iv.lift), ← hL, (C14_ci nrm p15 m _ jointFlat est reps.length al).1,
      c16s_jointFlat_length]
  refine ⟨L.take est.1.length, L.drop est.1.length, ?_, ?_, ?_,
    fun r hr => hgood r (List.mem_of_mem_take hr), fun r hr => hgood r (List.mem_of_mem_drop hr)⟩
  · simp only [jointBootCI, hL, List.map_take, List.map_drop]
  · rw [List.length_take, hlen]; omega
  · rw [List.length_drop, hlen]; omega

end SA

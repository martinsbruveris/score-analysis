/-
Helper lemmas for the sampling model (SA/Model/Rng.lean, SA/Model/Sampling.lean): what an `ok`
run knows about each answer and about its result, the requests a call issues, the identity script.
-/
import SA.Model.Sampling
import SA.Spec.C11
import SA.Proofs.Bisect
import SA.Proofs.ListGetD
import Mathlib.Tactic.Linarith
import Mathlib.Algebra.Order.Field.Basic
import Mathlib.Tactic.FieldSimp
import Mathlib.Tactic.Ring
import Mathlib.Data.List.Perm.Subperm
import Mathlib.Data.List.Nodup

namespace SA

/-! ### `draw` -/

theorem draw_ok {r : Req} {st : RngState} (h : (draw r st).2.ok = true) :
    st.ok = true ∧ r.inRange (draw r st).1 = true := by
  unfold draw at *
  cases hr : st.responses with
  | nil => simp [hr] at h
  | cons x rest =>
    simp only [hr, Bool.and_eq_true] at h ⊢
    exact h

@[simp] theorem draw_trace (r : Req) (st : RngState) :
    (draw r st).2.trace = (r, (draw r st).1) :: st.trace := by
  unfold draw
  cases st.responses <;> rfl

theorem draw_fst (r : Req) (st : RngState) : (draw r st).1 = st.responses.getD 0 [] := by
  unfold draw; cases st.responses <;> rfl

theorem draw_responses (r : Req) (st : RngState) :
    (draw r st).2.responses = st.responses.drop 1 := by
  unfold draw; cases st.responses <;> rfl

theorem draw_cons {r : Req} {st : RngState} {x : List Nat} {rest : List (List Nat)}
    (hr : st.responses = x :: rest) (hok : st.ok = true) (hin : r.inRange x = true) :
    (draw r st).1 = x ∧ (draw r st).2.responses = rest ∧ (draw r st).2.ok = true := by
  unfold draw
  rw [hr]
  simp only [hok, hin, Bool.and_self, and_self]

@[simp] theorem drawScalar_fst (r : Req) (st : RngState) :
    (drawScalar r st).1 = (draw r st).1.headD 0 := rfl

@[simp] theorem drawScalar_snd (r : Req) (st : RngState) :
    (drawScalar r st).2 = (draw r st).2 := rfl

theorem binomial_none_range {n : Nat} {p : Rat} {r : List Nat}
    (h : (Req.binomial n p none).inRange r = true) :
    r.headD 0 ≤ n ∧ (p ≤ 0 → r.headD 0 = 0) ∧ (1 ≤ p → r.headD 0 = n) := by
  simp only [Req.inRange, sizeLen, Bool.and_eq_true, beq_iff_eq] at h
  obtain ⟨hl, ha⟩ := h
  match r, hl with
  | [x], _ =>
    simp only [List.all_cons, List.all_nil, Bool.and_true, binomialInSupport, Bool.and_eq_true,
      Bool.or_eq_true, decide_eq_true_eq, beq_iff_eq] at ha
    obtain ⟨⟨h1, h2⟩, h3⟩ := ha
    exact ⟨h1, fun hp => h2.resolve_left (not_lt.mpr hp), fun hp => h3.resolve_left (not_lt.mpr hp)⟩

theorem choice_range {n : Nat} {size : Option Nat} {b : Bool} {r : List Nat}
    (h : (Req.choice n size b).inRange r = true) :
    r.length = sizeLen size ∧ ∀ x ∈ r, x < n := by
  simp only [Req.inRange, Bool.and_eq_true, beq_iff_eq, List.all_eq_true, decide_eq_true_eq] at h
  exact ⟨h.1.1, h.1.2⟩

theorem choiceFrom_range {n : Nat} {size : Option Nat} {r : List Nat}
    (h : (Req.choiceFrom n size false).inRange r = true) :
    r.length = sizeLen size ∧ (∀ x ∈ r, x < n) ∧ r.Nodup := by
  simp only [Req.inRange, Bool.and_eq_true, beq_iff_eq, List.all_eq_true, decide_eq_true_eq,
    Bool.false_or] at h
  exact ⟨h.1.1, h.1.2, h.2⟩

/-! ### the fraction `a / (a + b)` of one count among two

Every probability the sampler requests is of this form (`0` when both counts are zero). -/

theorem frac_bounds (a b : Nat) :
    (0 : Rat) ≤ (a : Rat) / ((a : Rat) + (b : Rat)) ∧ (a : Rat) / ((a : Rat) + (b : Rat)) ≤ 1 := by
  have ha : (0 : Rat) ≤ (a : Rat) := Nat.cast_nonneg a
  have hb : (0 : Rat) ≤ (b : Rat) := Nat.cast_nonneg b
  exact ⟨div_nonneg ha (add_nonneg ha hb),
    div_le_one_of_le₀ (le_add_of_nonneg_right hb) (add_nonneg ha hb)⟩

theorem frac_pos {a : Nat} (b : Nat) (h : 0 < a) :
    (0 : Rat) < (a : Rat) / ((a : Rat) + (b : Rat)) := by
  have ha : (0 : Rat) < (a : Rat) := Nat.cast_pos.mpr h
  have hb : (0 : Rat) ≤ (b : Rat) := Nat.cast_nonneg b
  exact div_pos ha (add_pos_of_pos_of_nonneg ha hb)

theorem frac_lt_one (a : Nat) {b : Nat} (h : 0 < b) : (a : Rat) / ((a : Rat) + (b : Rat)) < 1 := by
  have ha : (0 : Rat) ≤ (a : Rat) := Nat.cast_nonneg a
  have hb : (0 : Rat) < (b : Rat) := Nat.cast_pos.mpr h
  exact (div_lt_one (add_pos_of_nonneg_of_pos ha hb)).mpr (lt_add_of_pos_right _ hb)

theorem mul_frac (a b : Nat) :
    ((a : Rat) + (b : Rat)) * ((a : Rat) / ((a : Rat) + (b : Rat))) = a := by
  rcases Nat.eq_zero_or_pos a with rfl | h
  · rw [Nat.cast_zero, zero_div, mul_zero]
  · have ha : (0 : Rat) < (a : Rat) := Nat.cast_pos.mpr h
    have hb : (0 : Rat) ≤ (b : Rat) := Nat.cast_nonneg b
    exact mul_div_cancel₀ _ (add_pos_of_pos_of_nonneg ha hb).ne'

theorem frac_range {n a b : Nat} {r : List Nat}
    (h : (Req.binomial n ((a : Rat) / ((a : Rat) + (b : Rat))) none).inRange r = true) :
    r.headD 0 ≤ n ∧ (a = 0 → r.headD 0 = 0) ∧ (b = 0 → 0 < a → r.headD 0 = n) := by
  obtain ⟨h1, h2, h3⟩ := binomial_none_range h
  refine ⟨h1, fun ha => h2 ?_, fun hb ha => h3 ?_⟩
  · rw [ha, Nat.cast_zero, zero_div]
  · have ha' : (0 : Rat) < (a : Rat) := Nat.cast_pos.mpr ha
    rw [hb, Nat.cast_zero, add_zero, div_self ha'.ne']

theorem inRange_frac (a b : Nat) :
    (Req.binomial (a + b) ((a : Rat) / ((a : Rat) + (b : Rat))) none).inRange [a] = true := by
  simp only [Req.inRange, sizeLen, List.length_singleton, beq_self_eq_true, List.all_cons,
    List.all_nil, Bool.and_true, Bool.true_and, binomialInSupport, Bool.and_eq_true,
    Bool.or_eq_true, decide_eq_true_eq, beq_iff_eq]
  refine ⟨⟨Nat.le_add_right a b, ?_⟩, ?_⟩
  · exact (Nat.eq_zero_or_pos a).symm.imp (frac_pos b) id
  · exact (Nat.eq_zero_or_pos b).symm.imp (frac_lt_one a) (fun hb => by omega)

theorem nbAll_split (s : Scores) : s.nbAll = s.nbAllPos + s.nbAllNeg := by
  simp only [Scores.nbAll, Scores.nbEasy, Scores.nbHard, Scores.nbAllPos, Scores.nbAllNeg]; omega

theorem posNegRatio_eq (s : Scores) :
    s.posNegRatio = (s.nbAllPos : Rat) / ((s.nbAllPos : Rat) + (s.nbAllNeg : Rat)) := by
  have hN : (s.nbAll : Rat) = (s.nbAllPos : Rat) + (s.nbAllNeg : Rat) := by
    rw [nbAll_split, Nat.cast_add]
  unfold Scores.posNegRatio
  split
  · rw [hN]
  · have : s.nbAllPos = 0 := by have := nbAll_split s; omega
    rw [this, Nat.cast_zero, zero_div]

/-- the left side is `1 - Scores.hardPosRatio` unfolded -/
theorem one_sub_hardRatio (k e : Nat) :
    1 - (if e > 0 then (k : Rat) / ((k + e : Nat) : Rat) else 1) =
      (e : Rat) / ((e : Rat) + (k : Rat)) := by
  rcases Nat.eq_zero_or_pos e with rfl | he
  · rw [if_neg (Nat.lt_irrefl 0), sub_self, Nat.cast_zero, zero_div]
  · have h : ((k + e : Nat) : Rat) ≠ 0 :=
      Nat.cast_ne_zero.mpr (Nat.ne_of_gt (Nat.add_pos_right k he))
    rw [if_pos he, one_sub_div h, Nat.cast_add, add_sub_cancel_left, add_comm]

theorem easyPosRatio_eq (s : Scores) :
    s.easyPosRatio = (s.easyPos : Rat) / ((s.easyPos : Rat) + (s.pos.length : Rat)) :=
  one_sub_hardRatio _ _

theorem easyNegRatio_eq (s : Scores) :
    s.easyNegRatio = (s.easyNeg : Rat) / ((s.easyNeg : Rat) + (s.neg.length : Rat)) :=
  one_sub_hardRatio _ _

theorem classSplit_range {s : Scores} {n : Nat} {r : List Nat}
    (h : (Req.binomial n s.posNegRatio none).inRange r = true) :
    r.headD 0 ≤ n ∧ (s.nbAllPos = 0 → r.headD 0 = 0) ∧
      (s.nbAllNeg = 0 → 0 < s.nbAllPos → r.headD 0 = n) := by
  rw [posNegRatio_eq] at h; exact frac_range h

theorem easyPos_range {s : Scores} {n : Nat} {r : List Nat}
    (h : (Req.binomial n s.easyPosRatio none).inRange r = true) :
    r.headD 0 ≤ n ∧ (s.easyPos = 0 → r.headD 0 = 0) ∧
      (s.pos.length = 0 → 0 < s.easyPos → r.headD 0 = n) := by
  rw [easyPosRatio_eq] at h; exact frac_range h

theorem easyNeg_range {s : Scores} {n : Nat} {r : List Nat}
    (h : (Req.binomial n s.easyNegRatio none).inRange r = true) :
    r.headD 0 ≤ n ∧ (s.easyNeg = 0 → r.headD 0 = 0) ∧
      (s.neg.length = 0 → 0 < s.easyNeg → r.headD 0 = n) := by
  rw [easyNegRatio_eq] at h; exact frac_range h

theorem posNegRatio_bounds (s : Scores) : 0 ≤ s.posNegRatio ∧ s.posNegRatio ≤ 1 := by
  rw [posNegRatio_eq]; exact frac_bounds _ _

theorem easyPosRatio_bounds (s : Scores) : 0 ≤ s.easyPosRatio ∧ s.easyPosRatio ≤ 1 := by
  rw [easyPosRatio_eq]; exact frac_bounds _ _

theorem easyNegRatio_bounds (s : Scores) : 0 ≤ s.easyNegRatio ∧ s.easyNegRatio ≤ 1 := by
  rw [easyNegRatio_eq]; exact frac_bounds _ _

/-! ### stratum arithmetic -/

theorem classSizes_none (s : Scores) (b : Nat)
    (h1 : ¬ (b = 0 ∧ s.nbAllPos > 0)) (h2 : ¬ (s.nbAll - b = 0 ∧ s.nbAllNeg > 0)) :
    classSizes s b = (b, s.nbAll - b) := by
  simp only [classSizes, h1, h2, if_false]

/-- the class sizes after the corrections: they add up to the total, each class that is present
in the source gets at least one sample, a class that is absent gets none -/
theorem classSizes_of_inRange (s : Scores) {r : List Nat}
    (h : (Req.binomial s.nbAll s.posNegRatio none).inRange r = true) :
    (classSizes s (r.headD 0)).1 + (classSizes s (r.headD 0)).2 = s.nbAll ∧
    (s.nbAllPos > 0 → (classSizes s (r.headD 0)).1 ≥ 1) ∧
    (s.nbAllNeg > 0 → (classSizes s (r.headD 0)).2 ≥ 1) ∧
    (s.nbAllPos = 0 → (classSizes s (r.headD 0)).1 = 0) ∧
    (s.nbAllNeg = 0 → (classSizes s (r.headD 0)).2 = 0) := by
  obtain ⟨hb, h0, h1⟩ := classSplit_range h
  generalize r.headD 0 = b at hb h0 h1 ⊢
  have hN := nbAll_split s
  rcases Nat.eq_zero_or_pos s.nbAllPos with hP | hP
  · -- no positives: `b = 0`, the sizes are `(0, N)`
    have hb0 := h0 hP
    have hNQ : s.nbAll = s.nbAllNeg := by rw [hN, hP, Nat.zero_add]
    rw [classSizes_none s b (fun c => absurd c.2 (hP ▸ Nat.lt_irrefl 0)) (fun c => by
      rw [hb0, Nat.sub_zero, hNQ] at c; exact absurd c.1 (Nat.ne_of_gt c.2)), hb0]
    exact ⟨Nat.zero_add _, fun h => absurd h (hP ▸ Nat.lt_irrefl 0),
      fun h => Nat.lt_of_lt_of_eq h hNQ.symm, fun _ => rfl, fun h => hNQ.trans h⟩
  · have hP0 : ¬ s.nbAllPos = 0 := Nat.ne_of_gt hP
    rcases Nat.eq_zero_or_pos s.nbAllNeg with hQ | hQ
    · -- no negatives: `b = N`, the sizes are `(N, 0)`
      have hbN := h1 hQ hP
      have hNpos : 0 < s.nbAll := by rw [hN, hQ, Nat.add_zero]; exact hP
      rw [classSizes_none s b (fun c => absurd (hbN.symm.trans c.1) (Nat.ne_of_gt hNpos))
        (fun c => absurd c.2 (hQ ▸ Nat.lt_irrefl 0)), hbN]
      exact ⟨Nat.add_sub_cancel' (le_refl _), fun _ => hNpos,
        fun h => absurd h (hQ ▸ Nat.lt_irrefl 0),
        fun h => absurd h hP0, fun _ => Nat.sub_self _⟩
    · -- both classes present, so `N ≥ 2`
      have hQ0 : ¬ s.nbAllNeg = 0 := Nat.ne_of_gt hQ
      have h2 : 2 ≤ s.nbAll := hN ▸ Nat.add_le_add hP hQ
      have h1' : 1 ≤ s.nbAll - 1 := Nat.le_sub_of_add_le h2
      have hN1 : 1 ≤ s.nbAll := Nat.le_of_succ_le h2
      by_cases hb0 : b = 0
      · have c2 : ¬ (s.nbAll - 1 = 0 ∧ s.nbAllNeg > 0) := fun c => absurd c.1 (Nat.ne_of_gt h1')
        have hv : classSizes s b = (1, s.nbAll - 1) := by
          simp only [classSizes, hb0, hP, c2, and_self, if_true, if_false]
        rw [hv]
        exact ⟨Nat.add_sub_cancel' hN1, fun _ => le_refl 1, fun _ => h1', fun h => absurd h hP0,
          fun h => absurd h hQ0⟩
      · have c1 : ¬ (b = 0 ∧ s.nbAllPos > 0) := fun c => hb0 c.1
        by_cases hbN : s.nbAll - b = 0
        · have hv : classSizes s b = (s.nbAll - 1, 1) := by
            simp only [classSizes, c1, hbN, hQ, and_self, if_true, if_false]
          rw [hv]
          exact ⟨Nat.sub_add_cancel hN1, fun _ => h1', fun _ => le_refl 1, fun h => absurd h hP0,
            fun h => absurd h hQ0⟩
        · rw [classSizes_none s b c1 (fun c => hbN c.1)]
          exact ⟨Nat.add_sub_cancel' hb, fun _ => Nat.pos_of_ne_zero hb0,
            fun _ => Nat.pos_of_ne_zero hbN, fun h => absurd h hP0, fun h => absurd h hQ0⟩

/-- one class: `n` samples of which the binomial answered `e` easy ones; `k` scored and `ez` easy
samples in the source -/
theorem hardEasy_spec (n e k ez : Nat) (he : e ≤ n) (hn : ez + k > 0 → n ≥ 1)
    (hn0 : ez + k = 0 → n = 0) (h1 : k = 0 → 0 < ez → e = n) :
    hardDrawn n e k + easyDrawn n e k = n ∧ (k > 0 → hardDrawn n e k ≥ 1) ∧
    (k = 0 → hardDrawn n e k = 0) := by
  unfold hardDrawn easyDrawn
  by_cases c : n - e = 0 ∧ k > 0
  · simp only [c, and_self, if_true]
    exact ⟨Nat.add_sub_cancel' (hn (Nat.add_pos_right _ c.2)), fun _ => le_refl 1,
      fun hk => absurd c.2 (by omega)⟩
  · simp only [c, if_false]
    refine ⟨Nat.sub_add_cancel he, fun hk => Nat.pos_of_ne_zero fun h => c ⟨h, hk⟩, fun hk => ?_⟩
    rcases Nat.eq_zero_or_pos ez with hz | hz
    · rw [hn0 (by rw [hz, hk])]; exact Nat.zero_sub _
    · rw [h1 hk hz]; exact Nat.sub_self _

theorem easyDrawn_zero (n k : Nat) : easyDrawn n 0 k = 0 := by
  unfold easyDrawn; split <;> omega

/-- What an `ok` run of the non-stratified stratum draw knows. -/
structure StrataFacts (s : Scores) (a : Strata) : Prop where
  total : a.hardPos + a.hardNeg + a.easyPos + a.easyNeg = s.nbAll
  posOne : s.pos.length > 0 → a.hardPos ≥ 1
  negOne : s.neg.length > 0 → a.hardNeg ≥ 1
  posZero : s.pos.length = 0 → a.hardPos = 0
  negZero : s.neg.length = 0 → a.hardNeg = 0

theorem strataFacts_source (s : Scores) :
    StrataFacts s ⟨s.pos.length, s.neg.length, s.easyPos, s.easyNeg⟩ := by
  refine ⟨?_, fun h => h, fun h => h, fun h => h, fun h => h⟩
  show s.pos.length + s.neg.length + s.easyPos + s.easyNeg = s.nbAll
  simp only [Scores.nbAll, Scores.nbEasy, Scores.nbHard]; omega

theorem strataFacts_of_inRange (s : Scores) {r1 r2 r3 : List Nat}
    (h1 : (Req.binomial s.nbAll s.posNegRatio none).inRange r1 = true)
    (h2 : (Req.binomial (classSizes s (r1.headD 0)).1 s.easyPosRatio none).inRange r2 = true)
    (h3 : (Req.binomial (classSizes s (r1.headD 0)).2 s.easyNegRatio none).inRange r3 = true) :
    StrataFacts s
      ⟨hardDrawn (classSizes s (r1.headD 0)).1 (r2.headD 0) s.pos.length,
        hardDrawn (classSizes s (r1.headD 0)).2 (r3.headD 0) s.neg.length,
        easyDrawn (classSizes s (r1.headD 0)).1 (r2.headD 0) s.pos.length,
        easyDrawn (classSizes s (r1.headD 0)).2 (r3.headD 0) s.neg.length⟩ := by
  obtain ⟨cT, cP, cN, cP0, cN0⟩ := classSizes_of_inRange s h1
  obtain ⟨e1, -, e3⟩ := easyPos_range h2
  obtain ⟨f1, -, f3⟩ := easyNeg_range h3
  have hP := hardEasy_spec _ _ s.pos.length s.easyPos e1 cP cP0 e3
  have hQ := hardEasy_spec _ _ s.neg.length s.easyNeg f1 cN cN0 f3
  exact ⟨by simp only []; omega, hP.2.1, hQ.2.1, hP.2.2, hQ.2.2⟩

theorem drawStrata_spec (s : Scores) (st : RngState) (h : (drawStrata s st).2.ok = true) :
    st.ok = true ∧ StrataFacts s (drawStrata s st).1 := by
  simp only [drawStrata, drawScalar_fst, drawScalar_snd] at h ⊢
  obtain ⟨h3, r3⟩ := draw_ok h
  obtain ⟨h2, r2⟩ := draw_ok h3
  obtain ⟨h1, r1⟩ := draw_ok h2
  exact ⟨h1, strataFacts_of_inRange s r1 r2 r3⟩

theorem strataFor_false (s : Scores) (st : RngState) : strataFor s false st = drawStrata s st := rfl

theorem strataFor_spec (s : Scores) (byLabel : Bool) (st : RngState)
    (h : (strataFor s byLabel st).2.ok = true) :
    st.ok = true ∧ StrataFacts s (strataFor s byLabel st).1 ∧
    (byLabel = true →
      (strataFor s byLabel st).1 = ⟨s.pos.length, s.neg.length, s.easyPos, s.easyNeg⟩) := by
  cases byLabel with
  | true => exact ⟨h, strataFacts_source s, fun _ => rfl⟩
  | false =>
    obtain ⟨h1, h2⟩ := drawStrata_spec s st h
    exact ⟨h1, h2, fun h => absurd h (by simp)⟩

/-! ### multiplicities -/

theorem singlePassReq_pos {size : Nat} (h : 0 < size) (n : Nat) :
    singlePassReq size n = if n < 100 then .binomial n (1 / (size : Rat)) (some size)
      else .poisson ((n : Rat) * (1 / (size : Rat))) (some size) := by
  unfold singlePassReq; rw [Nat.max_eq_left h]

theorem singlePassReq_length {size n : Nat} {x : List Nat}
    (h : (singlePassReq size n).inRange x = true) : x.length = size := by
  unfold singlePassReq at h
  split at h <;> simp only [Req.inRange, sizeLen, Bool.and_eq_true, beq_iff_eq] at h <;> exact h.1

theorem singlePassCounts_spec (size n : Nat) (st : RngState)
    (h : (singlePassCounts size n st).2.ok = true) :
    st.ok = true ∧ (singlePassCounts size n st).1.length = size :=
  ⟨(draw_ok h).1, singlePassReq_length (draw_ok h).2⟩

theorem forceOne_spec (k n : Nat) (counts : List Nat) (st : RngState)
    (h : (forceOne k n counts st).2.ok = true) :
    st.ok = true ∧ (forceOne k n counts st).1.length = counts.length ∧
    (n > 0 → counts.length = k → ∃ x ∈ (forceOne k n counts st).1, x ≠ 0) := by
  unfold forceOne at *
  by_cases c : n > 0 ∧ counts.all (· == 0) = true
  · simp only [c, and_self, if_true, drawScalar_fst, drawScalar_snd] at h ⊢
    obtain ⟨h1, r1⟩ := draw_ok h
    obtain ⟨hl, hx⟩ := choice_range r1
    refine ⟨h1, by simp, fun _ hk => ?_⟩
    generalize (draw (Req.choice k none true) st).1 = r at *
    match r, hl with
    | [x], _ =>
      have hxk : x < counts.length := by rw [hk]; exact hx x (by simp)
      refine ⟨1, ?_, by omega⟩
      simp only [List.headD_cons]
      exact List.mem_iff_getElem.mpr ⟨x, by simpa using hxk, by simp⟩
  · simp only [c, if_false] at h ⊢
    refine ⟨h, trivial, fun hn _ => ?_⟩
    have : ¬ (counts.all (· == 0) = true) := fun hh => c ⟨hn, hh⟩
    simpa only [List.all_eq_true, beq_iff_eq, not_forall, exists_prop] using this

/-! ### `np.repeat(np.arange(k), counts)` -/

theorem mem_repeatArange {a : Nat} {cs : List Nat} {i : Nat} (h : i ∈ repeatArange a cs) :
    a ≤ i ∧ i < a + cs.length := by
  induction cs generalizing a with
  | nil => simp [repeatArange] at h
  | cons c cs ih =>
    simp only [repeatArange, List.mem_append, List.mem_replicate] at h
    rcases h with ⟨_, rfl⟩ | h
    · simp
    · have := ih h; simp only [List.length_cons]; omega

theorem repeatArange_pairwise (a : Nat) (cs : List Nat) : (repeatArange a cs).Pairwise (· ≤ ·) := by
  induction cs generalizing a with
  | nil => simp [repeatArange]
  | cons c cs ih =>
    simp only [repeatArange]
    rw [List.pairwise_append]
    refine ⟨?_, ih (a + 1), ?_⟩
    · rw [List.pairwise_replicate]; right; exact le_refl _
    · intro x hx y hy
      have hx' := (List.mem_replicate.mp hx).2
      have := (mem_repeatArange hy).1
      omega

theorem length_repeatArange (a : Nat) (cs : List Nat) : (repeatArange a cs).length = cs.sum := by
  induction cs generalizing a with
  | nil => rfl
  | cons c cs ih => simp [repeatArange, ih]

theorem repeatArange_ne_nil (a : Nat) (cs : List Nat) (h : ∃ x ∈ cs, x ≠ 0) :
    repeatArange a cs ≠ [] := by
  obtain ⟨x, hx, hne⟩ := h
  intro hh
  have := congrArg List.length hh
  rw [length_repeatArange] at this
  exact hne (List.sum_eq_zero_iff_forall_eq_nat.mp this x hx)

theorem mem_repeatIdx {cs : List Nat} {i : Nat} (h : i ∈ repeatIdx cs) : i < cs.length := by
  have := mem_repeatArange h; omega

/-! ### gathering -/

theorem gather_length (a : List Rat) (idx : List Nat) : (gather a idx).length = idx.length := by
  simp [gather]

theorem gather_mem (a : List Rat) (idx : List Nat) (hi : ∀ i ∈ idx, i < a.length) :
    ∀ v ∈ gather a idx, v ∈ a := by
  intro v hv
  simp only [gather, List.mem_map] at hv
  obtain ⟨i, hi', rfl⟩ := hv
  have := hi i hi'
  rw [getD_eq _ _ this]
  exact List.getElem_mem _

/-- the `is_sorted=True` fast path: gathering a sorted array by a non-decreasing index list gives
a sorted array -/
theorem gather_sorted (a : List Rat) (idx : List Nat) (ha : a.Pairwise (· ≤ ·))
    (hidx : idx.Pairwise (· ≤ ·)) (hi : ∀ i ∈ idx, i < a.length) :
    (gather a idx).Pairwise (· ≤ ·) := by
  unfold gather
  rw [List.pairwise_map]
  refine List.Pairwise.imp_of_mem ?_ hidx
  intro i j hi' hj' hij
  have h1 := hi i hi'
  have h2 := hi j hj'
  rw [getD_eq _ _ h1, getD_eq _ _ h2]
  rcases Nat.lt_or_ge i j with hlt | hge
  · exact (List.pairwise_iff_getElem.mp ha) i j h1 h2 hlt
  · have : i = j := by omega
    subst this; exact le_refl _

/-- sampling without replacement: no value is gathered more often than the source holds it -/
theorem gather_count_le (a : List Rat) (idx : List Nat) (hn : idx.Nodup)
    (hi : ∀ i ∈ idx, i < a.length) (v : Rat) : (gather a idx).count v ≤ a.count v := by
  have hsub : idx.Subperm (List.range a.length) :=
    List.subperm_of_subset hn (fun i h => List.mem_range.mpr (hi i h))
  have hmap : (idx.map (fun i => a.getD i 0)).Subperm
      ((List.range a.length).map (fun i => a.getD i 0)) := by
    obtain ⟨l, hp, hs⟩ := hsub
    exact ⟨l.map _, hp.map _, hs.map _⟩
  rw [List.map_getD_range] at hmap
  exact hmap.count_le v

/-! ### `_sample_indices` -/

/-- What an `ok` run of `sampleIndices` knows about its result. -/
structure IndexFacts (s : Scores) (byLabel sp : Bool) (r : Indices) : Prop where
  posRange : ∀ i ∈ r.idxPos, i < s.pos.length
  negRange : ∀ i ∈ r.idxNeg, i < s.neg.length
  sortedIdx : sp = true → r.idxPos.Pairwise (· ≤ ·) ∧ r.idxNeg.Pairwise (· ≤ ·)
  /-- only replacement: single-pass sizes are sums of random counts -/
  total : sp = false → r.idxPos.length + r.idxNeg.length + r.easyPos + r.easyNeg = s.nbAll
  easy : byLabel = true → r.easyPos = s.easyPos ∧ r.easyNeg = s.easyNeg
  hard : byLabel = true → sp = false →
    r.idxPos.length = s.pos.length ∧ r.idxNeg.length = s.neg.length
  posOne : s.pos.length > 0 → r.idxPos ≠ []
  negOne : s.neg.length > 0 → r.idxNeg ≠ []

theorem sampleIndices_spec (s : Scores) (byLabel sp : Bool) (st : RngState)
    (h : (sampleIndices s byLabel sp st).2.ok = true) :
    st.ok = true ∧ IndexFacts s byLabel sp (sampleIndices s byLabel sp st).1 := by
  unfold sampleIndices at *
  cases sp with
  | true =>
    simp only [↓reduceIte] at h ⊢
    obtain ⟨hf1, l2, n2⟩ := forceOne_spec _ _ _ _ h
    obtain ⟨hc2, l1, n1⟩ := forceOne_spec _ _ _ _ hf1
    obtain ⟨hc1, len2⟩ := singlePassCounts_spec _ _ _ hc2
    obtain ⟨ha, len1⟩ := singlePassCounts_spec _ _ _ hc1
    obtain ⟨h0, facts, hby⟩ := strataFor_spec s byLabel st ha
    exact ⟨h0, {
      posRange := fun i hi => (l1.trans len1) ▸ mem_repeatIdx hi
      negRange := fun i hi => (l2.trans len2) ▸ mem_repeatIdx hi
      sortedIdx := fun _ => ⟨repeatArange_pairwise _ _, repeatArange_pairwise _ _⟩
      total := nofun
      easy := fun hb => by rw [hby hb]; exact ⟨rfl, rfl⟩
      hard := fun _ => nofun
      posOne := fun hk => repeatArange_ne_nil _ _ (n1 (facts.posOne hk) len1)
      negOne := fun hk => repeatArange_ne_nil _ _ (n2 (facts.negOne hk) len2) }⟩
  | false =>
    simp only [Bool.false_eq_true, ↓reduceIte] at h ⊢
    obtain ⟨hd1, r2⟩ := draw_ok h
    obtain ⟨ha, r1⟩ := draw_ok hd1
    obtain ⟨h0, facts, hby⟩ := strataFor_spec s byLabel st ha
    obtain ⟨len1, rg1⟩ := choice_range r1
    obtain ⟨len2, rg2⟩ := choice_range r2
    have ne_nil : ∀ {l : List Nat} {n : Nat}, l.length = n → n ≥ 1 → l ≠ [] :=
      fun hl hn e => by rw [e] at hl; exact absurd hl.symm (Nat.ne_of_gt hn)
    exact ⟨h0, {
      posRange := rg1
      negRange := rg2
      sortedIdx := nofun
      total := fun _ => by rw [len1, len2]; exact facts.total
      easy := fun hb => by rw [hby hb]; exact ⟨rfl, rfl⟩
      hard := fun hb _ => by simp only [hby hb] at len1 len2 ⊢; exact ⟨len1, len2⟩
      posOne := fun hk => ne_nil len1 (facts.posOne hk)
      negOne := fun hk => ne_nil len2 (facts.negOne hk) }⟩

theorem sampleIndices_strata_ok {s : Scores} {b sp : Bool} {st : RngState}
    (h : (sampleIndices s b sp st).2.ok = true) : (strataFor s b st).2.ok = true := by
  unfold sampleIndices at h
  cases sp with
  | false =>
    simp only [Bool.false_eq_true, ↓reduceIte] at h
    exact (draw_ok (draw_ok h).1).1
  | true =>
    simp only [↓reduceIte] at h
    exact (singlePassCounts_spec _ _ _ (singlePassCounts_spec _ _ _
      (forceOne_spec _ _ _ _ (forceOne_spec _ _ _ _ h).1).1).1).1

/-! ### `Scores.make` -/

theorem make_cfg (p n : List Rat) (ep en : Nat) (cfg : Cfg) (b : Bool) :
    (Scores.make p n ep en cfg b).cfg = cfg := by cases b <;> rfl

theorem make_easy (p n : List Rat) (ep en : Nat) (cfg : Cfg) (b : Bool) :
    (Scores.make p n ep en cfg b).easyPos = ep ∧ (Scores.make p n ep en cfg b).easyNeg = en := by
  cases b <;> exact ⟨rfl, rfl⟩

theorem make_perm (p n : List Rat) (ep en : Nat) (cfg : Cfg) (b : Bool) :
    (Scores.make p n ep en cfg b).pos.Perm p ∧ (Scores.make p n ep en cfg b).neg.Perm n := by
  cases b
  · exact ⟨sortQ_perm p, sortQ_perm n⟩
  · exact ⟨List.Perm.refl _, List.Perm.refl _⟩

theorem make_sorted (p n : List Rat) (ep en : Nat) (cfg : Cfg) (b : Bool)
    (h : b = true → p.Pairwise (· ≤ ·) ∧ n.Pairwise (· ≤ ·)) :
    (Scores.make p n ep en cfg b).pos.Pairwise (· ≤ ·) ∧
    (Scores.make p n ep en cfg b).neg.Pairwise (· ≤ ·) := by
  cases b
  · exact ⟨sortQ_pairwise p, sortQ_pairwise n⟩
  · exact h rfl

/-! ### `bootstrap_sample`: the three ways a sample comes about -/

theorem c11p_proportionSize_pos (c : BootCfg) (ratio : Rat) (n : Nat) :
    1 ≤ proportionSize c ratio n := by
  unfold proportionSize; exact Nat.le_max_right _ _

/-- Every successful `ok` run of `bootstrapSample` is one of: a replacement sample, a single-pass
sample (smoothing off), a proportion sample; with what the run knows in each case. -/
theorem bootstrapSample_cases (s : Scores) (c : BootCfg) (st : RngState) (out : Scores)
    (h : (bootstrapSample s c st).1 = .ok out) (hok : (bootstrapSample s c st).2.ok = true) :
    (samplingMethod s c = .replacement ∧ ∃ r : Indices, IndexFacts s c.byLabel false r ∧
      out = Scores.make (gather s.pos r.idxPos) (gather s.neg r.idxNeg) r.easyPos r.easyNeg
        s.cfg false) ∨
    (samplingMethod s c = .singlePass ∧ c.smoothing = false ∧
      ∃ r : Indices, IndexFacts s c.byLabel true r ∧
      out = Scores.make (gather s.pos r.idxPos) (gather s.neg r.idxNeg) r.easyPos r.easyNeg
        s.cfg true) ∨
    (samplingMethod s c = .proportion ∧ ∃ (ratio : Rat) (ip ineg : List Nat),
      c.ratio = some ratio ∧
      ip.length = proportionSize c ratio s.pos.length ∧ (∀ i ∈ ip, i < s.pos.length) ∧ ip.Nodup ∧
      ineg.length = proportionSize c ratio s.neg.length ∧ (∀ i ∈ ineg, i < s.neg.length) ∧
      ineg.Nodup ∧
      out = Scores.make (gather s.pos ip) (gather s.neg ineg) (truncNat (c.fmul ratio s.easyPos))
        (truncNat (c.fmul ratio s.easyNeg)) s.cfg false) := by
  unfold bootstrapSample at h hok
  cases hm : samplingMethod s c with
  | replacement =>
    simp only [hm] at h hok
    refine Or.inl ⟨rfl, _, (sampleIndices_spec s c.byLabel false st ?_).2, (Except.ok.inj h).symm⟩
    split at hok
    · exact (draw_ok (draw_ok hok).1).1
    · exact hok
  | singlePass =>
    simp only [hm] at h hok
    split at h
    · exact nomatch h
    · next hs =>
      rw [if_neg hs] at hok
      exact Or.inr (Or.inl ⟨rfl, by simpa using hs, _,
        (sampleIndices_spec s c.byLabel true st hok).2,
        (Except.ok.inj h).symm⟩)
  | proportion =>
    simp only [hm] at h hok
    cases hr : c.ratio with
    | none => simp only [hr] at h; exact nomatch h
    | some ratio =>
      simp only [hr] at h hok
      split at h
      · exact nomatch h
      · next f1 =>
        split at h
        · exact nomatch h
        · next f2 =>
          rw [if_neg f1, if_neg f2] at hok
          obtain ⟨hd1, r2⟩ := draw_ok hok
          obtain ⟨l1, g1, n1⟩ := choiceFrom_range (draw_ok hd1).2
          obtain ⟨l2, g2, n2⟩ := choiceFrom_range r2
          exact Or.inr (Or.inr ⟨rfl, ratio, _, _, rfl, l1, g1, n1, l2, g2, n2,
            (Except.ok.inj h).symm⟩)
  | unknown | dynamic => simp only [hm] at h; exact nomatch h

/-! ### the requests `_sample_indices` issues -/

section Requests
open Spec.C11

theorem closeQ_zero_refl (a : Rat) : closeQ 0 a a = true := by
  simp [closeQ, absQ]

theorem isNormal_choice (n : Nat) (sz : Option Nat) (r : Bool) :
    isNormal (Req.choice n sz r) = false := rfl
theorem isNormal_binomial (n : Nat) (p : Rat) (sz : Option Nat) :
    isNormal (Req.binomial n p sz) = false := rfl
theorem isNormal_singlePassReq (k n : Nat) : isNormal (singlePassReq k n) = false := by
  unfold singlePassReq; split <;> rfl

theorem isSizedCounts_singlePassReq (k n : Nat) : isSizedCounts (singlePassReq k n) = true := by
  unfold singlePassReq; split <;> rfl
theorem isSizedChoice_singlePassReq (k n : Nat) : isSizedChoice (singlePassReq k n) = false := by
  unfold singlePassReq; split <;> rfl

theorem isSizedChoice_some (n k : Nat) (r : Bool) : isSizedChoice (Req.choice n (some k) r) = true := rfl
theorem isSizedChoice_none (n : Nat) (r : Bool) : isSizedChoice (Req.choice n none r) = false := rfl
theorem isSizedCounts_choice (n : Nat) (sz : Option Nat) (r : Bool) :
    isSizedCounts (Req.choice n sz r) = false := rfl
theorem isSizedChoice_normal (n : Nat) : isSizedChoice (Req.normal n) = false := rfl
theorem isSizedCounts_normal (n : Nat) : isSizedCounts (Req.normal n) = false := rfl
theorem isSizedChoice_binomial (n : Nat) (p : Rat) (sz : Option Nat) :
    isSizedChoice (Req.binomial n p sz) = false := rfl
theorem isSizedCounts_binomial_none (n : Nat) (p : Rat) :
    isSizedCounts (Req.binomial n p none) = false := rfl

theorem countsReqOK_singlePassReq (k n : Nat) : countsReqOK 0 k n (singlePassReq k n) = true := by
  rcases Nat.eq_zero_or_pos k with rfl | hk
  · unfold singlePassReq
    split <;> simp only [countsReqOK, beq_self_eq_true, Bool.true_or, Bool.and_true]
  · have hk0 : (k : Rat) ≠ 0 := Nat.cast_ne_zero.mpr hk.ne'
    rw [singlePassReq_pos hk]
    split
    · simp only [countsReqOK, beq_self_eq_true, Bool.true_and, one_div_mul_cancel hk0,
        closeQ_zero_refl,
        Bool.or_true]
    · simp only [countsReqOK, beq_self_eq_true, Bool.true_and, mul_assoc, one_div_mul_cancel hk0,
        mul_one, closeQ_zero_refl, Bool.or_true]

theorem draw_paired (r : Req) (st : RngState) :
    (draw r st).2.trace.reverse = st.trace.reverse ++ [(r, (draw r st).1)] := by
  rw [draw_trace, List.reverse_cons]

theorem forceOne_paired (k n : Nat) (counts : List Nat) (st : RngState) :
    (forceOne k n counts st).2.trace.reverse = st.trace.reverse ++
      if n > 0 ∧ counts.all (· == 0) = true
        then [(Req.choice k none true, (draw (Req.choice k none true) st).1)] else [] := by
  unfold forceOne
  split
  · exact draw_paired _ _
  · exact (List.append_nil _).symm

theorem any_sized_false {l : Obs}
    (h : ∀ x ∈ l, isSizedChoice x.1 = false ∧ isSizedCounts x.1 = false) :
    l.any (fun x => isSizedChoice x.1) = false ∧ l.any (fun x => isSizedCounts x.1) = false :=
  ⟨List.any_eq_false.mpr fun x hx => by rw [(h x hx).1]; exact Bool.false_ne_true,
    List.any_eq_false.mpr fun x hx => by rw [(h x hx).2]; exact Bool.false_ne_true⟩

theorem forcedReqs_mem {kp kn np nn : Nat} {rp rn : List Nat} {q : Req}
    (h : q ∈ forcedReqs kp kn np nn rp rn) : ∃ k, q = Req.choice k none true := by
  unfold forcedReqs at h
  rcases List.mem_append.mp h with h | h <;> split at h <;> simp only [List.mem_singleton,
    List.not_mem_nil] at h
  · exact ⟨_, h⟩
  · exact ⟨_, h⟩

/-- the last clause is the first stage of `Spec.C11.unbiasedOK` / `Spec.C12.consumeReqs` -/
theorem strataFor_requests (s : Scores) (b : Bool) (st : RngState)
    (hok : (strataFor s b st).2.ok = true) :
    ∃ XR : Obs, (strataFor s b st).2.trace.reverse = st.trace.reverse ++ XR ∧
      (∀ x ∈ XR, ∃ n p, x.1 = Req.binomial n p none) ∧
      ∀ rest, (if b = true then some (s.pos.length, s.neg.length, XR ++ rest)
        else strataReqs 0 s (XR ++ rest)) =
        some ((strataFor s b st).1.hardPos, (strataFor s b st).1.hardNeg, rest) := by
  cases b with
  | true => exact ⟨[], (List.append_nil _).symm, by simp, fun _ => rfl⟩
  | false =>
    rw [strataFor_false] at hok ⊢
    simp only [drawStrata, drawScalar_fst, drawScalar_snd] at hok ⊢
    have hsum := (classSizes_of_inRange s (draw_ok (draw_ok (draw_ok hok).1).1).2).1
    refine ⟨_, (by rw [draw_paired, draw_paired, draw_paired, List.append_assoc,
      List.append_assoc]), ?_, fun rest => ?_⟩
    · intro x hx
      simp only [List.mem_append, List.mem_singleton] at hx
      rcases hx with rfl | rfl | rfl <;> exact ⟨_, _, rfl⟩
    · simp only [Bool.false_eq_true, if_false, List.cons_append, List.nil_append, strataReqs,
        beq_self_eq_true, closeQ_zero_refl, Bool.and_true, hsum, if_true]

/-- what one `_sample_indices` call adds to the trace, in call order -/
theorem sampleIndices_requests (s : Scores) (b sp : Bool) (st : RngState)
    (hok : (sampleIndices s b sp st).2.ok = true) :
    ∃ (XR body : Obs) (hp hn : Nat),
      (sampleIndices s b sp st).2.trace.reverse = st.trace.reverse ++ (XR ++ body) ∧
      (∀ x ∈ XR, ∃ n p, x.1 = Req.binomial n p none) ∧
      (∀ rest, (if b = true then some (s.pos.length, s.neg.length, XR ++ rest)
        else strataReqs 0 s (XR ++ rest)) = some (hp, hn, rest)) ∧
      (sp = false → ∃ x1 x2, body = [(Req.choice s.pos.length (some hp) true, x1),
        (Req.choice s.neg.length (some hn) true, x2)]) ∧
      (sp = true → ∃ c1 c2 extra,
        body = (singlePassReq s.pos.length hp, c1) :: (singlePassReq s.neg.length hn, c2) :: extra ∧
        extra.map (·.1) = forcedReqs s.pos.length s.neg.length hp hn c1 c2) := by
  obtain ⟨XR, hX, hXR, hstart⟩ := strataFor_requests s b st (sampleIndices_strata_ok hok)
  unfold sampleIndices
  cases sp with
  | false =>
    simp only [Bool.false_eq_true, ↓reduceIte]
    exact ⟨XR, _, _, _,
      (by rw [draw_paired, draw_paired, hX, List.append_assoc, List.append_assoc]; rfl),
      hXR, hstart, fun _ => ⟨_, _, rfl⟩, fun h => absurd h (by simp)⟩
  | true =>
    simp only [↓reduceIte, singlePassCounts]
    refine ⟨XR, _, _, _, (by rw [forceOne_paired, forceOne_paired, draw_paired, draw_paired, hX,
      List.append_assoc, List.append_assoc, List.append_assoc, List.append_assoc]; rfl),
      hXR, hstart,
      fun h => absurd h (by simp), fun _ => ⟨_, _, _, rfl, ?_⟩⟩
    show List.map _ (ite _ _ _ ++ ite _ _ _) = _
    rw [List.map_append, apply_ite (List.map _), apply_ite (List.map _)]
    rfl

/-- The requests `_sample_indices` issues satisfy the unbiasedness relations exactly. -/
theorem sampleIndices_unbiased (s : Scores) (b sp : Bool) (st : RngState) (ht : st.trace = [])
    (hok : (sampleIndices s b sp st).2.ok = true) (tail : Obs)
    (htail : tail.filter (fun x => !isNormal x.1) = []) :
    unbiasedOK 0 s b sp ((sampleIndices s b sp st).2.trace.reverse ++ tail) = true := by
  obtain ⟨XR, body, hp, hn, htr, hXR, hstart, hrep, hsp⟩ := sampleIndices_requests s b sp st hok
  have hfil : XR.filter (fun x => !isNormal x.1) = XR :=
    List.filter_eq_self.mpr fun x hx => by obtain ⟨n, p, e⟩ := hXR x hx; rw [e]; rfl
  rw [htr, ht, List.reverse_nil, List.nil_append]
  simp only [unbiasedOK, List.append_assoc, List.filter_append, hfil, htail, hstart]
  cases sp with
  | false =>
    obtain ⟨x1, x2, rfl⟩ := hrep rfl
    simp only [List.filter_cons, List.filter_nil, isNormal_choice, Bool.not_false, if_true,
      List.cons_append, List.nil_append, Bool.false_eq_true, if_false, choiceReqOK,
      beq_self_eq_true, Bool.and_self]
  | true =>
    obtain ⟨c1, c2, extra, rfl, hex⟩ := hsp rfl
    have hfe : extra.filter (fun x => !isNormal x.1) = extra :=
      List.filter_eq_self.mpr fun x hx => by
        obtain ⟨k, e⟩ := forcedReqs_mem (hex ▸ List.mem_map_of_mem hx); rw [e]; rfl
    simp only [List.filter_cons, isNormal_singlePassReq, Bool.not_false, if_true, hfe,
      List.append_nil, countsReqOK_singlePassReq, hex, beq_self_eq_true, Bool.and_self]

/-- kinds of requests of `_sample_indices`: replacement issues sized choices and no sized
multiplicities, single-pass the converse -/
theorem sampleIndices_kinds (s : Scores) (b sp : Bool) (st : RngState) (ht : st.trace = [])
    (hok : (sampleIndices s b sp st).2.ok = true) :
    (sampleIndices s b sp st).2.trace.any (fun x => isSizedChoice x.1) = !sp ∧
    (sampleIndices s b sp st).2.trace.any (fun x => isSizedCounts x.1) = sp := by
  obtain ⟨XR, body, hp, hn, htr, hXR, -, hrep, hsp⟩ := sampleIndices_requests s b sp st hok
  obtain ⟨k1, k2⟩ := any_sized_false (l := XR) fun x hx => by
    obtain ⟨n, p, e⟩ := hXR x hx; rw [e]; exact ⟨rfl, rfl⟩
  rw [← List.any_reverse, ← List.any_reverse (l := (sampleIndices s b sp st).2.trace), htr, ht,
    List.reverse_nil, List.nil_append, List.any_append, List.any_append, k1, k2]
  cases sp with
  | false =>
    obtain ⟨x1, x2, rfl⟩ := hrep rfl
    exact ⟨rfl, rfl⟩
  | true =>
    obtain ⟨c1, c2, extra, rfl, hex⟩ := hsp rfl
    obtain ⟨e1, e2⟩ := any_sized_false (l := extra) fun x hx => by
      obtain ⟨k, e⟩ := forcedReqs_mem (hex ▸ List.mem_map_of_mem hx); rw [e]; exact ⟨rfl, rfl⟩
    simp only [List.any_cons, isSizedChoice_singlePassReq, isSizedCounts_singlePassReq, e1, e2,
      Bool.or_false, Bool.or_true, Bool.not_true, and_self]

theorem bootstrapSample_requests (s : Scores) (c : BootCfg) (st : RngState)
    (hm : samplingMethod s c = .replacement ∨ samplingMethod s c = .singlePass)
    (hok : (bootstrapSample s c st).2.ok = true) :
    (sampleIndices s c.byLabel (samplingMethod s c == .singlePass) st).2.ok = true ∧
    ∃ tail : Obs, (∀ x ∈ tail, ∃ n, x.1 = Req.normal n) ∧
      (bootstrapSample s c st).2.trace.reverse =
        (sampleIndices s c.byLabel (samplingMethod s c == .singlePass) st).2.trace.reverse ++
          tail := by
  have b1 : (SamplingMethod.replacement == SamplingMethod.singlePass) = false := by decide
  have b2 : (SamplingMethod.singlePass == SamplingMethod.singlePass) = true := by decide
  unfold bootstrapSample at hok ⊢
  rcases hm with hm | hm
  · simp only [hm, b1] at hok ⊢
    by_cases hs : c.smoothing = true
    · simp only [hs, if_true] at hok ⊢
      refine ⟨(draw_ok (draw_ok hok).1).1, _, ?_,
        (by rw [draw_paired, draw_paired, List.append_assoc])⟩
      intro x hx
      simp only [List.mem_append, List.mem_singleton] at hx
      rcases hx with rfl | rfl <;> exact ⟨_, rfl⟩
    · simp only [hs] at hok ⊢
      exact ⟨hok, [], by simp, (List.append_nil _).symm⟩
  · simp only [hm, b2] at hok ⊢
    refine ⟨by split at hok <;> exact hok, [], by simp, ?_⟩
    split <;> exact (List.append_nil _).symm

end Requests

/-! ### the identity script: every source score is reachable -/

theorem classSizes_id (s : Scores) : classSizes s s.nbAllPos = (s.nbAllPos, s.nbAllNeg) := by
  have hN := nbAll_split s
  rw [classSizes_none s _ (by omega) (by omega)]
  congr 1; omega

theorem hardEasy_id (k e : Nat) : hardDrawn (e + k) e k = k ∧ easyDrawn (e + k) e k = e := by
  unfold hardDrawn easyDrawn
  have c : ¬ (e + k - e = 0 ∧ k > 0) := by omega
  simp only [c, if_false, and_true]; omega

theorem inRange_range (k : Nat) : (Req.choice k (some k) true).inRange (List.range k) = true := by
  simp [Req.inRange, sizeLen]

theorem inRange_ones (k : Nat) : (singlePassReq k k).inRange (List.replicate k 1) = true := by
  rcases Nat.eq_zero_or_pos k with rfl | hk
  · unfold singlePassReq; split <;> rfl
  · have h1 : (0 : Rat) < (k : Rat) := Nat.cast_pos.mpr hk
    rw [singlePassReq_pos hk]
    split
    · simp only [Req.inRange, sizeLen, List.length_replicate, beq_self_eq_true, Bool.true_and,
        List.all_eq_true, List.mem_replicate, binomialInSupport, Bool.and_eq_true,
        Bool.or_eq_true, decide_eq_true_eq, beq_iff_eq]
      rintro x ⟨-, rfl⟩
      refine ⟨⟨hk, Or.inl (one_div_pos.mpr h1)⟩, ?_⟩
      rcases Nat.eq_or_lt_of_le hk with h | h
      · exact Or.inr h
      · exact Or.inl ((div_lt_one h1).mpr (by exact_mod_cast h))
    · simp only [Req.inRange, sizeLen, List.length_replicate, beq_self_eq_true, Bool.true_and,
        List.all_eq_true, List.mem_replicate, Bool.or_eq_true, decide_eq_true_eq, beq_iff_eq]
      rintro x ⟨-, rfl⟩
      exact Or.inl (mul_pos h1 (one_div_pos.mpr h1))

theorem repeatArange_ones (a k : Nat) : repeatArange a (List.replicate k 1) = List.range' a k := by
  induction k generalizing a with
  | zero => rfl
  | succ k ih =>
    simp only [List.replicate_succ, repeatArange, List.replicate_zero,
      List.singleton_append, ih, List.range'_succ]

theorem gather_range (a : List Rat) : gather a (List.range a.length) = a :=
  List.map_getD_range a 0

/-- the script under which the sample is the source itself -/
def identityScript (s : Scores) (byLabel sp : Bool) : List (List Nat) :=
  (if byLabel then [] else [[s.nbAllPos], [s.easyPos], [s.easyNeg]]) ++
  (if sp then [List.replicate s.pos.length 1, List.replicate s.neg.length 1]
   else [List.range s.pos.length, List.range s.neg.length])

theorem strataFor_identity (s : Scores) (b : Bool) (st : RngState) (rest : List (List Nat))
    (hok : st.ok = true)
    (hr : st.responses = (if b then [] else [[s.nbAllPos], [s.easyPos], [s.easyNeg]]) ++ rest) :
    (strataFor s b st).1 = ⟨s.pos.length, s.neg.length, s.easyPos, s.easyNeg⟩ ∧
    (strataFor s b st).2.responses = rest ∧ (strataFor s b st).2.ok = true := by
  cases b with
  | true => exact ⟨rfl, hr, hok⟩
  | false =>
    rw [strataFor_false]
    simp only [Bool.false_eq_true, if_false, List.cons_append, List.nil_append] at hr
    have i1 : (Req.binomial s.nbAll s.posNegRatio none).inRange [s.nbAllPos] = true := by
      rw [posNegRatio_eq, nbAll_split]; exact inRange_frac _ _
    have i2 : (Req.binomial s.nbAllPos s.easyPosRatio none).inRange [s.easyPos] = true := by
      rw [easyPosRatio_eq]; exact inRange_frac _ _
    have i3 : (Req.binomial s.nbAllNeg s.easyNegRatio none).inRange [s.easyNeg] = true := by
      rw [easyNegRatio_eq]; exact inRange_frac _ _
    obtain ⟨e1, q1, k1⟩ := draw_cons hr hok i1
    obtain ⟨e2, q2, k2⟩ := draw_cons q1 k1 i2
    obtain ⟨e3, q3, k3⟩ := draw_cons q2 k2 i3
    simp only [drawStrata, drawScalar_fst, drawScalar_snd, e1, List.headD_cons, classSizes_id,
      e2, e3, q3, k3, and_true]
    have hp := hardEasy_id s.pos.length s.easyPos
    have hn := hardEasy_id s.neg.length s.easyNeg
    simp only [Scores.nbAllPos, Scores.nbAllNeg, hp.1, hp.2, hn.1, hn.2]

theorem forceOne_ones (k : Nat) (st : RngState) :
    forceOne k k (List.replicate k 1) st = (List.replicate k 1, st) := by
  unfold forceOne
  have c : ¬ (k > 0 ∧ (List.replicate k 1).all (· == 0) = true) := by
    rintro ⟨hk, h⟩
    simp only [List.all_eq_true, List.mem_replicate, beq_iff_eq] at h
    have := h 1 ⟨by omega, rfl⟩
    omega
  simp only [c, if_false]

/-- On the identity script `_sample_indices` selects every index exactly once and leaves the
answers that follow it unread. -/
theorem c11p_sampleIndices_identity_rest (s : Scores) (b sp : Bool) (st : RngState)
    (rest : List (List Nat)) (hok : st.ok = true)
    (hr : st.responses = identityScript s b sp ++ rest) :
    (sampleIndices s b sp st).1 =
      ⟨List.range s.pos.length, List.range s.neg.length, s.easyPos, s.easyNeg⟩ ∧
    (sampleIndices s b sp st).2.ok = true ∧ (sampleIndices s b sp st).2.responses = rest := by
  unfold identityScript at hr
  rw [List.append_assoc] at hr
  obtain ⟨a1, a2, a3⟩ := strataFor_identity s b st _ hok hr
  unfold sampleIndices
  cases sp with
  | true =>
    simp only [↓reduceIte, List.cons_append, List.nil_append] at a2 ⊢
    simp only [a1, singlePassCounts]
    obtain ⟨e1, q1, k1⟩ := draw_cons (r := singlePassReq s.pos.length s.pos.length) a2 a3
      (inRange_ones _)
    obtain ⟨e2, q2, k2⟩ := draw_cons (r := singlePassReq s.neg.length s.neg.length) q1 k1
      (inRange_ones _)
    simp only [e1, e2, forceOne_ones, repeatIdx, repeatArange_ones, k2, q2, and_true,
      List.range_eq_range']
  | false =>
    simp only [Bool.false_eq_true, ↓reduceIte, List.cons_append, List.nil_append] at a2 ⊢
    simp only [a1]
    obtain ⟨e1, q1, k1⟩ := draw_cons (r := .choice s.pos.length (some s.pos.length) true) a2 a3
      (inRange_range _)
    obtain ⟨e2, q2, k2⟩ := draw_cons (r := .choice s.neg.length (some s.neg.length) true) q1 k1
      (inRange_range _)
    simp only [e1, e2, k2, q2, and_true]

theorem sampleIndices_identity (s : Scores) (b sp : Bool) (st : RngState) (hok : st.ok = true)
    (hr : st.responses = identityScript s b sp) :
    (sampleIndices s b sp st).1 =
      ⟨List.range s.pos.length, List.range s.neg.length, s.easyPos, s.easyNeg⟩ ∧
    (sampleIndices s b sp st).2.ok = true :=
  let ⟨h1, h2, _⟩ := c11p_sampleIndices_identity_rest s b sp st [] hok (by rw [hr, List.append_nil])
  ⟨h1, h2⟩

end SA

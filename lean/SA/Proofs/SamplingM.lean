/-
Lemmas behind SA/Theorems/C11Unbiased.lean: the monadic sampling program of SA/Model/SamplingM.lean

* run on scripts (`stateRng`): it IS the model `sampleIndices`; corrected and uncorrected
  programs agree on scripts that trigger no correction;
* run on expectations (`exRng E` for a `Lawful` oracle): consequences of the laws, the tower
  property through the three binomials of the non-stratified branch, the means of one request.
-/
import SA.Model.SamplingM
import SA.Theorems.C11Progress
import Mathlib.Algebra.BigOperators.Group.Finset.Basic
import Mathlib.Tactic.LinearCombination
import Mathlib.Tactic.FieldSimp
import Mathlib.Tactic.Positivity
import Mathlib.Algebra.Order.Field.Basic

namespace SA.C11U
open SA

/-! ## scripts -/
theorem c11u_forceOneM_state (k n : Nat) (c : List Nat) (st : RngState) :
    forceOneM stateRng k n c st = forceOne k n c st := by
  unfold forceOneM forceOne
  split <;> rfl

theorem c11u_strataForM_state (s : Scores) (byLabel : Bool) (st : RngState) :
    strataForM stateRng s byLabel st = strataFor s byLabel st := by
  cases byLabel <;> rfl

theorem c11u_drawScalar_fst (r : Req) (st : RngState) :
    (drawScalar r st).1 = scalarAt st.responses 0 := by
  unfold drawScalar scalarAt; simp only [draw_fst]

theorem c11u_scalarAt_drop (l : List (List Nat)) (j i : Nat) :
    scalarAt (l.drop j) i = scalarAt l (j + i) := by
  unfold scalarAt; simp only [List.getD_eq_getElem?_getD, List.getElem?_drop]

theorem c11u_getD_drop (l : List (List Nat)) (j i : Nat) :
    (l.drop j).getD i [] = l.getD (j + i) [] := by
  simp only [List.getD_eq_getElem?_getD, List.getElem?_drop]

theorem c11u_forceOneM_none (k n : Nat) (c : List Nat) (h : countsUncorrected n c = true) :
    forceOneM stateRng k n c = pure c := by
  unfold forceOneM
  have : ¬ (n > 0 ∧ c.all (· == 0) = true) := by
    intro hh
    simp only [countsUncorrected, Bool.not_eq_true', Bool.and_eq_false_iff,
      decide_eq_false_iff_not] at h
    rcases h with h | h
    · exact h hh.1
    · rw [hh.2] at h; exact Bool.noConfusion h
  rw [if_neg this]

theorem c11u_singlePass_eq (s : Scores) (a : Strata) (st : RngState)
    (h1 : countsUncorrected a.hardPos (st.responses.getD 0 []) = true)
    (h2 : countsUncorrected a.hardNeg (st.responses.getD 1 []) = true) :
    singlePassPartM stateRng s a st = singlePassPartU stateRng s a st := by
  have e1 : (draw (singlePassReq s.pos.length a.hardPos) st).1 = st.responses.getD 0 [] :=
    draw_fst _ _
  have e2 : (draw (singlePassReq s.neg.length a.hardNeg)
      (draw (singlePassReq s.pos.length a.hardPos) st).2).1 = st.responses.getD 1 [] := by
    rw [draw_fst, draw_responses, c11u_getD_drop]
  rw [← e1] at h1
  rw [← e2] at h2
  -- expose the two `forceOneM` calls: they become `pure` by `h1`, `h2`
  show (do
    let f1 ← forceOneM stateRng s.pos.length a.hardPos
      (draw (singlePassReq s.pos.length a.hardPos) st).1
    let f2 ← forceOneM stateRng s.neg.length a.hardNeg (draw (singlePassReq s.neg.length a.hardNeg)
      (draw (singlePassReq s.pos.length a.hardPos) st).2).1
    (pure ⟨repeatIdx f1, repeatIdx f2, a.easyPos, a.easyNeg⟩ : StateM RngState Indices))
     (draw (singlePassReq s.neg.length a.hardNeg)
      (draw (singlePassReq s.pos.length a.hardPos) st).2).2 = _
  rw [c11u_forceOneM_none _ _ _ h1, c11u_forceOneM_none _ _ _ h2]
  rfl

theorem c11u_hardDrawn_none (n e k : Nat) (h : ¬ (n - e = 0 ∧ k > 0)) :
    hardDrawn n e k = n - e ∧ easyDrawn n e k = e := by
  simp only [hardDrawn, easyDrawn, h, if_false, and_self]

theorem c11u_strataUncorrected_iff (s : Scores) (b e1 e2 : Nat) :
    strataUncorrected s b e1 e2 = true ↔
      ¬ (b = 0 ∧ s.nbAllPos > 0) ∧ ¬ (s.nbAll - b = 0 ∧ s.nbAllNeg > 0) ∧
      ¬ (b - e1 = 0 ∧ s.pos.length > 0) ∧ ¬ ((s.nbAll - b) - e2 = 0 ∧ s.neg.length > 0) := by
  simp only [strataUncorrected, Bool.and_eq_true, Bool.not_eq_true', Bool.and_eq_false_iff,
    decide_eq_false_iff_not, not_and_or, and_assoc]

theorem c11u_drawStrataU_responses (s : Scores) (st : RngState) :
    (drawStrataU stateRng s st).2.responses = st.responses.drop 3 := by
  show (drawScalar _ (drawScalar _ (drawScalar _ st).2).2).2.responses = _
  simp only [drawScalar_snd, draw_responses, List.drop_drop]

theorem c11u_drawStrataU_fst (s : Scores) (st : RngState) :
    (drawStrataU stateRng s st).1 =
      ⟨scalarAt st.responses 0 - scalarAt st.responses 1,
       (s.nbAll - scalarAt st.responses 0) - scalarAt st.responses 2,
       scalarAt st.responses 1, scalarAt st.responses 2⟩ := by
  let d1 := drawScalar (.binomial s.nbAll s.posNegRatio none) st
  let d2 := drawScalar (.binomial d1.1 s.easyPosRatio none) d1.2
  let d3 := drawScalar (.binomial (s.nbAll - d1.1) s.easyNegRatio none) d2.2
  show (⟨d1.1 - d2.1, (s.nbAll - d1.1) - d3.1, d2.1, d3.1⟩ : Strata) = _
  simp only [d1, d2, d3, c11u_drawScalar_fst, drawScalar_snd, draw_responses, c11u_scalarAt_drop,
    List.drop_drop, Nat.reduceAdd, Nat.add_zero]

theorem c11u_drawStrata_eq (s : Scores) (st : RngState)
    (h : strataUncorrected s (scalarAt st.responses 0) (scalarAt st.responses 1)
      (scalarAt st.responses 2) = true) :
    drawStrataM stateRng s st = drawStrataU stateRng s st := by
  obtain ⟨h1, h2, h3, h4⟩ := (c11u_strataUncorrected_iff _ _ _ _).1 h
  show drawStrata s st = _
  refine Prod.ext ?_ ?_
  · rw [c11u_drawStrataU_fst]
    simp only [drawStrata, c11u_drawScalar_fst, drawScalar_snd, draw_responses, c11u_scalarAt_drop,
      List.drop_drop, Nat.reduceAdd, Nat.add_zero, classSizes_none s _ h1 h2,
      c11u_hardDrawn_none _ _ _ h3, c11u_hardDrawn_none _ _ _ h4]
  · show _ = (drawScalar (.binomial
        (s.nbAll - (drawScalar (.binomial s.nbAll s.posNegRatio none) st).1) s.easyNegRatio none)
      (drawScalar (.binomial (drawScalar (.binomial s.nbAll s.posNegRatio none) st).1
        s.easyPosRatio none) (drawScalar (.binomial s.nbAll s.posNegRatio none) st).2).2).2
    simp only [drawStrata, c11u_drawScalar_fst, classSizes_none s _ h1 h2]

theorem c11u_sampleIndicesM_run (s : Scores) (b sp : Bool) (st : RngState) :
    sampleIndicesM stateRng s b sp st =
      (if sp then singlePassPartM stateRng s (strataForM stateRng s b st).1
        else replacementPartM stateRng s (strataForM stateRng s b st).1)
        (strataForM stateRng s b st).2 := rfl

theorem c11u_sampleIndicesU_run (s : Scores) (b sp : Bool) (st : RngState) :
    sampleIndicesU stateRng s b sp st =
      (if sp then singlePassPartU stateRng s (strataForU stateRng s b st).1
        else replacementPartM stateRng s (strataForU stateRng s b st).1)
        (strataForU stateRng s b st).2 := rfl

theorem c11u_strataForM_true {M : Type → Type} [Monad M] (R : RngM M) (s : Scores) :
    strataForM R s true = strataForU R s true := rfl

theorem c11u_strataFor_eq (s : Scores) (b : Bool) (st : RngState)
    (h : (b || strataUncorrected s (scalarAt st.responses 0) (scalarAt st.responses 1)
      (scalarAt st.responses 2)) = true) :
    strataForM stateRng s b st = strataForU stateRng s b st ∧
    (strataForU stateRng s b st).1.hardPos =
      (if b then s.pos.length else scalarAt st.responses 0 - scalarAt st.responses 1) ∧
    (strataForU stateRng s b st).1.hardNeg =
      (if b then s.neg.length else (s.nbAll - scalarAt st.responses 0) - scalarAt st.responses 2) ∧
    (strataForU stateRng s b st).2.responses = st.responses.drop (if b then 0 else 3) := by
  cases b with
  | true => exact ⟨congrFun (c11u_strataForM_true stateRng s) st, rfl, rfl, rfl⟩
  | false =>
    have e : strataForU stateRng s false st = drawStrataU stateRng s st := rfl
    simp only [e, c11u_drawStrataU_fst, Bool.false_eq_true, if_false]
    exact ⟨c11u_drawStrata_eq s st h, trivial, trivial, c11u_drawStrataU_responses s st⟩

/-! ## expectations: consequences of the laws -/

variable {E : Oracle}

theorem Lawful.smul (L : Lawful E) (r : Req) (c : ℚ) (f : List Nat → ℚ) :
    E r (fun x => c * f x) = c * E r f := by
  have h := L.lin r f f c 0
  have e : (fun x => c * f x + 0 * f x) = (fun x => c * f x) := by funext x; ring
  rw [e] at h; rw [h]; ring

theorem Lawful.add (L : Lawful E) (r : Req) (f g : List Nat → ℚ) :
    E r (fun x => f x + g x) = E r f + E r g := by
  have h := L.lin r f g 1 1
  have e : (fun x => 1 * f x + 1 * g x) = (fun x => f x + g x) := by funext x; ring
  rw [e] at h; rw [h]; ring

theorem Lawful.zero (L : Lawful E) (r : Req) : E r (fun _ => 0) = 0 := by
  have h := L.smul r 0 (fun _ => 0)
  have e : (fun _ : List Nat => (0 : ℚ) * 0) = (fun _ => 0) := by funext x; ring
  rw [e] at h; rw [h]; ring

/-- affine integrands on the support: only the mean of `f` is needed -/
theorem Lawful.affine (L : Lawful E) (r : Req) (hr : r.feasible = true) (a c : ℚ)
    (f k : List Nat → ℚ) (hk : ∀ x, r.inRange x = true → k x = a * f x + c) :
    E r k = a * E r f + c := by
  rw [L.supp r k (fun x => a * f x + c * (fun _ => 1) x) (by intro x hx; rw [hk x hx]; ring),
    L.lin, L.norm r 1 hr]; ring

theorem Lawful.sum (L : Lawful E) (r : Req) (n : Nat) (f : Nat → List Nat → ℚ) :
    E r (fun x => ∑ i ∈ Finset.range n, f i x) = ∑ i ∈ Finset.range n, E r (f i) := by
  induction n with
  | zero => simpa using L.zero r
  | succ n ih =>
    simp only [Finset.sum_range_succ]
    rw [L.add r (fun x => ∑ i ∈ Finset.range n, f i x) (f n), ih]

theorem Lawful.binAffine (L : Lawful E) (n : Nat) (p : ℚ) (h0 : 0 ≤ p) (h1 : p ≤ 1) (a c : ℚ)
    (k : List Nat → ℚ)
    (hk : ∀ x, (Req.binomial n p none).inRange x = true → k x = a * ((x.headD 0 : Nat) : ℚ) + c) :
    E (.binomial n p none) k = a * ((n : ℚ) * p) + c := by
  rw [L.affine _ (c11p_binomial_feasible ⟨h0, h1⟩) a c _ k hk, L.binomial_scalar n p h0 h1]

/-- the stratum sizes that can come out of the (uncorrected or corrected) non-stratified branch
on answers in the support: they add up to the source's total, and a class without scored samples
in the source gets no scored sample.  This is `StrataFacts` without `posOne` / `negOne`, which the
uncorrected program does not guarantee. -/
def StrataSupp (s : Scores) (a : Strata) : Prop :=
  a.hardPos + a.easyPos + a.hardNeg + a.easyNeg = s.nbAll ∧
  (s.pos.length = 0 → a.hardPos = 0) ∧ (s.neg.length = 0 → a.hardNeg = 0)

theorem c11u_drawStrataU_ex (E : Oracle) (s : Scores) (k : Strata → ℚ) :
    drawStrataU (exRng E) s k =
      E (.binomial s.nbAll s.posNegRatio none) (fun x1 =>
        E (.binomial (x1.headD 0) s.easyPosRatio none) (fun x2 =>
          E (.binomial (s.nbAll - x1.headD 0) s.easyNegRatio none) (fun x3 =>
            k ⟨x1.headD 0 - x2.headD 0, (s.nbAll - x1.headD 0) - x3.headD 0,
              x2.headD 0, x3.headD 0⟩))) := rfl

/-- on the support of the three binomials the uncorrected strata are `StrataSupp` -/
theorem c11u_strataSupp_of_inRange (s : Scores) (x1 x2 x3 : List Nat)
    (h1 : (Req.binomial s.nbAll s.posNegRatio none).inRange x1 = true)
    (h2 : (Req.binomial (x1.headD 0) s.easyPosRatio none).inRange x2 = true)
    (h3 : (Req.binomial (s.nbAll - x1.headD 0) s.easyNegRatio none).inRange x3 = true) :
    x1.headD 0 ≤ s.nbAll ∧ x2.headD 0 ≤ x1.headD 0 ∧ x3.headD 0 ≤ s.nbAll - x1.headD 0 ∧
    StrataSupp s ⟨x1.headD 0 - x2.headD 0, (s.nbAll - x1.headD 0) - x3.headD 0,
      x2.headD 0, x3.headD 0⟩ := by
  obtain ⟨a1, a2, a3⟩ := classSplit_range h1
  obtain ⟨b1, -, b3⟩ := easyPos_range h2
  obtain ⟨c1, -, c3⟩ := easyNeg_range h3
  refine ⟨a1, b1, c1, ?_, fun hH => ?_, fun hK => ?_⟩
  · show x1.headD 0 - x2.headD 0 + x2.headD 0 + (s.nbAll - x1.headD 0 - x3.headD 0) + x3.headD 0 = _
    rw [Nat.sub_add_cancel b1, Nat.add_assoc, Nat.sub_add_cancel c1, Nat.add_sub_cancel' a1]
  · show x1.headD 0 - x2.headD 0 = 0
    rcases Nat.eq_zero_or_pos s.easyPos with he | he
    · rw [a2 (by rw [Scores.nbAllPos, he, hH])]; exact Nat.zero_sub _
    · rw [b3 hH he]; exact Nat.sub_self _
  · show s.nbAll - x1.headD 0 - x3.headD 0 = 0
    rcases Nat.eq_zero_or_pos s.easyNeg with he | he
    · have hn : s.nbAllNeg = 0 := by rw [Scores.nbAllNeg, he, hK]
      rcases Nat.eq_zero_or_pos s.nbAllPos with hp | hp
      · rw [nbAll_split, hp, hn, Nat.zero_sub]; exact Nat.zero_sub _
      · rw [a3 hn hp, Nat.sub_self]; exact Nat.zero_sub _
    · rw [c3 hK he]; exact Nat.sub_self _

/-- only the values on `StrataSupp` strata matter -/
theorem c11u_drawStrataU_congr (L : Lawful E) (s : Scores) (k k' : Strata → ℚ)
    (h : ∀ a, StrataSupp s a → k a = k' a) :
    drawStrataU (exRng E) s k = drawStrataU (exRng E) s k' := by
  rw [c11u_drawStrataU_ex, c11u_drawStrataU_ex]
  refine L.supp _ _ _ (fun x1 h1 => ?_)
  refine L.supp _ _ _ (fun x2 h2 => ?_)
  refine L.supp _ _ _ (fun x3 h3 => ?_)
  exact h _ (c11u_strataSupp_of_inRange s x1 x2 x3 h1 h2 h3).2.2.2

/-- the affine functionals of the strata: tower property through the three binomials -/
theorem c11u_drawStrataU_affine (L : Lawful E) (s : Scores) (k : Strata → ℚ) (α β γ δ c : ℚ)
    (hk : ∀ a, k a = α * (a.hardPos : ℚ) + β * (a.easyPos : ℚ) + γ * (a.hardNeg : ℚ) +
      δ * (a.easyNeg : ℚ) + c) :
    drawStrataU (exRng E) s k = α * (s.pos.length : ℚ) + β * (s.easyPos : ℚ) +
      γ * (s.neg.length : ℚ) + δ * (s.easyNeg : ℚ) + c := by
  rw [funext hk]
  obtain ⟨p0, p1⟩ := posNegRatio_bounds s
  obtain ⟨q0, q1⟩ := easyPosRatio_bounds s
  obtain ⟨r0, r1⟩ := easyNegRatio_bounds s
  obtain ⟨m1, m2, m3, -⟩ := C11_mean_identities s
  rw [c11u_drawStrataU_ex]
  -- innermost first: each integrand is affine in its own answer (`↑(x - e) = ↑x - ↑e` on the support)
  have st3 : ∀ b e1 : Nat, E (.binomial (s.nbAll - b) s.easyNegRatio none) (fun x3 =>
      α * (((b - e1 : Nat)) : ℚ) + β * (e1 : ℚ) + γ * (((s.nbAll - b) - x3.headD 0 : Nat) : ℚ) +
        δ * ((x3.headD 0 : Nat) : ℚ) + c) =
      (δ - γ) * (((s.nbAll - b : Nat) : ℚ) * s.easyNegRatio) +
        (α * (((b - e1 : Nat)) : ℚ) + β * (e1 : ℚ) + γ * ((s.nbAll - b : Nat) : ℚ) + c) := by
    intro b e1
    refine L.binAffine _ _ r0 r1 _ _ _ (fun x3 h3 => ?_)
    have := (binomial_none_range h3).1
    rw [Nat.cast_sub this]; ring
  have st2 : ∀ b : Nat, E (.binomial b s.easyPosRatio none) (fun x2 =>
      (δ - γ) * (((s.nbAll - b : Nat) : ℚ) * s.easyNegRatio) +
        (α * (((b - x2.headD 0 : Nat)) : ℚ) + β * ((x2.headD 0 : Nat) : ℚ) +
          γ * ((s.nbAll - b : Nat) : ℚ) + c)) =
      (β - α) * ((b : ℚ) * s.easyPosRatio) +
        ((δ - γ) * (((s.nbAll - b : Nat) : ℚ) * s.easyNegRatio) + α * (b : ℚ) +
          γ * ((s.nbAll - b : Nat) : ℚ) + c) := by
    intro b
    refine L.binAffine _ _ q0 q1 _ _ _ (fun x2 h2 => ?_)
    have := (binomial_none_range h2).1
    rw [Nat.cast_sub this]; ring
  simp only [st3, st2]
  -- outermost: affine in `b`; the coefficient collects `b·easyPosRatio`, `b` and the two `N - b`
  rw [L.binAffine _ _ p0 p1
    ((β - α) * s.easyPosRatio + α - (δ - γ) * s.easyNegRatio - γ)
    ((δ - γ) * ((s.nbAll : ℚ) * s.easyNegRatio) + γ * (s.nbAll : ℚ) + c) _ (fun x1 h1 => by
      have := (binomial_none_range h1).1
      rw [Nat.cast_sub this]; ring)]
  have hN : (s.nbAll : ℚ) = (s.nbAllPos : ℚ) + (s.nbAllNeg : ℚ) := by
    rw [nbAll_split]; push_cast; ring
  have hP : (s.nbAllPos : ℚ) = (s.easyPos : ℚ) + (s.pos.length : ℚ) := by
    unfold Scores.nbAllPos; push_cast; ring
  have hQ : (s.nbAllNeg : ℚ) = (s.easyNeg : ℚ) + (s.neg.length : ℚ) := by
    unfold Scores.nbAllNeg; push_cast; ring
  rw [m1]
  rw [hN]
  linear_combination (β - α) * m2 + (δ - γ) * m3 + α * hP + γ * hQ

/-! ### replacement: `choice(n, size=m, replace=True)` -/
theorem c11u_choice_length (L : Lawful E) (n m : Nat) (h : n = 0 → m = 0) (g : Nat → ℚ) :
    E (.choice n (some m) true) (fun d => g d.length) = g m := by
  rw [L.supp _ _ (fun _ => g m) (fun x hx => by rw [(choice_range hx).1]; rfl),
    L.norm _ _ (c11p_choice_feasible h)]

/-! ### single pass: `np.repeat(np.arange(n), counts)` -/
theorem c11u_count_repeatArange (a i : Nat) (cs : List Nat) :
    (repeatArange a cs).count (a + i) = cs.getD i 0 := by
  induction cs generalizing a i with
  | nil => rfl
  | cons c cs ih =>
    rw [repeatArange, List.count_append]
    cases i with
    | zero =>
      rw [Nat.add_zero, List.count_replicate_self, List.count_eq_zero_of_not_mem fun hm =>
        absurd (mem_repeatArange hm).1 (Nat.not_succ_le_self a)]
      rfl
    | succ i =>
      rw [List.count_eq_zero_of_not_mem fun hm => absurd (List.mem_replicate.mp hm).2 (by omega),
        Nat.zero_add, ← Nat.add_assoc, Nat.add_right_comm, ih]
      rfl

theorem c11u_count_repeatIdx (i : Nat) (cs : List Nat) : (repeatIdx cs).count i = cs.getD i 0 := by
  have := c11u_count_repeatArange 0 i cs
  rwa [Nat.zero_add] at this

theorem c11u_sum_getD (cs : List Nat) :
    ((cs.sum : Nat) : ℚ) = ∑ i ∈ Finset.range cs.length, ((cs.getD i 0 : Nat) : ℚ) := by
  induction cs with
  | nil => rw [List.sum_nil, List.length_nil, Finset.sum_range_zero, Nat.cast_zero]
  | cons c cs ih =>
    rw [List.length_cons, Finset.sum_range_succ', List.sum_cons, Nat.cast_add, ih, add_comm]
    simp only [List.getD_cons_succ, List.getD_cons_zero]

/-! ### the two parts of `_sample_indices` under expectations -/
theorem c11u_singlePassPartU_ex (E : Oracle) (s : Scores) (a : Strata) (k : Indices → ℚ) :
    singlePassPartU (exRng E) s a k =
      E (singlePassReq s.pos.length a.hardPos) (fun c1 =>
        E (singlePassReq s.neg.length a.hardNeg) (fun c2 =>
          k ⟨repeatIdx c1, repeatIdx c2, a.easyPos, a.easyNeg⟩)) := rfl

/-- the part of the program after the strata are fixed -/
def partU (E : Oracle) (s : Scores) (singlePass : Bool) (a : Strata) : Ex Indices :=
  if singlePass then singlePassPartU (exRng E) s a else replacementPartM (exRng E) s a

theorem c11u_sampleIndicesU_ex (E : Oracle) (s : Scores) (byLabel singlePass : Bool)
    (k : Indices → ℚ) :
    sampleIndicesU (exRng E) s byLabel singlePass k =
      strataForU (exRng E) s byLabel (fun a => partU E s singlePass a k) := by
  cases singlePass <;> rfl

theorem c11u_strataForU_true (E : Oracle) (s : Scores) (k : Strata → ℚ) :
    strataForU (exRng E) s true k = k ⟨s.pos.length, s.neg.length, s.easyPos, s.easyNeg⟩ := rfl

theorem c11u_strataForU_false (E : Oracle) (s : Scores) (k : Strata → ℚ) :
    strataForU (exRng E) s false k = drawStrataU (exRng E) s k := rfl

theorem c11u_strataSupp_source (s : Scores) :
    StrataSupp s ⟨s.pos.length, s.neg.length, s.easyPos, s.easyNeg⟩ := by
  refine ⟨?_, fun h => h, fun h => h⟩
  show s.pos.length + s.easyPos + s.neg.length + s.easyNeg = s.nbAll
  simp only [Scores.nbAll, Scores.nbEasy, Scores.nbHard]; omega

/-- **Tower property.**  If, for all stratum sizes that can occur, the expectation of `k` given
the strata is affine in the four stratum sizes, then the overall expectation is the same affine
function of the SOURCE's stratum sizes — stratified or not, single-pass or not. -/
theorem c11u_sampleIndicesU_affine (L : Lawful E) (s : Scores) (byLabel singlePass : Bool)
    (k : Indices → ℚ) (α β γ δ c : ℚ)
    (h : ∀ a, StrataSupp s a → partU E s singlePass a k =
      α * (a.hardPos : ℚ) + β * (a.easyPos : ℚ) + γ * (a.hardNeg : ℚ) + δ * (a.easyNeg : ℚ) + c) :
    sampleIndicesU (exRng E) s byLabel singlePass k =
      α * (s.pos.length : ℚ) + β * (s.easyPos : ℚ) + γ * (s.neg.length : ℚ) +
        δ * (s.easyNeg : ℚ) + c := by
  rw [c11u_sampleIndicesU_ex]
  cases byLabel
  · rw [c11u_strataForU_false, c11u_drawStrataU_congr L s _ _ h]
    exact c11u_drawStrataU_affine L s _ α β γ δ c fun _ => rfl
  · rw [c11u_strataForU_true, h _ (c11u_strataSupp_source s)]

/-! ### means of one request -/

/-- single pass, one multiplicity: `Bin(m, 1/n)` for `m < 100`, `Poisson(m/n)` otherwise -/
theorem c11u_singlePass_component (L : Lawful E) (n m i : Nat) (hi : i < n) :
    E (singlePassReq n m) (fun c => ((c.getD i 0 : Nat) : ℚ)) = (m : ℚ) / (n : ℚ) := by
  have hn : 0 < n := Nat.lt_of_le_of_lt (Nat.zero_le i) hi
  have hn0 : (0 : ℚ) < (n : ℚ) := Nat.cast_pos.mpr hn
  have hp0 : (0 : ℚ) ≤ 1 / (n : ℚ) := one_div_nonneg.mpr hn0.le
  rw [singlePassReq_pos hn]
  split
  · rw [L.binomial_vec m _ n i hp0 ((div_le_one hn0).mpr (by exact_mod_cast hn)) hi, mul_one_div]
  · rw [L.poisson_vec _ n i (mul_nonneg (Nat.cast_nonneg m) hp0) hi, mul_one_div]

theorem c11u_singlePass_count (L : Lawful E) (n m i : Nat) (hi : i < n) :
    E (singlePassReq n m) (fun c => (((repeatIdx c).count i : Nat) : ℚ)) = (m : ℚ) / (n : ℚ) := by
  simp only [c11u_count_repeatIdx]
  exact c11u_singlePass_component L n m i hi

theorem c11u_singlePass_length (L : Lawful E) (n m : Nat) (h : n = 0 → m = 0) :
    E (singlePassReq n m) (fun c => (((repeatIdx c).length : Nat) : ℚ)) = (m : ℚ) := by
  rw [L.supp _ _ (fun c => ∑ i ∈ Finset.range n, ((c.getD i 0 : Nat) : ℚ)) (fun x hx => by
    show (((repeatArange 0 x).length : Nat) : ℚ) = _
    rw [length_repeatArange, c11u_sum_getD, singlePassReq_length hx])]
  rw [L.sum, Finset.sum_congr rfl (fun i hi =>
    c11u_singlePass_component L n m i (Finset.mem_range.mp hi))]
  rw [Finset.sum_const, Finset.card_range, nsmul_eq_mul]
  by_cases hn : n = 0
  · rw [h hn, hn, Nat.cast_zero, zero_mul]
  · exact mul_div_cancel₀ _ (Nat.cast_ne_zero.mpr hn)

/-! ### one class: `k` scored samples of which `n` are drawn, by one request in either mode -/
def classReq (sp : Bool) (k n : Nat) : Req :=
  bif sp then singlePassReq k n else .choice k (some n) true

def classIdx (sp : Bool) (x : List Nat) : List Nat := bif sp then repeatIdx x else x

theorem c11u_partU_ex (E : Oracle) (s : Scores) (sp : Bool) (a : Strata) (k : Indices → ℚ) :
    partU E s sp a k =
      E (classReq sp s.pos.length a.hardPos) (fun x1 =>
        E (classReq sp s.neg.length a.hardNeg) (fun x2 =>
          k ⟨classIdx sp x1, classIdx sp x2, a.easyPos, a.easyNeg⟩)) := by
  cases sp <;> rfl

theorem c11u_classReq_feasible (sp : Bool) {k n : Nat} (h : k = 0 → n = 0) :
    (classReq sp k n).feasible = true := by
  cases sp
  · exact c11p_choice_feasible h
  · exact c11p_singlePassReq_feasible _ _

theorem c11u_classReq_count (L : Lawful E) (sp : Bool) (k n i : Nat) (hi : i < k) :
    E (classReq sp k n) (fun x => (((classIdx sp x).count i : Nat) : ℚ)) = (n : ℚ) / (k : ℚ) := by
  cases sp
  · exact L.choice_count _ _ _ hi
  · exact c11u_singlePass_count L _ _ _ hi

theorem c11u_classReq_length (L : Lawful E) (sp : Bool) (k n : Nat) (h : k = 0 → n = 0) :
    E (classReq sp k n) (fun x => (((classIdx sp x).length : Nat) : ℚ)) = (n : ℚ) := by
  cases sp
  · exact c11u_choice_length L _ _ h (fun n => (n : ℚ))
  · exact c11u_singlePass_length L _ _ h

end SA.C11U

/-
Non-vacuity of `SA.C11U.Lawful`: the concrete oracle `simpleOracle` (finite mixtures, see
SA/Model/SamplingM.lean) satisfies every law, vector cases included.
-/
import SA.Proofs.SamplingM
import Mathlib.Data.Rat.Floor
import Mathlib.Tactic.Linarith

namespace SA.C11U
open SA

/-! ### weighted sums -/

theorem c11u_mixSum_nil (f : List Nat → ℚ) : mixSum [] f = 0 := rfl

theorem c11u_mixSum_cons (w : ℚ) (x : List Nat) (m : List (ℚ × List Nat)) (f : List Nat → ℚ) :
    mixSum ((w, x) :: m) f = w * f x + mixSum m f := by
  simp [mixSum]

theorem c11u_mixSum_lin (m : List (ℚ × List Nat)) (f g : List Nat → ℚ) (a b : ℚ) :
    mixSum m (fun x => a * f x + b * g x) = a * mixSum m f + b * mixSum m g := by
  induction m with
  | nil => simp [c11u_mixSum_nil]
  | cons wx m ih =>
    obtain ⟨w, x⟩ := wx
    rw [c11u_mixSum_cons, c11u_mixSum_cons, c11u_mixSum_cons, ih]; ring

theorem c11u_mixSum_congr (m : List (ℚ × List Nat)) (f g : List Nat → ℚ)
    (h : ∀ wx ∈ m, wx.1 = 0 ∨ f wx.2 = g wx.2) : mixSum m f = mixSum m g := by
  induction m with
  | nil => rfl
  | cons wx m ih =>
    obtain ⟨w, x⟩ := wx
    rw [c11u_mixSum_cons, c11u_mixSum_cons, ih (fun y hy => h y (List.mem_cons_of_mem _ hy))]
    rcases h (w, x) List.mem_cons_self with h0 | h0
    · simp only at h0; rw [h0]; ring
    · simp only at h0; rw [h0]

theorem c11u_mixSum_const (m : List (ℚ × List Nat)) (c : ℚ) :
    mixSum m (fun _ => c) = c * (m.map (·.1)).sum := by
  induction m with
  | nil => simp [c11u_mixSum_nil]
  | cons wx m ih =>
    obtain ⟨w, x⟩ := wx
    rw [c11u_mixSum_cons, ih]; simp; ring

/-! ### the two-point mixture -/

theorem c11u_floor_toNat (m : ℚ) (hm : 0 ≤ m) :
    ((m.floor.toNat : Nat) : ℚ) ≤ m ∧ m < ((m.floor.toNat : Nat) : ℚ) + 1 := by
  have h0 : 0 ≤ ⌊m⌋ := Int.floor_nonneg.mpr hm
  have e : m.floor = ⌊m⌋ := rfl
  have hc : ((m.floor.toNat : Nat) : ℚ) = ((⌊m⌋ : ℤ) : ℚ) := by
    rw [e]
    have : ((⌊m⌋.toNat : Nat) : ℤ) = ⌊m⌋ := Int.toNat_of_nonneg h0
    exact_mod_cast this
  rw [hc]
  exact ⟨Int.floor_le m, Int.lt_floor_add_one m⟩

theorem c11u_twoPoint_weights (m : ℚ) (len : Nat) : ((twoPoint m len).map (·.1)).sum = 1 := by
  simp [twoPoint]

theorem c11u_twoPoint_mean (m : ℚ) (len : Nat) (f : List Nat → ℚ)
    (hv : ∀ a : Nat, f (List.replicate len a) = (a : ℚ)) :
    mixSum (twoPoint m len) f = m := by
  simp only [twoPoint, c11u_mixSum_cons, c11u_mixSum_nil, hv]
  push_cast; ring

/-- the points of a two-point mixture that carry weight: `⌊m⌋`, and `⌊m⌋ + 1` when `⌊m⌋ < m` -/
theorem c11u_twoPoint_supp (m : ℚ) (hm : 0 ≤ m) (len : Nat) (P : Nat → Prop)
    (hlo : P m.floor.toNat) (hhi : ((m.floor.toNat : Nat) : ℚ) < m → P (m.floor.toNat + 1))
    (wx : ℚ × List Nat) (h : wx ∈ twoPoint m len) :
    wx.1 = 0 ∨ ∃ v, P v ∧ wx.2 = List.replicate len v := by
  simp only [twoPoint, List.mem_cons, List.not_mem_nil, or_false] at h
  rcases h with rfl | rfl
  · exact Or.inr ⟨_, hlo, rfl⟩
  · by_cases h0 : m - ((m.floor.toNat : Nat) : ℚ) = 0
    · exact Or.inl h0
    · refine Or.inr ⟨_, hhi ?_, rfl⟩
      have := (c11u_floor_toNat m hm).1
      exact lt_of_le_of_ne this (fun e => h0 (by rw [e]; ring))

theorem c11u_inRange_replicate_binomial (n : Nat) (p : ℚ) (size : Option Nat) (v : Nat)
    (h : binomialInSupport n p v = true) :
    (Req.binomial n p size).inRange (List.replicate (sizeLen size) v) = true := by
  simp only [Req.inRange, List.length_replicate, beq_self_eq_true, Bool.true_and,
    List.all_eq_true]
  intro x hx
  rw [List.eq_of_mem_replicate hx]; exact h

theorem c11u_inRange_replicate_poisson (lam : ℚ) (size : Option Nat) (v : Nat)
    (h : 0 < lam ∨ v = 0) :
    (Req.poisson lam size).inRange (List.replicate (sizeLen size) v) = true := by
  simp only [Req.inRange, List.length_replicate, beq_self_eq_true, Bool.true_and,
    List.all_eq_true]
  intro x hx
  rw [List.eq_of_mem_replicate hx]
  simpa using h

/-- binomial: both points of the two-point mixture around `n p` lie in the support -/
theorem c11u_binomial_points (n : Nat) (p : ℚ) (h0 : 0 ≤ p) (h1 : p ≤ 1) :
    binomialInSupport n p ((n : ℚ) * p).floor.toNat = true ∧
    (((((n : ℚ) * p).floor.toNat : Nat) : ℚ) < (n : ℚ) * p →
      binomialInSupport n p (((n : ℚ) * p).floor.toNat + 1) = true) := by
  obtain ⟨f1, f2⟩ := c11u_floor_toNat _ (mul_nonneg (Nat.cast_nonneg n) h0)
  generalize ((n : ℚ) * p).floor.toNat = lo at f1 f2 ⊢
  simp only [binomialInSupport, Bool.and_eq_true, Bool.or_eq_true, decide_eq_true_eq, beq_iff_eq]
  rcases h0.eq_or_lt with rfl | hp0
  · -- `p = 0`: the only point is `0`
    rw [mul_zero] at f1 ⊢
    have : lo = 0 := Nat.le_zero.mp (by exact_mod_cast f1)
    subst this
    exact ⟨⟨⟨Nat.zero_le n, Or.inr rfl⟩, Or.inl one_pos⟩, fun h => absurd h (by simp)⟩
  rcases h1.eq_or_lt with rfl | hp1
  · -- `p = 1`: the only point is `n`
    rw [mul_one] at f1 f2 ⊢
    have : lo = n := le_antisymm (by exact_mod_cast f1) (Nat.lt_succ_iff.mp (by exact_mod_cast f2))
    subst this
    exact ⟨⟨⟨le_refl _, Or.inl one_pos⟩, Or.inr rfl⟩, fun h => absurd h (lt_irrefl _)⟩
  · have hmn : (n : ℚ) * p ≤ n := mul_le_of_le_one_right (Nat.cast_nonneg n) h1
    exact ⟨⟨⟨by exact_mod_cast f1.trans hmn, Or.inl hp0⟩, Or.inl hp1⟩,
      fun hlt => ⟨⟨by exact_mod_cast hlt.trans_le hmn, Or.inl hp0⟩, Or.inl hp1⟩⟩

/-! ### `choice` -/

theorem c11u_inRange_replicate_choice (n : Nat) (size : Option Nat) (j : Nat) (hj : j < n) :
    (Req.choice n size true).inRange (List.replicate (sizeLen size) j) = true := by
  simp only [Req.inRange, List.length_replicate, beq_self_eq_true, Bool.true_and, Bool.true_or,
    Bool.and_true, List.all_eq_true, decide_eq_true_eq]
  intro x hx
  rw [List.eq_of_mem_replicate hx]; exact hj

theorem c11u_inRange_range_choice (n : Nat) (size : Option Nat) (b : Bool) (h : sizeLen size ≤ n) :
    (Req.choice n size b).inRange (List.range (sizeLen size)) = true := by
  simp only [Req.inRange, List.length_range, beq_self_eq_true, Bool.true_and, Bool.and_eq_true,
    List.all_eq_true, decide_eq_true_eq, List.mem_range, Bool.or_eq_true]
  exact ⟨fun x hx => by omega, Or.inr List.nodup_range⟩

theorem c11u_uniform_total (n len : Nat) (hn : 0 < n) :
    (((List.range n).map (fun j => ((1 : ℚ) / (n : ℚ), List.replicate len j))).map (·.1)).sum
      = 1 := by
  have h0 : (n : ℚ) ≠ 0 := by exact_mod_cast (by omega : n ≠ 0)
  simp only [List.map_map, Function.comp_def, List.map_const', List.length_range,
    List.sum_replicate, nsmul_eq_mul]
  field_simp

/-- in the uniform mixture of constant sequences of length `k`, `j < n` occurs `k / n` times -/
theorem c11u_uniform_count (n k j : Nat) (hj : j < n) :
    mixSum ((List.range n).map (fun j' => ((1 : ℚ) / (n : ℚ), List.replicate k j')))
      (fun x => ((x.count j : Nat) : ℚ)) = (k : ℚ) / (n : ℚ) := by
  simp only [mixSum, List.map_map, Function.comp_def, List.count_replicate]
  have e : (fun j' : Nat => (1 : ℚ) / (n : ℚ) * (((if (j' == j) = true then k else 0 : Nat)) : ℚ))
      = (fun j' => if j' = j then (k : ℚ) / (n : ℚ) else 0) := by
    funext j'
    by_cases h : j' = j
    · rw [if_pos h, if_pos (beq_iff_eq.mpr h), one_div_mul_eq_div]
    · rw [if_neg h, if_neg (mt beq_iff_eq.mp h), Nat.cast_zero, mul_zero]
  rw [e, List.sum_map_ite_eq, List.count_eq_one_of_mem List.nodup_range (List.mem_range.mpr hj)]
  simp only [sub_zero, List.map_const', List.sum_replicate, smul_zero, add_zero, one_smul]

/-! ### the concrete oracle is lawful -/

/-- `choice` from an array is `choice` from `range(len(array))` -/
theorem c11u_simpleMix_choiceFrom (n : Nat) (size : Option Nat) (b : Bool) :
    simpleMix (.choiceFrom n size b) = simpleMix (.choice n size b) := by cases b <;> rfl

theorem c11u_simpleMix_supp_choice (n : Nat) (size : Option Nat) (repl : Bool)
    (wx : ℚ × List Nat) (h : wx ∈ simpleMix (.choice n size repl)) :
    wx.1 = 0 ∨ (Req.choice n size repl).inRange wx.2 = true := by
  cases repl
  · by_cases hs : sizeLen size ≤ n
    · simp only [simpleMix, hs, if_true, List.mem_singleton] at h
      right; rw [h]; exact c11u_inRange_range_choice n size false hs
    · simp only [simpleMix, hs, if_false, List.not_mem_nil] at h
  · by_cases hs : sizeLen size = 0
    · simp only [simpleMix, hs, if_true, List.mem_singleton] at h
      right; rw [h]
      simp [Req.inRange, hs]
    · simp only [simpleMix, hs, if_false, List.mem_map, List.mem_range] at h
      obtain ⟨j, hj, rfl⟩ := h
      right; exact c11u_inRange_replicate_choice n size j hj

theorem c11u_simpleMix_supp (r : Req) (wx : ℚ × List Nat) (h : wx ∈ simpleMix r) :
    wx.1 = 0 ∨ r.inRange wx.2 = true := by
  cases r with
  | binomial n p size =>
    by_cases hp : 0 ≤ p ∧ p ≤ 1
    · simp only [simpleMix, hp, and_self, if_true] at h
      obtain ⟨b1, b2⟩ := c11u_binomial_points n p hp.1 hp.2
      rcases c11u_twoPoint_supp _ (mul_nonneg (by exact_mod_cast Nat.zero_le n) hp.1) _
        (fun v => binomialInSupport n p v = true) b1 b2 wx h with h0 | ⟨v, hv, e⟩
      · exact Or.inl h0
      · right; rw [e]; exact c11u_inRange_replicate_binomial n p size v hv
    · simp only [simpleMix, hp, if_false, List.not_mem_nil] at h
  | poisson lam size =>
    by_cases hl : 0 ≤ lam
    · simp only [simpleMix, hl, if_true] at h
      obtain ⟨f1, f2⟩ := c11u_floor_toNat lam hl
      have hlo : 0 < lam ∨ lam.floor.toNat = 0 := by
        rcases hl.eq_or_lt with rfl | h0
        · exact Or.inr (Nat.le_zero.mp (by exact_mod_cast f1))
        · exact Or.inl h0
      rcases c11u_twoPoint_supp lam hl _ (fun v => 0 < lam ∨ v = 0) hlo
        (fun hlt => Or.inl (lt_of_le_of_lt (by exact_mod_cast Nat.zero_le _) hlt))
        wx h with h0 | ⟨v, hv, e⟩
      · exact Or.inl h0
      · right; rw [e]; exact c11u_inRange_replicate_poisson lam size v hv
    · simp only [simpleMix, hl, if_false, List.not_mem_nil] at h
  | choice n size repl => exact c11u_simpleMix_supp_choice n size repl wx h
  | choiceFrom n size repl =>
    rw [c11u_simpleMix_choiceFrom] at h
    exact c11u_simpleMix_supp_choice n size repl wx h
  | normal k => right; rfl

theorem c11u_simpleMix_total_choice (n : Nat) (size : Option Nat) (repl : Bool)
    (hf : (Req.choice n size repl).feasible = true) :
    ((simpleMix (.choice n size repl)).map (·.1)).sum = 1 := by
  simp only [Req.feasible, Bool.and_eq_true, Bool.or_eq_true, decide_eq_true_eq,
    beq_iff_eq] at hf
  cases repl
  · have hs : sizeLen size ≤ n := by simpa using hf.2
    simp [simpleMix, hs]
  · by_cases hs : sizeLen size = 0
    · simp [simpleMix, hs]
    · simp only [simpleMix, hs, if_false]
      exact c11u_uniform_total n _ (hf.1.resolve_right hs)

theorem c11u_simpleMix_total (r : Req) (hf : r.feasible = true) :
    ((simpleMix r).map (·.1)).sum = 1 := by
  cases r with
  | binomial n p size =>
    simp only [Req.feasible, Bool.and_eq_true, decide_eq_true_eq] at hf
    simp only [simpleMix, hf, and_self, if_true]
    exact c11u_twoPoint_weights _ _
  | poisson lam size =>
    simp only [Req.feasible, decide_eq_true_eq] at hf
    simp only [simpleMix, hf, if_true]
    exact c11u_twoPoint_weights _ _
  | choice n size repl => exact c11u_simpleMix_total_choice n size repl hf
  | choiceFrom n size repl =>
    rw [c11u_simpleMix_choiceFrom]
    exact c11u_simpleMix_total_choice n size repl hf
  | normal k => simp [simpleMix]

/-- **Non-vacuity of the laws**: the concrete mixture oracle satisfies all of `Lawful`
(scalar and vector binomial, Poisson, and `choice` with replacement included). -/
theorem c11u_simpleOracle_lawful : Lawful simpleOracle where
  lin r f g a b := c11u_mixSum_lin _ f g a b
  norm r c hf := by
    show mixSum (simpleMix r) (fun _ => c) = c
    rw [c11u_mixSum_const, c11u_simpleMix_total r hf, mul_one]
  supp r f g h := by
    refine c11u_mixSum_congr _ f g (fun wx hwx => ?_)
    rcases c11u_simpleMix_supp r wx hwx with h0 | h0
    · exact Or.inl h0
    · exact Or.inr (h _ h0)
  binomial_scalar n p h0 h1 := by
    simp only [simpleOracle, ofMix, simpleMix, h0, h1, and_self, if_true]
    exact c11u_twoPoint_mean _ _ _ (fun a => by simp [sizeLen])
  binomial_vec n p size i h0 h1 hi := by
    simp only [simpleOracle, ofMix, simpleMix, h0, h1, and_self, if_true]
    exact c11u_twoPoint_mean _ _ _ (fun a => by simp [sizeLen, hi])
  poisson_vec lam size i h0 hi := by
    simp only [simpleOracle, ofMix, simpleMix, h0, if_true]
    exact c11u_twoPoint_mean _ _ _ (fun a => by simp [sizeLen, hi])
  choice_count n k j hj := by
    by_cases hk : k = 0
    · subst hk; simp [simpleOracle, ofMix, simpleMix, sizeLen, mixSum]
    · simp only [simpleOracle, ofMix, simpleMix, sizeLen, hk, if_false]
      exact c11u_uniform_count n k j hj

end SA.C11U

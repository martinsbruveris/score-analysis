/-
Helper lemmas for `showbias` on the scripted RNG (SA/Model/ShowbiasScript.lean): the `score_object`
built from the rows has the group list and matrices of the table model SA/Model/Showbias.lean;
`GroupScores.bootstrap_sample` from ANY state of a script and the loop of `bootstrap_metric`
(`gDrawMapped`); `_apply_normalization` cell by cell; NaN limits, and NaN metrics (a matrix cell that
is empty in the data is empty in every sample of it, `CM.Dominated`).
-/
import SA.Model.ShowbiasScript
import SA.Theorems.C12Ties
import SA.Theorems.C18
import SA.Proofs.RocCIScript

namespace SA

/-! ### the `score_object` built from the rows -/

theorem c18s_row_key_mem (rows : List SbRow) (r : SbRow) (hr : r ∈ rows) :
    r.key ∈ groupKeys rows := ((C18_rows rows).1 r.key).mpr ⟨r, hr, rfl⟩

/-- the group id of a key is its position among the row labels -/
theorem c18s_code_eq_iff (rows : List SbRow) (k : List Nat) (i : Nat)
    (hi : i < (groupKeys rows).length) (hk : k ∈ groupKeys rows) :
    sbKeyCode rows k = i ↔ k = (groupKeys rows)[i] := by
  obtain ⟨hlt, e⟩ := groupKeys_findIdx rows k hk
  constructor
  · rintro rfl; exact e.symm
  · rintro rfl; exact ((C18_rows rows).2.2.1.getElem_inj_iff).mp e

/-- the labelled positives / negatives handed to the constructor -/
def sbPosPairs (rows : List SbRow) : List (Rat × Nat) :=
  ((sbSamples rows).filter (fun s => s.1)).map (·.2)
def sbNegPairs (rows : List SbRow) : List (Rat × Nat) :=
  ((sbSamples rows).filter (fun s => !s.1)).map (·.2)

theorem sbObject_eq (cfg : Cfg) (rows : List SbRow) :
    sbObject cfg rows = GScores.make (sbPosPairs rows) (sbNegPairs rows) cfg none false := rfl

theorem sbObject_inv (cfg : Cfg) (rows : List SbRow) : GInv (sbObject cfg rows) :=
  (C12_from_labels (sbSamples rows) cfg).2.2

theorem sbObject_cfg (cfg : Cfg) (rows : List SbRow) : (sbObject cfg rows).cfg = cfg :=
  c12_make_cfg _ _ _ _ _

theorem sbObject_perm (cfg : Cfg) (rows : List SbRow) :
    (sbObject cfg rows).pos.Perm (sbPosPairs rows) ∧ (sbObject cfg rows).neg.Perm (sbNegPairs rows) :=
  c12_make_perm _ _ _ _ _

theorem c18s_codes_sorted_id (l : List Nat) (h : l.Pairwise (· < ·)) : c12_codes l = l := by
  induction l with
  | nil => rfl
  | cons a t ih =>
    rw [List.pairwise_cons] at h
    have : c12_codes (a :: t) = c12_insertU a (c12_codes t) := rfl
    rw [this, ih h.2]
    cases t with
    | nil => rfl
    | cons b t' =>
      have hab : a < b := h.1 b List.mem_cons_self
      simp only [c12_insertU, hab, if_true]

theorem c18s_label_mem (rows : List SbRow) (c : Nat) :
    c ∈ ((sbPosPairs rows ++ sbNegPairs rows).map (·.2)) ↔ ∃ r ∈ rows, sbKeyCode rows r.key = c := by
  simp only [sbPosPairs, sbNegPairs, sbSamples, List.map_append, List.map_map, List.mem_append,
    List.mem_map, List.mem_filter, Function.comp_def]
  constructor
  · rintro (⟨s, ⟨⟨r, hr, rfl⟩, _⟩, rfl⟩ | ⟨s, ⟨⟨r, hr, rfl⟩, _⟩, rfl⟩) <;>
      exact ⟨r, hr, rfl⟩
  · rintro ⟨r, hr, rfl⟩
    by_cases hp : r.isPos = true
    · exact Or.inl ⟨_, ⟨⟨r, hr, rfl⟩, hp⟩, rfl⟩
    · exact Or.inr ⟨_, ⟨⟨r, hr, rfl⟩, by simpa using hp⟩, rfl⟩

/-- **the group list**: the ids `0 .. G-1`, i.e. `groups[i]` stands for the `i`-th row label -/
theorem sbObject_groups (cfg : Cfg) (rows : List SbRow) :
    (sbObject cfg rows).groups = List.range (groupKeys rows).length := by
  rw [sbObject_eq, c12_make_groups_none]
  unfold c12_defaultGroups
  rw [← c18s_codes_sorted_id (List.range _) List.pairwise_lt_range]
  apply c12_codes_ext
  intro c
  rw [c18s_label_mem, List.mem_range]
  constructor
  · rintro ⟨r, hr, rfl⟩
    exact (groupKeys_findIdx rows r.key (c18s_row_key_mem rows r hr)).1
  · intro hc
    have hk : (groupKeys rows)[c] ∈ groupKeys rows := List.getElem_mem _
    obtain ⟨r, hr, hkey⟩ := ((C18_rows rows).1 _).mp hk
    exact ⟨r, hr, by rw [hkey]; exact (c18s_code_eq_iff rows _ c hc hk).mpr rfl⟩

theorem c18s_countCM_perm {p p' n n' : List Rat} (hp : p.Perm p') (hn : n.Perm n') (a b : Nat)
    (cfg : Cfg) (t : ERat) : countCM p n a b cfg t = countCM p' n' a b cfg t := by
  unfold countCM
  rw [hp.countP_eq, hp.countP_eq, hn.countP_eq, hn.countP_eq]

theorem c18s_filterGroup_pairs (rows : List SbRow) (i : Nat) (hi : i < (groupKeys rows).length) :
    c12_filterGroup (sbPosPairs rows) i = sbPos (groupRows rows (groupKeys rows)[i]) ∧
    c12_filterGroup (sbNegPairs rows) i = sbNeg (groupRows rows (groupKeys rows)[i]) := by
  have h : ∀ r ∈ rows, (sbKeyCode rows r.key == i) = (r.key == (groupKeys rows)[i]) := fun r hr => by
    rw [Bool.eq_iff_iff, beq_iff_eq, beq_iff_eq]
    exact c18s_code_eq_iff rows r.key i hi (c18s_row_key_mem rows r hr)
  unfold c12_filterGroup sbPosPairs sbNegPairs sbSamples sbPos sbNeg groupRows
  simp only [List.filter_map, List.map_map, List.filter_filter, Function.comp_def]
  constructor
  · congr 1
    apply List.filter_congr
    intro r hr
    rw [h r hr, Bool.and_comm]
  · congr 1
    apply List.filter_congr
    intro r hr
    rw [h r hr, Bool.and_comm]

/-- **a group matrix of the object** is the matrix counted from the rows with that key -/
theorem sbObject_groupCM (cfg : Cfg) (rows : List SbRow) (i : Nat)
    (hi : i < (groupKeys rows).length) (t : ERat) :
    ((sbObject cfg rows).groupScores i).cm t = groupCM cfg rows (groupKeys rows)[i] t := by
  have hinv := sbObject_inv cfg rows
  obtain ⟨pp, pn⟩ := sbObject_perm cfg rows
  obtain ⟨fp, fn⟩ := c18s_filterGroup_pairs rows i hi
  rw [cm_eq_countCM_of_sorted _ (c12_groupScores_sorted hinv i).1 (c12_groupScores_sorted hinv i).2]
  show countCM (c12_filterGroup _ i) (c12_filterGroup _ i) 0 0 (sbObject cfg rows).cfg t = _
  rw [sbObject_cfg]
  unfold groupCM rowsCM
  rw [← fp, ← fn]
  exact c18s_countCM_perm ((pp.filter _).map _) ((pn.filter _).map _) 0 0 cfg t

theorem c18s_pairs_fst (rows : List SbRow) :
    (sbPosPairs rows).map (·.1) = sbPos rows ∧ (sbNegPairs rows).map (·.1) = sbNeg rows := by
  unfold sbPosPairs sbNegPairs sbSamples sbPos sbNeg
  constructor
  · rw [List.filter_map, List.map_map, List.map_map]; rfl
  · rw [List.filter_map, List.map_map, List.map_map]; rfl

/-- **the overall matrix of the object** is the matrix counted from all rows -/
theorem sbObject_overallCM (cfg : Cfg) (rows : List SbRow) (t : ERat) :
    (sbObject cfg rows).overallCm t = rowsCM cfg rows t := by
  obtain ⟨pp, pn⟩ := sbObject_perm cfg rows
  obtain ⟨e1, e2⟩ := c18s_pairs_fst rows
  rw [C12_overall_cm _ (sbObject_inv cfg rows), sbObject_cfg]
  unfold rowsCM
  rw [← e1, ← e2]
  exact c18s_countCM_perm (pp.map _) (pn.map _) 0 0 cfg t

/-! ### admissible objects and the point estimate -/

/-- `g` is an admissible `score_object` for the rows: an admissible joint order of the object the
model builds (same pairs per class, sorted by score, same flags and group list) -/
def SbObjectOf (cfg : Cfg) (rows : List SbRow) (g : GScores) : Prop :=
  c12_TieEq (sbObject cfg rows) g

theorem SbObjectOf.self (cfg : Cfg) (rows : List SbRow) : SbObjectOf cfg rows (sbObject cfg rows) :=
  c12_TieEq.refl (sbObject_inv cfg rows)

theorem SbObjectOf.groups_eq {cfg : Cfg} {rows : List SbRow} {g : GScores}
    (h : SbObjectOf cfg rows g) : g.groups = List.range (groupKeys rows).length := by
  rw [c12_TieEq.groups h, sbObject_groups]

/-- **the point estimate**: the (G, T) array of group metrics is the un-normalised table -/
theorem c18s_groupMetric_eq {cfg : Cfg} {rows : List SbRow} {g : GScores}
    (h : SbObjectOf cfg rows g) (metric : SbMetric) (ts : List ERat) :
    sbGroupMetric metric ts g =
      (groupKeys rows).map fun k => ts.map fun t => sbEntry metric cfg rows k t := by
  unfold sbGroupMetric
  rw [h.groups_eq]
  apply List.ext_getElem
  · simp
  · intro i h1 h2
    simp only [List.length_map, List.length_range] at h1
    simp only [List.getElem_map, List.getElem_range]
    apply List.map_congr_left
    intro t _
    rw [c12_tieEq_groupScores h, sbObject_groupCM cfg rows i h1]
    rfl

theorem c18s_overallMetric_eq {cfg : Cfg} {rows : List SbRow} {g : GScores}
    (h : SbObjectOf cfg rows g) (metric : SbMetric) (ts : List ERat) :
    sbOverallMetric metric ts g = ts.map fun t => sbOverall metric cfg rows t := by
  unfold sbOverallMetric
  apply List.map_congr_left
  intro t _
  rw [(c12_tieEq_obs h).overallCm, sbObject_overallCM]
  rfl

/-! ### `GroupScores.bootstrap_sample` from any state -/

/-- the built-in sampling configurations that `showbias` can run without raising by design:
smoothing off (rejected for `GroupScores`), replacement / single-pass / dynamic sampling (proportion
sampling is rejected), a known stratification, at least one group -/
def SbRunnable (g : GScores) (c : GBootCfg) : Prop :=
  c.smoothing = false ∧ (c.method = .replacement ∨ c.method = .singlePass ∨ c.method = .dynamic) ∧
  c.strat ≠ .unknown ∧ g.groups ≠ []

/-- on a runnable configuration `bootstrap_sample` is `resample` in one of its two index modes -/
theorem c18s_bootstrap_eq (g : GScores) (c : GBootCfg) (h : SbRunnable g c) (st : RngState) :
    ∃ sp : Bool, g.bootstrapSample c st = g.resample c.strat sp st := by
  obtain ⟨hs, hm, _, _⟩ := h
  unfold GScores.bootstrapSample
  rw [hs]
  simp only [Bool.false_eq_true, if_false]
  have : g.samplingMethod c = .replacement ∨ g.samplingMethod c = .singlePass := by
    unfold GScores.samplingMethod
    rcases hm with hm | hm | hm
    · left; simp [hm]
    · right; simp [hm]
    · simp only [hm, ne_eq, not_true_eq_false, if_false]
      split
      · left; rfl
      · split
        · left; rfl
        · right; rfl
  rcases this with e | e
  · exact ⟨false, by rw [e]⟩
  · exact ⟨true, by rw [e]⟩

theorem c18s_byGroupLoop_step (g : GScores) (sp : Bool) (grps : List Nat) (st : RngState) :
    RngStep st (c12_byGroupLoop g sp grps st).2 := by
  induction grps generalizing st with
  | nil => exact RngStep.refl st
  | cons grp rest ih => exact (c16s_sampleIndices_step _ _ _ st).trans (ih _)

theorem c18s_resample_step (g : GScores) (strat : Strat) (sp : Bool) (st : RngState) :
    RngStep st (g.resample strat sp st).2 := by
  unfold GScores.resample
  cases strat with
  | none => exact c16s_sampleIndices_step _ _ _ st
  | byLabel => exact c16s_sampleIndices_step _ _ _ st
  | byGroup =>
    simp only
    split <;> exact c18s_byGroupLoop_step g sp g.groups st
  | unknown => exact RngStep.refl st

theorem c18s_sample_step (g : GScores) (c : GBootCfg) (st : RngState) :
    RngStep st (g.bootstrapSample c st).2 := by
  unfold GScores.bootstrapSample
  split
  · exact RngStep.refl st
  · cases g.samplingMethod c with
    | replacement => exact c18s_resample_step g c.strat false st
    | singlePass => exact c18s_resample_step g c.strat true st
    | proportion => exact RngStep.refl st
    | unknown => exact RngStep.refl st
    | dynamic => exact RngStep.refl st

/-- what ONE `resample` started in any state returns: always a sample carrying the source's group
list and flags; on an in-support run a sorted object whose pairs are pairs of the source's same
class (labels attached) -/
theorem c18s_resample_facts (g : GScores) (hg : GInv g) (strat : Strat) (hs : strat ≠ .unknown)
    (hne : g.groups ≠ []) (sp : Bool) (st : RngState) :
    ∃ smp, (g.resample strat sp st).1 = .ok smp ∧ smp.groups = g.groups ∧ smp.cfg = g.cfg ∧
      ((g.resample strat sp st).2.ok = true →
        st.ok = true ∧ GInv smp ∧ (∀ p ∈ smp.pos, p ∈ g.pos) ∧ (∀ p ∈ smp.neg, p ∈ g.neg)) := by
  have hex : ∃ smp, (g.resample strat sp st).1 = .ok smp ∧ smp.groups = g.groups ∧ smp.cfg = g.cfg := by
    cases strat with
    | unknown => exact absurd rfl hs
    | none | byLabel => exact ⟨_, rfl, c12_make_groups_some _ _ _ _ _, c12_make_cfg _ _ _ _ _⟩
    | byGroup =>
      simp only [GScores.resample, List.isEmpty_eq_false_iff.mpr hne, Bool.false_eq_true, if_false]
      exact ⟨_, rfl, c12_make_groups_some _ _ _ _ _, c12_make_cfg _ _ _ _ _⟩
  obtain ⟨smp, h1, h2, h3⟩ := hex
  refine ⟨smp, h1, h2, h3, fun hok => ?_⟩
  obtain ⟨_, _, m1, m2, hi⟩ := c12_resample_facts g strat sp st smp h1 hok
  exact ⟨((c18s_resample_step g strat sp st).2 hok).1, hi hg, m1, m2⟩

theorem c18s_sample_facts (g : GScores) (hg : GInv g) (c : GBootCfg) (h : SbRunnable g c)
    (st : RngState) :
    ∃ smp, (g.bootstrapSample c st).1 = .ok smp ∧ smp.groups = g.groups ∧ smp.cfg = g.cfg ∧
      ((g.bootstrapSample c st).2.ok = true →
        st.ok = true ∧ GInv smp ∧ (∀ p ∈ smp.pos, p ∈ g.pos) ∧ (∀ p ∈ smp.neg, p ∈ g.neg)) := by
  obtain ⟨sp, e⟩ := c18s_bootstrap_eq g c h st
  rw [e]
  exact c18s_resample_facts g hg c.strat h.2.2.1 h.2.2.2 sp st

/-! ### consecutive calls and the replicate loop -/

/-- the requests one `GroupScores.bootstrap_sample` call issues when started in state `st` -/
def gCallRequests (g : GScores) (c : GBootCfg) (st : RngState) : List Req :=
  (g.bootstrapSample c st).2.requests.drop st.requests.length

theorem c18s_states_requests (g : GScores) (c : GBootCfg) (n : Nat) (st : RngState) :
    (gSampleStates g c n st).requests =
      st.requests ++ ((List.range n).map fun j => gCallRequests g c (gSampleStates g c j st)).flatten :=
  c16s_states_requests (step := fun st => (g.bootstrapSample c st).2) (fun _ _ => rfl) (fun _ => rfl)
    (fun st => (c18s_sample_step g c st).1) n st

theorem c18s_draw_state {α : Type} (g : GScores) (c : GBootCfg) (k : GScores → α) (n : Nat)
    (st : RngState) (l : List α) (h : (gDrawMapped g c k n st).1 = .ok l) :
    (gDrawMapped g c k n st).2 = gSampleStates g c n st ∧ l.length = n := by
  induction n generalizing st l with
  | zero =>
    simp only [gDrawMapped] at h
    injection h with h
    subst h
    exact ⟨rfl, rfl⟩
  | succ n ih =>
    rcases hb : g.bootstrapSample c st with ⟨_ | smp, st1⟩
    · simp only [gDrawMapped, hb] at h; cases h
    · rcases hd : gDrawMapped g c k n st1 with ⟨_ | rest, st2⟩
      · simp only [gDrawMapped, hb, hd] at h; cases h
      · simp only [gDrawMapped, hb, hd, Except.ok.injEq] at h
        subst h
        obtain ⟨hs, hl⟩ := ih st1 rest (by rw [hd])
        rw [hd] at hs
        exact ⟨by simp only [gDrawMapped, hb, hd, gSampleStates]; exact hs,
          by rw [List.length_cons, hl]⟩

theorem c18s_states_ok_mono (g : GScores) (c : GBootCfg) (n : Nat) (st : RngState)
    (hok : (gSampleStates g c n st).ok = true) : st.ok = true :=
  (c16s_states_consumed (step := fun st => (g.bootstrapSample c st).2) (fun _ _ => rfl) (fun _ => rfl)
    (fun st => (c18s_sample_step g c st).2) n st hok).1

/-- **the loop on a runnable configuration.**  It returns `n` replicates — `k` of `n` samples —
and the state after `n` draws, whatever the script; every sample carries the source's group list
and flags; and if the run is in-support (`ok` at the end) every sample is sorted and consists of
pairs of the source's same class. -/
theorem c18s_draw_spec {α : Type} (g : GScores) (hg : GInv g) (c : GBootCfg) (h : SbRunnable g c)
    (k : GScores → α) (n : Nat) (st : RngState) :
    ∃ smps : List GScores, smps.length = n ∧
      gDrawMapped g c k n st = (.ok (smps.map k), gSampleStates g c n st) ∧
      (∀ smp ∈ smps, smp.groups = g.groups ∧ smp.cfg = g.cfg) ∧
      ((gSampleStates g c n st).ok = true → ∀ smp ∈ smps,
        GInv smp ∧ (∀ p ∈ smp.pos, p ∈ g.pos) ∧ (∀ p ∈ smp.neg, p ∈ g.neg)) := by
  induction n generalizing st with
  | zero => exact ⟨[], rfl, rfl, by simp, by simp⟩
  | succ n ih =>
    obtain ⟨smp, hsmp, hgr, hcf, hf⟩ := c18s_sample_facts g hg c h st
    obtain ⟨smps, hl, hd, hall, hin⟩ := ih (g.bootstrapSample c st).2
    rcases hb : g.bootstrapSample c st with ⟨r, st1⟩
    rw [hb] at hsmp hd hin hf
    simp only at hsmp hd hin hf
    subst hsmp
    refine ⟨smp :: smps, by simp [hl], ?_, ?_, ?_⟩
    · simp only [gDrawMapped, hb, hd, List.map_cons, gSampleStates]
    · intro x hx
      rcases List.mem_cons.mp hx with rfl | hx
      · exact ⟨hgr, hcf⟩
      · exact hall x hx
    · intro hok x hx
      simp only [gSampleStates, hb] at hok
      rcases List.mem_cons.mp hx with rfl | hx
      · exact (hf (c18s_states_ok_mono g c n st1 hok)).2
      · exact hin hok x hx

/-! ### the value frame: normalisation cell by cell -/

theorem sbCellAt_map {α β : Type} (l1 : List α) (l2 : List β) (f : α → β → Option Rat) (i j : Nat)
    (hi : i < l1.length) (hj : j < l2.length) :
    sbCellAt (l1.map fun a => l2.map fun b => f a b) i j = f l1[i] l2[j] := by
  simp [sbCellAt, List.getD_eq_getElem?_getD, hi, hj]

/-- one row of `_apply_normalization`: `D j` is the divisor of column `j`, `D' t` that of threshold `t` -/
theorem c18s_norm_row (ts : List ERat) (e : ERat → Option Rat) (D : Nat → Option Rat)
    (D' : ERat → Option Rat) (h : ∀ j (hj : j < ts.length), D j = D' ts[j]) :
    (List.range (ts.map e).length).map (fun j => divNorm ((ts.map e).getD j none) (D j)) =
      ts.map fun t => divNorm (e t) (D' t) := by
  apply List.ext_getElem
  · simp
  · intro j h1 h2
    simp only [List.length_map, List.length_range] at h1
    simp only [List.getElem_map, List.getElem_range, List.getD_eq_getElem?_getD, List.getElem?_map,
      List.getElem?_eq_getElem h1, Option.map_some, Option.getD_some, h j h1]

theorem c18s_colAt (keys : List (List Nat)) (ts : List ERat) (f : List Nat → ERat → Option Rat)
    (j : Nat) (hj : j < ts.length) :
    sbColAt (keys.map fun k => ts.map fun t => f k t) j = keys.map fun k => f k ts[j] := by
  unfold sbColAt
  rw [List.map_map]
  apply List.map_congr_left
  intro k _
  simp [List.getD_eq_getElem?_getD, hj]

/-- **the value frame** is the table of SA/Model/Showbias.lean: `_apply_normalization` on the
(G, T) array of group metrics gives, cell by cell, the normalised entry `sbCellVal` -/
theorem c18s_values_eq (metric : SbMetric) (cfg : Cfg) (mode : NormMode) (rows : List SbRow)
    (ts : List ERat) :
    sbNormalise mode ((groupKeys rows).map fun k => ts.map fun t => sbEntry metric cfg rows k t)
        (ts.map fun t => sbOverall metric cfg rows t) =
      (groupKeys rows).map fun k => ts.map fun t => sbCellVal metric cfg mode rows k t := by
  cases mode with
  | none => rfl
  | byOverall =>
    simp only [sbNormalise, List.map_map, Function.comp_def]
    apply List.map_congr_left
    intro k _
    exact c18s_norm_row ts _ _ (fun t => sbOverall metric cfg rows t) (fun j hj => by
      simp [List.getD_eq_getElem?_getD, hj])
  | byMin =>
    simp only [sbNormalise, List.map_map, Function.comp_def]
    apply List.map_congr_left
    intro k _
    exact c18s_norm_row ts _ _ (fun t => colMin (sbRawCol metric cfg rows t)) (fun j hj => by
      rw [c18s_colAt _ _ _ j hj]; rfl)

theorem sbNormalise_rows (mode : NormMode) (a : List (List (Option Rat))) (ov : List (Option Rat)) :
    ∃ f : List (Option Rat) → List (Option Rat), (∀ r, (f r).length = r.length) ∧
      sbNormalise mode a ov = a.map f := by
  cases mode
  · exact ⟨id, fun _ => rfl, (List.map_id _).symm⟩
  · exact ⟨_, fun r => by rw [List.length_map, List.length_range], rfl⟩
  · exact ⟨_, fun r => by rw [List.length_map, List.length_range], rfl⟩

theorem c18s_normalise_length (mode : NormMode) (a : List (List (Option Rat)))
    (ov : List (Option Rat)) :
    (sbNormalise mode a ov).length = a.length ∧
    ∀ i, ((sbNormalise mode a ov).getD i []).length = (a.getD i []).length := by
  obtain ⟨f, hf, e⟩ := sbNormalise_rows mode a ov
  rw [e]
  refine ⟨List.length_map _, fun i => ?_⟩
  rw [List.getD_eq_getElem?_getD, List.getD_eq_getElem?_getD, List.getElem?_map]
  cases a[i]? with
  | none => rfl
  | some r => exact hf r

/-! ### NaN: limits, and metrics of a sample of the data -/

/-- a limit of `utils.bootstrap_ci` is NaN exactly when the component has no finite replicate —
both limits together, for every method -/
theorem c18s_bootstrapCI_nan (nrm : Normal) (p15 : Rat → Rat) (m : BootMethod)
    (vals : List (Option Rat)) (th al : Rat) :
    ((bootstrapCI nrm p15 m vals th al).1 = none ↔ vals.filterMap id = []) ∧
    ((bootstrapCI nrm p15 m vals th al).2 = none ↔ vals.filterMap id = []) := by
  obtain ⟨q1, q2, h⟩ := bootstrapCI_eq_quantiles nrm p15 m vals th al
  rw [h]
  exact ⟨quantileLinear_eq_none_iff vals q1, quantileLinear_eq_none_iff vals q2⟩

/-- the denominator of a rate as a count (`none` for the count metrics, which are never NaN) -/
def sbDen (m : CM) : SbMetric → Option Nat
  | .tp | .tn | .fp | .fn | .p | .n | .top | .ton | .pop => none
  | .accuracy | .errorRate | .topr | .tonr => some (m.tp + m.fn + m.fp + m.tn)
  | .tpr | .fnr => some (m.tp + m.fn)
  | .tnr | .fpr => some (m.fp + m.tn)
  | .ppv | .fdr => some (m.tp + m.fp)
  | .npv | .for_ => some (m.fn + m.tn)

theorem c18s_divQ_none (a b : Rat) : divQ a b = none ↔ b = 0 := by
  unfold divQ
  by_cases h : b = 0
  · simp [h]
  · simp [h]

theorem c18s_metric_none_iff (m : CM) (metric : SbMetric) :
    m.toQ.sbMetric metric = none ↔ sbDen m metric = some 0 := by
  cases metric <;>
    simp only [CMq.sbMetric, CM.toQ, sbDen, CMq.accuracy, CMq.errorRate, CMq.tpr, CMq.tnr, CMq.fpr,
      CMq.fnr, CMq.topr, CMq.tonr, CMq.ppv, CMq.npv, CMq.fdr, CMq.for_, CMq.p, CMq.n, CMq.top,
      CMq.ton, CMq.pop, Option.map_eq_none_iff, c18s_divQ_none, reduceCtorEq, Option.some.injEq,
      ← Nat.cast_add, Nat.cast_eq_zero]

/-- every cell that is empty in `m` is empty in `m'` -/
def CM.Dominated (m' m : CM) : Prop :=
  (m.tp = 0 → m'.tp = 0) ∧ (m.fn = 0 → m'.fn = 0) ∧ (m.fp = 0 → m'.fp = 0) ∧ (m.tn = 0 → m'.tn = 0)

theorem c18s_metric_nan_mono (m m' : CM) (h : CM.Dominated m' m) (metric : SbMetric)
    (hn : m.toQ.sbMetric metric = none) : m'.toQ.sbMetric metric = none := by
  rw [c18s_metric_none_iff] at hn ⊢
  obtain ⟨h1, h2, h3, h4⟩ := h
  -- a sum of cells is 0 iff every cell is, and every empty cell of `m` is empty in `m'`
  cases metric <;> simp only [sbDen, reduceCtorEq, Option.some.injEq, Nat.add_eq_zero_iff] at hn ⊢ <;>
    simp only [h1, h2, h3, h4, hn, and_self]

theorem c18s_countP_zero_of_subset {l l' : List Rat} (f : Rat → Bool) (hs : ∀ x ∈ l', x ∈ l)
    (h : l.countP f = 0) : l'.countP f = 0 := by
  rw [List.countP_eq_zero] at h ⊢
  exact fun a ha => h a (hs a ha)

/-- the group matrix of a sample whose labelled pairs are pairs of the source is dominated by the
source's group matrix -/
theorem c18s_group_cm_dominated (g smp : GScores) (hg : GInv g) (hs : GInv smp)
    (hcfg : smp.cfg = g.cfg) (hp : ∀ p ∈ smp.pos, p ∈ g.pos) (hn : ∀ p ∈ smp.neg, p ∈ g.neg)
    (grp : Nat) (t : ERat) :
    CM.Dominated ((smp.groupScores grp).cm t) ((g.groupScores grp).cm t) := by
  rw [cm_eq_countCM_of_sorted _ (c12_groupScores_sorted hg grp).1 (c12_groupScores_sorted hg grp).2,
    cm_eq_countCM_of_sorted _ (c12_groupScores_sorted hs grp).1 (c12_groupScores_sorted hs grp).2]
  have sp : ∀ x ∈ c12_filterGroup smp.pos grp, x ∈ c12_filterGroup g.pos grp := fun x hx =>
    c12_mem_filterGroup.mpr (hp _ (c12_mem_filterGroup.mp hx))
  have sn : ∀ x ∈ c12_filterGroup smp.neg grp, x ∈ c12_filterGroup g.neg grp := fun x hx =>
    c12_mem_filterGroup.mpr (hn _ (c12_mem_filterGroup.mp hx))
  show CM.Dominated (countCM (c12_filterGroup smp.pos grp) (c12_filterGroup smp.neg grp) 0 0 smp.cfg t)
    (countCM (c12_filterGroup g.pos grp) (c12_filterGroup g.neg grp) 0 0 g.cfg t)
  rw [hcfg]
  simp only [CM.Dominated, countCM, Nat.add_zero]
  exact ⟨c18s_countP_zero_of_subset _ sp, c18s_countP_zero_of_subset _ sp,
    c18s_countP_zero_of_subset _ sn, c18s_countP_zero_of_subset _ sn⟩

theorem c18s_filterMap_map_nil {α : Type} (l : List α) (f : α → Option Rat) :
    (l.map f).filterMap id = [] ↔ ∀ x ∈ l, f x = none := by
  rw [List.filterMap_eq_nil_iff, List.forall_mem_map]
  rfl

theorem c18s_groupMetric_cell (metric : SbMetric) (ts : List ERat) (smp : GScores) (G : Nat)
    (hgr : smp.groups = List.range G) (i j : Nat) (hi : i < G) (hj : j < ts.length) :
    sbCellAt (sbGroupMetric metric ts smp) i j =
      ((smp.groupScores i).cm ts[j]).toQ.sbMetric metric := by
  unfold sbGroupMetric
  rw [hgr, sbCellAt_map _ _ _ i j (by rw [List.length_range]; exact hi) hj, List.getElem_range]

end SA

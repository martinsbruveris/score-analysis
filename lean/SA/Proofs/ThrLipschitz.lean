/-
Lipschitz and inverse-Lipschitz bounds, in the target, for threshold setting with `method = linear`
(`_invert_increasing_function` on a sorted list).  `interp` is the clamped piecewise-linear function
through `(k, s[k])`, so its slopes lie between the smallest and the largest gap of consecutive
entries (`c06d_chord_mono`); `invertIncreasing` differs from it only by the two `nextafter`
sentinels.  From these: count bounds at a threshold near a returned one, and the Lipschitz bound of
`threshold_at_<metric>` in the requested rate for metrics whose rescaling is `min (x / h) 1`.
-/
import SA.Proofs.Coherence
import SA.Proofs.Counts

namespace SA

/-! ### consecutive gaps -/

/-- largest difference of consecutive entries (0 for lists shorter than 2) -/
def c06d_maxGap : List ℚ → ℚ
  | a :: b :: r => max (b - a) (c06d_maxGap (b :: r))
  | _ => 0

/-- smallest difference of consecutive entries (1 for lists shorter than 2: any positive value
keeps `c06d_minGap_pos` and the division in `c06d_delta` harmless) -/
def c06d_minGap : List ℚ → ℚ
  | a :: b :: c :: r => min (b - a) (c06d_minGap (b :: c :: r))
  | a :: b :: [] => b - a
  | _ => 1

theorem c06d_maxGap_nonneg : ∀ l : List ℚ, 0 ≤ c06d_maxGap l
  | [] => le_refl _
  | [_] => le_refl _
  | _ :: b :: r => le_trans (c06d_maxGap_nonneg (b :: r)) (le_max_right _ _)

theorem c06d_gap_le_max : ∀ (l : List ℚ) (i : ℕ) (h : i + 1 < l.length),
    l[i + 1] - l[i] ≤ c06d_maxGap l
  | [], _, h => absurd h (Nat.not_lt_zero _)
  | [_], _, h => absurd (Nat.lt_of_succ_lt_succ h) (Nat.not_lt_zero _)
  | a :: b :: r, 0, _ => by
    simp only [c06d_maxGap, List.getElem_cons_succ, List.getElem_cons_zero]
    exact le_max_left _ _
  | a :: b :: r, i + 1, h => by
    simp only [c06d_maxGap, List.getElem_cons_succ]
    have h' : i + 1 < (b :: r).length := Nat.lt_of_succ_lt_succ h
    exact le_trans (c06d_gap_le_max (b :: r) i h') (le_max_right _ _)

theorem c06d_min_le_gap : ∀ (l : List ℚ) (i : ℕ) (h : i + 1 < l.length),
    c06d_minGap l ≤ l[i + 1] - l[i]
  | [], _, h => absurd h (Nat.not_lt_zero _)
  | [_], _, h => absurd (Nat.lt_of_succ_lt_succ h) (Nat.not_lt_zero _)
  | [a, b], 0, _ => le_refl _
  | [a, b], i + 1, h =>
    absurd (Nat.lt_of_succ_lt_succ (Nat.lt_of_succ_lt_succ h)) (Nat.not_lt_zero _)
  | a :: b :: c :: r, 0, _ => by
    simp only [c06d_minGap, List.getElem_cons_succ, List.getElem_cons_zero]
    exact min_le_left _ _
  | a :: b :: c :: r, i + 1, h => by
    simp only [c06d_minGap, List.getElem_cons_succ]
    have h' : i + 1 < (b :: c :: r).length := Nat.lt_of_succ_lt_succ h
    exact le_trans (min_le_right _ _) (c06d_min_le_gap (b :: c :: r) i h')

theorem c06d_minGap_pos : ∀ (l : List ℚ), l.Pairwise (· < ·) → 0 < c06d_minGap l
  | [], _ => zero_lt_one
  | [_], _ => zero_lt_one
  | [a, b], h => by
    simp only [c06d_minGap]
    exact sub_pos.mpr ((List.pairwise_cons.mp h).1 b List.mem_cons_self)
  | a :: b :: c :: r, h => by
    simp only [c06d_minGap]
    have h1 := (List.pairwise_cons.mp h).1 b List.mem_cons_self
    have h2 := c06d_minGap_pos (b :: c :: r) (List.pairwise_cons.mp h).2
    exact lt_min (sub_pos.mpr h1) h2

/-! ### the clamped sample `S k = s[clamp k]` -/

/-- `s[clamp(k, 0, N-1)]` for an integer index -/
def c06d_S (s : List ℚ) (k : ℤ) : ℚ := s.getD (clampIdx k s.length) 0

theorem c06d_S_low (s : List ℚ) (k : ℤ) (h : k ≤ 0) : c06d_S s k = s.getD 0 0 := by
  rw [c06d_S, clampIdx_of_nonpos k _ h]

theorem c06d_S_high (s : List ℚ) (k : ℤ) (h : (s.length : ℤ) - 1 ≤ k) :
    c06d_S s k = s.getD (s.length - 1) 0 := by
  rw [c06d_S, clampIdx_of_ge k _ h]

theorem c06d_S_nat (s : List ℚ) (a : ℕ) (h : a < s.length) : c06d_S s (a : ℤ) = s[a] := by
  rw [c06d_S, clampIdx_natCast a _ h, getD_eq s a h]

theorem c06d_S_step_le (s : List ℚ) (k : ℤ) : c06d_S s (k + 1) - c06d_S s k ≤ c06d_maxGap s := by
  rcases lt_or_ge k 0 with hk | hk
  · rw [c06d_S_low s k hk.le, c06d_S_low s (k + 1) (Int.add_one_le_of_lt hk), sub_self]
    exact c06d_maxGap_nonneg s
  rcases le_or_gt ((s.length : ℤ) - 1) k with hN | hN
  · rw [c06d_S_high s k hN, c06d_S_high s (k + 1) (hN.trans (Int.le_add_one le_rfl)), sub_self]
    exact c06d_maxGap_nonneg s
  · obtain ⟨a, rfl⟩ := Int.eq_ofNat_of_zero_le hk
    have ha : a + 1 < s.length := by omega
    rw [c06d_S_nat s a (by omega), ← Nat.cast_succ, c06d_S_nat s (a + 1) ha]
    exact c06d_gap_le_max s a ha

theorem c06d_S_step_ge (s : List ℚ) (k : ℤ) (h0 : 0 ≤ k) (h1 : k + 1 < (s.length : ℤ)) :
    c06d_minGap s ≤ c06d_S s (k + 1) - c06d_S s k := by
  obtain ⟨a, rfl⟩ := Int.eq_ofNat_of_zero_le h0
  have ha : a + 1 < s.length := by omega
  rw [c06d_S_nat s a (by omega), ← Nat.cast_succ, c06d_S_nat s (a + 1) ha]
  exact c06d_min_le_gap s a ha

/-! ### `interp` on a closed cell -/

/-- **Cell formula.** On `[k, k+1]` the linear branch is the chord through the two clamped
samples (all integers `k`, endpoints included). -/
theorem c06d_interp_cell (s : List ℚ) (k : ℤ) (x : ℚ) (h1 : (k : ℚ) ≤ x) (h2 : x ≤ (k : ℚ) + 1) :
    interp s x = ((k : ℚ) + 1 - x) * c06d_S s k + (x - (k : ℚ)) * c06d_S s (k + 1) := by
  unfold interp c06d_S
  rw [ceilQ_eq]
  have hfl : x.floor = ⌊x⌋ := rfl
  rw [hfl]
  rcases eq_or_lt_of_le h1 with he | hlt
  · -- x = k
    have hf : ⌊x⌋ = k := by rw [← he]; exact Int.floor_intCast k
    have hc : ⌈x⌉ = k := by rw [← he]; exact Int.ceil_intCast k
    rw [hf, hc, ← he]; ring
  · rcases eq_or_lt_of_le h2 with he | hlt2
    · -- x = k + 1
      have hx : x = ((k + 1 : ℤ) : ℚ) := by push_cast; exact he
      have hf : ⌊x⌋ = k + 1 := by rw [hx]; exact Int.floor_intCast _
      have hc : ⌈x⌉ = k + 1 := by rw [hx]; exact Int.ceil_intCast _
      rw [hf, hc, he]; push_cast; ring
    · have hf : ⌊x⌋ = k := by
        rw [Int.floor_eq_iff]; exact ⟨le_of_lt hlt, hlt2⟩
      have hc : ⌈x⌉ = k + 1 := by
        rw [Int.ceil_eq_iff]; push_cast
        exact ⟨by linarith only [hlt], h2⟩
      rw [hf, hc]; push_cast; ring

theorem c06d_interp_low (s : List ℚ) (x : ℚ) (hx : x ≤ 0) : interp s x = s.getD 0 0 :=
  c08n_rawThr_bottom s x hx .linear

theorem c06d_interp_high (s : List ℚ) (x : ℚ)
    (hx : (s.length : ℚ) - 1 ≤ x) : interp s x = s.getD (s.length - 1) 0 :=
  c08n_rawThr_top s x hx .linear

/-! ### slope bounds of `interp` -/

/-- A function that on every cell `[k, k+1]`, `i ≤ k < j`, is the chord through `H k` and
`H (k+1)` of a sequence that does not decrease from `i` to `j` does not decrease on `[i, j]`. -/
theorem c06d_chord_mono (g : ℚ → ℚ) (H : ℤ → ℚ) (i j : ℤ)
    (hcell : ∀ (k : ℤ) (x : ℚ), i ≤ k → k < j → (k : ℚ) ≤ x → x ≤ (k : ℚ) + 1 →
      g x = ((k : ℚ) + 1 - x) * H k + (x - (k : ℚ)) * H (k + 1))
    (hstep : ∀ k : ℤ, i ≤ k → k < j → H k ≤ H (k + 1))
    (x y : ℚ) (hix : (i : ℚ) ≤ x) (hxy : x ≤ y) (hyj : y ≤ (j : ℚ)) : g x ≤ g y := by
  rcases eq_or_lt_of_le hxy with rfl | hlt
  · exact le_refl _
  have hmono : ∀ a b : ℤ, a ≤ b → i ≤ a → b ≤ j → H a ≤ H b := by
    intro a b hab
    induction b, hab using Int.leInduction with
    | base => intros; exact le_refl _
    | succ b hab ih =>
      intro ha hb
      have hbj : b < j := Int.lt_of_add_one_le hb
      exact le_trans (ih ha hbj.le) (hstep b (ha.trans hab) hbj)
  -- `x` in the cell `[⌊x⌋, ⌊x⌋ + 1)`, `y` in the cell `(⌈y⌉ - 1, ⌈y⌉]`
  have hx1 := Int.floor_le x
  have hx2 := Int.lt_floor_add_one x
  have hy1 := Int.le_ceil y
  have hy2 := Int.ceil_lt_add_one y
  have hkx : i ≤ ⌊x⌋ := Int.le_floor.mpr hix
  have hky : ⌈y⌉ ≤ j := Int.ceil_le.mpr hyj
  have hk : ⌊x⌋ < ⌈y⌉ := by
    have : (⌊x⌋ : ℚ) < (⌈y⌉ : ℚ) := by linarith only [hx1, hlt, hy1]
    exact_mod_cast this
  have hxj : ⌊x⌋ < j := hk.trans_le hky
  have ex := hcell ⌊x⌋ x hkx hxj hx1 (le_of_lt hx2)
  have sx := hstep ⌊x⌋ hkx hxj
  rcases eq_or_lt_of_le (Int.add_one_le_of_lt hk) with he | hne
  · -- same cell: `g y - g x = (y - x) * (H (k+1) - H k)`
    have hy : y ≤ (⌊x⌋ : ℚ) + 1 := by
      have : ((⌊x⌋ + 1 : ℤ) : ℚ) = (⌈y⌉ : ℚ) := by rw [he]
      push_cast at this; linarith only [this, hy1]
    have ey := hcell ⌊x⌋ y hkx hxj (by linarith only [hx1, hxy]) hy
    have := mul_nonneg (sub_nonneg.mpr hxy) (sub_nonneg.mpr sx)
    rw [ex, ey]; linarith only [this]
  · -- `g x ≤ H (⌊x⌋ + 1) ≤ H (⌈y⌉ - 1) ≤ g y`
    have hiy : i ≤ ⌈y⌉ - 1 := hkx.trans (Int.le_sub_one_of_lt hk)
    have hyj' : ⌈y⌉ - 1 < j := (sub_one_lt _).trans_le hky
    have ey := hcell (⌈y⌉ - 1) y hiy hyj' (by push_cast; linarith only [hy2])
      (by push_cast; linarith only [hy1])
    have sy := hstep (⌈y⌉ - 1) hiy hyj'
    have hm := hmono (⌊x⌋ + 1) (⌈y⌉ - 1) (Int.le_sub_one_of_lt hne)
      (hkx.trans (Int.le_add_one le_rfl)) hyj'.le
    rw [sub_add_cancel] at ey sy
    push_cast at ey
    have a1 := mul_nonneg (sub_nonneg.mpr (le_of_lt hx2)) (sub_nonneg.mpr sx)
    have a2 : 0 ≤ (y - ((⌈y⌉ : ℚ) - 1)) * (H ⌈y⌉ - H (⌈y⌉ - 1)) :=
      mul_nonneg (by linarith only [hy2]) (sub_nonneg.mpr sy)
    rw [ex, ey]; linarith only [a1, a2, hm]

/-- **Lipschitz upper bound (index scale).** `interp` never rises faster than the largest gap:
`maxGap · z − interp z` is a chord function of `maxGap · k − S k`, which does not decrease. -/
theorem c06d_interp_lip (s : List ℚ) (x y : ℚ) (hxy : x ≤ y) :
    interp s y - interp s x ≤ c06d_maxGap s * (y - x) := by
  have h := c06d_chord_mono (fun z => c06d_maxGap s * z - interp s z)
    (fun k => c06d_maxGap s * (k : ℚ) - c06d_S s k) ⌊x⌋ ⌈y⌉
    (fun k z _ _ h1 h2 => by rw [c06d_interp_cell s k z h1 h2]; push_cast; ring)
    (fun k _ _ => by have := c06d_S_step_le s k; push_cast; linarith only [this])
    x y (Int.floor_le x) hxy (Int.le_ceil y)
  linarith only [h]

/-- **Inverse Lipschitz bound (index scale).** Between index targets `0 ≤ x ≤ y ≤ N-1`, `interp`
rises at least as fast as the smallest gap. -/
theorem c06d_interp_invlip (s : List ℚ) (x y : ℚ) (hx0 : 0 ≤ x) (hxy : x ≤ y)
    (hyN : y ≤ (s.length : ℚ) - 1) :
    c06d_minGap s * (y - x) ≤ interp s y - interp s x := by
  have h := c06d_chord_mono (fun z => interp s z - c06d_minGap s * z)
    (fun k => c06d_S s k - c06d_minGap s * (k : ℚ)) 0 ((s.length : ℤ) - 1)
    (fun k z _ _ h1 h2 => by rw [c06d_interp_cell s k z h1 h2]; push_cast; ring)
    (fun k h0 h1 => by
      have := c06d_S_step_ge s k h0 (by omega); push_cast; linarith only [this])
    x y (by push_cast; exact hx0) hxy (by push_cast; exact hyN)
  linarith only [h]

theorem c06d_interp_abs_lip (s : List ℚ) (hs : s.Pairwise (· ≤ ·)) (hne : s.length ≠ 0) (x y : ℚ) :
    |interp s y - interp s x| ≤ c06d_maxGap s * |y - x| := by
  wlog hxy : x ≤ y generalizing x y
  · rw [abs_sub_comm, abs_sub_comm y]
    exact this y x (le_of_not_ge hxy)
  have hm : interp s x ≤ interp s y := raw_mono s hs hne .linear x y hxy
  rw [abs_of_nonneg (sub_nonneg.mpr hm), abs_of_nonneg (sub_nonneg.mpr hxy)]
  exact c06d_interp_lip s x y hxy

/-! ### `invertIncreasing` against `interp`: only the two sentinels differ -/

/-- size of the step from the first sample down to the lower sentinel -/
def c06d_jumpLo (u : Ulp) (s : List ℚ) : ℚ := s.getD 0 0 - u.down (s.getD 0 0)
/-- size of the step from the last sample up to the upper sentinel -/
def c06d_jumpHi (u : Ulp) (s : List ℚ) : ℚ :=
  u.up (s.getD (s.length - 1) 0) - s.getD (s.length - 1) 0
/-- total `nextafter` slack of the list -/
def c06d_jump (u : Ulp) (s : List ℚ) : ℚ := c06d_jumpLo u s + c06d_jumpHi u s

theorem c06d_jumpLo_pos (u : Ulp) (hu : u.Lawful) (s : List ℚ) : 0 < c06d_jumpLo u s := by
  unfold c06d_jumpLo; have := hu.down_lt (s.getD 0 0); linarith

theorem c06d_jumpHi_pos (u : Ulp) (hu : u.Lawful) (s : List ℚ) : 0 < c06d_jumpHi u s := by
  unfold c06d_jumpHi; have := hu.lt_up (s.getD (s.length - 1) 0); linarith

theorem c06d_indexTarget_sub (s : List ℚ) (r1 r2 : ℚ) (lc : Bool) :
    indexTarget s r2 lc - indexTarget s r1 lc = (r2 - r1) * (s.length : ℚ) := by
  unfold indexTarget
  cases lc <;> simp only [Bool.false_eq_true, if_false, if_true] <;> ring

/-- The returned threshold against the interpolated one: one `nextafter` step above it for targets
`≥ 1` (index target past the last index), one step below it in the lower special case (index target
before the first), otherwise equal. -/
theorem c06d_invert_vs_interp (u : Ulp) (s : List ℚ) (hne : s.length ≠ 0) (r : ℚ) (lc : Bool) :
    (1 ≤ r ∧ interp s (indexTarget s r lc) = s.getD (s.length - 1) 0 ∧
      invertIncreasing u s r lc .linear = u.up (s.getD (s.length - 1) 0)) ∨
    (r < 1 ∧ (if lc then r else r - 1 / (s.length : ℚ)) ≤ 0 ∧
      interp s (indexTarget s r lc) = s.getD 0 0 ∧
      invertIncreasing u s r lc .linear = u.down (s.getD 0 0)) ∨
    (r < 1 ∧ 0 < (if lc then r else r - 1 / (s.length : ℚ)) ∧
      invertIncreasing u s r lc .linear = interp s (indexTarget s r lc)) := by
  have hN : (0 : ℚ) < (s.length : ℚ) := Nat.cast_pos.mpr (Nat.pos_of_ne_zero hne)
  rcases invertIncreasing_cases u s r lc with ⟨h1, hv⟩ | ⟨h1, h0, hv⟩ | ⟨h1, h0, hv⟩
  · have hx : (s.length : ℚ) - 1 ≤ indexTarget s r lc := by
      have := mul_le_mul_of_nonneg_right h1 hN.le
      linarith only [this, (indexTarget_bounds s hne r lc).1]
    exact Or.inl ⟨h1, c06d_interp_high s _ hx, hv _⟩
  · exact Or.inr (Or.inl ⟨not_le.mp h1, h0,
      c06d_interp_low s _ (mul_nonpos_of_nonpos_of_nonneg h0 hN.le), hv _⟩)
  · exact Or.inr (Or.inr ⟨not_le.mp h1, not_le.mp h0, hv .linear⟩)

theorem c06d_invert_le_interp (u : Ulp) (hu : u.Lawful) (s : List ℚ) (hne : s.length ≠ 0) (r : ℚ)
    (lc : Bool) (h1 : r < 1) :
    invertIncreasing u s r lc .linear ≤ interp s (indexTarget s r lc) := by
  rcases c06d_invert_vs_interp u s hne r lc with ⟨h, _⟩ | ⟨_, _, hi, hv⟩ | ⟨_, _, hv⟩
  · exact absurd h1 (not_lt.mpr h)
  · rw [hi, hv]; exact (hu.down_lt _).le
  · exact hv.le

theorem c06d_interp_le_invert (u : Ulp) (hu : u.Lawful) (s : List ℚ) (hne : s.length ≠ 0)
    (r : ℚ) (lc : Bool) (h0 : 0 < (if lc then r else r - 1 / (s.length : ℚ))) :
    interp s (indexTarget s r lc) ≤ invertIncreasing u s r lc .linear := by
  rcases c06d_invert_vs_interp u s hne r lc with ⟨_, hi, hv⟩ | ⟨_, h, _⟩ | ⟨_, _, hv⟩
  · rw [hi, hv]; exact (hu.lt_up _).le
  · exact absurd h0 (not_lt.mpr h)
  · exact hv.ge

theorem c06d_invert_near_interp (u : Ulp) (hu : u.Lawful) (s : List ℚ) (hne : s.length ≠ 0)
    (r : ℚ) (lc : Bool) :
    interp s (indexTarget s r lc) - c06d_jumpLo u s ≤ invertIncreasing u s r lc .linear ∧
    invertIncreasing u s r lc .linear ≤ interp s (indexTarget s r lc) + c06d_jumpHi u s := by
  have jl := c06d_jumpLo_pos u hu s
  have jh := c06d_jumpHi_pos u hu s
  unfold c06d_jumpLo c06d_jumpHi at *
  rcases c06d_invert_vs_interp u s hne r lc with ⟨_, hi, hv⟩ | ⟨_, _, hi, hv⟩ | ⟨_, _, hv⟩
  · -- upper sentinel
    rw [hv, hi]; exact ⟨by linarith only [jl, jh], by linarith only⟩
  · -- lower sentinel
    rw [hv, hi]; exact ⟨by linarith only, by linarith only [jl, jh]⟩
  · rw [hv]; exact ⟨by linarith only [jl], by linarith only [jh]⟩

/-- the index target moves `N` times as fast as the target -/
theorem c06d_interpTarget_lip (s : List ℚ) (lc : Bool) (r1 r2 : ℚ) (h : r1 ≤ r2) :
    interp s (indexTarget s r2 lc) - interp s (indexTarget s r1 lc) ≤
      (s.length : ℚ) * c06d_maxGap s * (r2 - r1) := by
  have hd := c06d_indexTarget_sub s r1 r2 lc
  have hl := c06d_interp_lip s (indexTarget s r1 lc) (indexTarget s r2 lc)
    (sub_nonneg.mp (hd ▸ mul_nonneg (sub_nonneg.mpr h) (Nat.cast_nonneg _)))
  rw [hd] at hl
  linarith only [hl, mul_left_comm (c06d_maxGap s) (r2 - r1) (s.length : ℚ),
    mul_assoc (s.length : ℚ) (c06d_maxGap s) (r2 - r1)]

/-- **Lipschitz upper bound of `_invert_increasing_function` (linear) in the target**, up to the
two sentinel steps: for `r1 ≤ r2`,
`thr(r2) − thr(r1) ≤ N · maxGap · (r2 − r1) + (s[0] − down s[0]) + (up s[N-1] − s[N-1])`. -/
theorem c06d_invert_lip (u : Ulp) (hu : u.Lawful) (s : List ℚ) (hne : s.length ≠ 0) (lc : Bool)
    (r1 r2 : ℚ) (h : r1 ≤ r2) :
    invertIncreasing u s r2 lc .linear - invertIncreasing u s r1 lc .linear ≤
      (s.length : ℚ) * c06d_maxGap s * (r2 - r1) + c06d_jump u s := by
  have n1 := (c06d_invert_near_interp u hu s hne r1 lc).1
  have n2 := (c06d_invert_near_interp u hu s hne r2 lc).2
  have hl := c06d_interpTarget_lip s lc r1 r2 h
  unfold c06d_jump
  linarith only [n1, n2, hl]

/-- two targets in either order, at most `w` apart -/
theorem c06d_invert_lip_abs (u : Ulp) (hu : u.Lawful) (s : List ℚ) (hs : s.Pairwise (· ≤ ·))
    (hne : s.length ≠ 0) (lc : Bool) (r1 r2 w : ℚ) (h1 : r2 - r1 ≤ w) (h2 : r1 - r2 ≤ w) :
    invertIncreasing u s r2 lc .linear - invertIncreasing u s r1 lc .linear ≤
      (s.length : ℚ) * c06d_maxGap s * w + c06d_jump u s := by
  have hK : 0 ≤ (s.length : ℚ) * c06d_maxGap s :=
    mul_nonneg (Nat.cast_nonneg _) (c06d_maxGap_nonneg s)
  have hJ : 0 < c06d_jump u s := by
    unfold c06d_jump; linarith only [c06d_jumpLo_pos u hu s, c06d_jumpHi_pos u hu s]
  rcases le_total r1 r2 with h | h
  · have e1 := c06d_invert_lip u hu s hne lc r1 r2 h
    have e2 := mul_le_mul_of_nonneg_left h1 hK
    linarith only [e1, e2]
  · have e1 := invert_mono u hu s hs hne lc .linear r2 r1 h
    have e2 := mul_nonneg hK (show 0 ≤ w by linarith only [h, h2])
    linarith only [e1, e2, hJ]

theorem c06d_interior_mono (N : ℚ) (lc : Bool) (r1 r2 : ℚ) (h : r1 ≤ r2)
    (h0 : 0 < (if lc then r1 else r1 - 1 / N)) : 0 < (if lc then r2 else r2 - 1 / N) := by
  cases lc
  · exact lt_of_lt_of_le h0 (sub_le_sub_right h _)
  · exact lt_of_lt_of_le h0 h

/-- **Without sentinels**: if neither target is in a special case the bound is purely
Lipschitz. -/
theorem c06d_invert_lip_interior (u : Ulp) (s : List ℚ) (hne : s.length ≠ 0) (lc : Bool)
    (r1 r2 : ℚ) (h : r1 ≤ r2) (h0 : 0 < (if lc then r1 else r1 - 1 / (s.length : ℚ)))
    (h1 : r2 < 1) :
    invertIncreasing u s r2 lc .linear - invertIncreasing u s r1 lc .linear ≤
      (s.length : ℚ) * c06d_maxGap s * (r2 - r1) := by
  rw [invertIncreasing_interior u s r1 lc (lt_of_le_of_lt h h1) h0,
    invertIncreasing_interior u s r2 lc h1 (c06d_interior_mono _ lc r1 r2 h h0)]
  exact c06d_interpTarget_lip s lc r1 r2 h

/-- **Inverse Lipschitz bound of `_invert_increasing_function` (linear)** for two interior targets
whose index targets stay below `N − 1`: `thr(r2) − thr(r1) ≥ N · minGap · (r2 − r1)` (strictly
increasing where `minGap > 0`, i.e. on a tie-free list). -/
theorem c06d_invert_invlip (u : Ulp) (s : List ℚ) (lc : Bool) (r1 r2 : ℚ) (h : r1 ≤ r2)
    (h0 : 0 < (if lc then r1 else r1 - 1 / (s.length : ℚ))) (h1 : r2 < 1)
    (hx2 : indexTarget s r2 lc ≤ (s.length : ℚ) - 1) :
    (s.length : ℚ) * c06d_minGap s * (r2 - r1) ≤
      invertIncreasing u s r2 lc .linear - invertIncreasing u s r1 lc .linear := by
  rw [invertIncreasing_interior u s r1 lc (lt_of_le_of_lt h h1) h0,
    invertIncreasing_interior u s r2 lc h1 (c06d_interior_mono _ lc r1 r2 h h0)]
  have hd := c06d_indexTarget_sub s r1 r2 lc
  have hl := c06d_interp_invlip s (indexTarget s r1 lc) (indexTarget s r2 lc)
    (mul_nonneg h0.le (Nat.cast_nonneg _))
    (sub_nonneg.mp (hd ▸ mul_nonneg (sub_nonneg.mpr h) (Nat.cast_nonneg _))) hx2
  rw [hd] at hl
  linarith only [hl, mul_left_comm (c06d_minGap s) (r2 - r1) (s.length : ℚ),
    mul_assoc (s.length : ℚ) (c06d_minGap s) (r2 - r1)]

/-! ### counts at a threshold near a returned one (tie-free list) -/

theorem c06d_getElem_eq_interp (s : List ℚ) (m : ℕ) (hm : m < s.length) :
    s[m] = interp s (m : ℚ) := by
  rw [← getD_eq s m hm]
  exact (rawThr_natCast s m hm .linear).symm

theorem c06d_interp_near (s : List ℚ) (hs : s.Pairwise (· < ·)) (a b D : ℚ) (ha : 0 ≤ a)
    (hb : b ≤ (s.length : ℚ) - 1) (hD : 0 ≤ D) (h : interp s b ≤ interp s a + D) :
    b ≤ a + D / c06d_minGap s := by
  have hmg := c06d_minGap_pos s hs
  rcases le_or_gt b a with hba | hab
  · have := div_nonneg hD hmg.le; linarith only [this, hba]
  · have hl := c06d_interp_invlip s a b ha hab.le hb
    have : b - a ≤ D / c06d_minGap s := by rw [le_div_iff₀ hmg]; linarith only [hl, h]
    linarith only [this]

/-- **Count bound, upper side.** Tie-free list: if `y ≤ thr(r) + D` then at most
`clip01 r · N + 1 + D / minGap` entries are `≤ y`. -/
theorem c06d_cntLe_near (u : Ulp) (hu : u.Lawful) (s : List ℚ) (hs : s.Pairwise (· < ·))
    (hne : s.length ≠ 0) (r : ℚ) (lc : Bool) (D y : ℚ) (hD : 0 ≤ D)
    (hy : y ≤ invertIncreasing u s r lc .linear + D) :
    (cntLe s y : ℚ) ≤ clip01 r * (s.length : ℚ) + 1 + D / c06d_minGap s := by
  have hN : (0 : ℚ) < (s.length : ℚ) := Nat.cast_pos.mpr (Nat.pos_of_ne_zero hne)
  have hDm : 0 ≤ D / c06d_minGap s := div_nonneg hD (c06d_minGap_pos s hs).le
  have hcN : 0 ≤ clip01 r * (s.length : ℚ) := mul_nonneg (le_max_left _ _) hN.le
  have hcl : (cntLe s y : ℚ) ≤ (s.length : ℚ) := Nat.cast_le.mpr (cntLe_le_length s y)
  rcases le_or_gt 1 r with h1 | h1
  · rw [clip01_of_one_le h1]; linarith only [hcl, hDm]
  rcases Nat.eq_zero_or_pos (cntLe s y) with hz | hpos
  · rw [hz]; push_cast; linarith only [hcN, hDm]
  -- the last entry `≤ y` has index `m = cntLe s y − 1`, and `s[m] = interp s m`
  obtain ⟨m, hm⟩ : ∃ m, cntLe s y = m + 1 := ⟨_, (Nat.succ_pred_eq_of_pos hpos).symm⟩
  have hmN : m + 1 ≤ s.length := hm ▸ cntLe_le_length s y
  have hsm : interp s (m : ℚ) ≤ y := by
    rw [← c06d_getElem_eq_interp s m hmN]
    exact (le_iff_cntLe s (hs.imp le_of_lt) y m hmN).mpr (hm ▸ Nat.lt_succ_self m)
  rw [hm] at hcl ⊢
  push_cast at hcl ⊢
  -- clamping the index target at 0 does not change the interpolated value
  have hxhat : interp s (max (indexTarget s r lc) 0) = interp s (indexTarget s r lc) := by
    rcases le_total (indexTarget s r lc) 0 with hneg | hnn
    · rw [max_eq_right hneg, c06d_interp_low s _ hneg, c06d_interp_low s 0 (le_refl _)]
    · rw [max_eq_left hnn]
  have hG := c06d_invert_le_interp u hu s hne r lc h1
  have hnear := c06d_interp_near s hs _ (m : ℚ) D (le_max_right (indexTarget s r lc) 0)
    (by linarith only [hcl]) hD (by rw [hxhat]; linarith only [hsm, hy, hG])
  have hr : r ≤ clip01 r := by
    unfold clip01; rw [min_eq_left h1.le]; exact le_max_right _ _
  have hxle : max (indexTarget s r lc) 0 ≤ clip01 r * (s.length : ℚ) :=
    max_le (le_trans (indexTarget_bounds s hne r lc).2 (mul_le_mul_of_nonneg_right hr hN.le)) hcN
  linarith only [hnear, hxle]

/-- **Count bound, lower side.** Tie-free list: if `thr(r) − D ≤ y` then at least
`clip01 r · N − 1 − D / minGap` entries are `< y`. -/
theorem c06d_cntLt_near (u : Ulp) (hu : u.Lawful) (s : List ℚ) (hs : s.Pairwise (· < ·))
    (hne : s.length ≠ 0) (r : ℚ) (lc : Bool) (D y : ℚ) (hD : 0 ≤ D)
    (hy : invertIncreasing u s r lc .linear - D ≤ y) :
    clip01 r * (s.length : ℚ) - 1 - D / c06d_minGap s ≤ (cntLt s y : ℚ) := by
  have hN : (0 : ℚ) < (s.length : ℚ) := Nat.cast_pos.mpr (Nat.pos_of_ne_zero hne)
  have hDm : 0 ≤ D / c06d_minGap s := div_nonneg hD (c06d_minGap_pos s hs).le
  have hc0 : (0 : ℚ) ≤ (cntLt s y : ℚ) := Nat.cast_nonneg _
  have hcN : clip01 r * (s.length : ℚ) ≤ (s.length : ℚ) :=
    mul_le_of_le_one_left hN.le (max_le zero_le_one (min_le_right _ _))
  rcases Nat.lt_or_ge (cntLt s y) s.length with hlt | hge
  swap
  · have : (s.length : ℚ) ≤ (cntLt s y : ℚ) := Nat.cast_le.mpr hge
    linarith only [this, hcN, hDm]
  rcases le_or_gt (if lc then r else r - 1 / (s.length : ℚ)) 0 with b | b
  · -- lower special case: the target is at most one sample
    have hx : indexTarget s r lc ≤ 0 := mul_nonpos_of_nonpos_of_nonneg b hN.le
    have hr : r ≤ 1 / (s.length : ℚ) := by
      rw [le_div_iff₀ hN]; linarith only [hx, (indexTarget_bounds s hne r lc).1]
    have : clip01 r * (s.length : ℚ) ≤ 1 / (s.length : ℚ) * (s.length : ℚ) :=
      mul_le_mul_of_nonneg_right
        (max_le (div_nonneg zero_le_one hN.le) (le_trans (min_le_left _ _) hr)) hN.le
    rw [div_mul_cancel₀ _ hN.ne'] at this
    linarith only [this, hDm, hc0]
  -- the first entry not `< y` has index `cntLt s y`, and `s[c] = interp s c`
  have hsm : y ≤ interp s (cntLt s y : ℚ) := by
    rw [← c06d_getElem_eq_interp s _ hlt]
    by_contra hcon
    exact lt_irrefl _ ((lt_iff_cntLt s (hs.imp le_of_lt) y _ hlt).mp (not_le.mp hcon))
  -- clamping the index target at `N − 1` does not change the interpolated value
  have hxhat : interp s (min (indexTarget s r lc) ((s.length : ℚ) - 1)) =
      interp s (indexTarget s r lc) := by
    rcases le_total (indexTarget s r lc) ((s.length : ℚ) - 1) with hle | hge'
    · rw [min_eq_left hle]
    · rw [min_eq_right hge', c06d_interp_high s _ hge', c06d_interp_high s _ (le_refl _)]
  have hG := c06d_interp_le_invert u hu s hne r lc b
  have hnear := c06d_interp_near s hs (cntLt s y : ℚ) _ D hc0
    (min_le_right (indexTarget s r lc) _) hD (by rw [hxhat]; linarith only [hsm, hG, hy])
  have hx0 : 0 < indexTarget s r lc := mul_pos b hN
  have hxge : clip01 r * (s.length : ℚ) - 1 ≤ indexTarget s r lc := by
    rcases le_total r 0 with hr | hr
    · have : clip01 r = 0 := max_eq_left (le_trans (min_le_left _ _) hr)
      rw [this]; linarith only [hx0]
    · have : clip01 r * (s.length : ℚ) ≤ r * (s.length : ℚ) :=
        mul_le_mul_of_nonneg_right (max_le hr (min_le_left r 1)) hN.le
      linarith only [this, (indexTarget_bounds s hne r lc).1]
  rcases le_total (indexTarget s r lc) ((s.length : ℚ) - 1) with hle | hge'
  · rw [min_eq_left hle] at hnear; linarith only [hnear, hxge]
  · rw [min_eq_right hge'] at hnear; linarith only [hnear, hcN]

/-! ### thresholds of a `Scores` object as functions of the requested rate -/

theorem c06d_min_one_lip (a b : ℚ) (h : a ≤ b) :
    0 ≤ min b 1 - min a 1 ∧ min b 1 - min a 1 ≤ b - a := by
  refine ⟨sub_nonneg.mpr (min_le_min_right 1 h), ?_⟩
  rw [sub_le_sub_iff, ← min_add_add_left]
  exact le_min (add_le_add (min_le_left b 1) le_rfl)
    ((add_comm _ _).trans_le (add_le_add h (min_le_right b 1)))

open Spec in
theorem c06d_normTarget_dist (s : Scores) (metric : Metric) (x y w : ℚ)
    (hr : s.rescale metric y - s.rescale metric x ≤ w)
    (hr' : s.rescale metric x - s.rescale metric y ≤ w) :
    normTarget s metric y - normTarget s metric x ≤ w ∧
      normTarget s metric x - normTarget s metric y ≤ w := by
  unfold normTarget
  split <;> constructor <;> linarith

theorem c06d_len_neg (s : Scores) (h : s.neg.length ≠ 0) :
    (s.neg.length : ℚ) = s.hardNegRatio * (s.nbAllNeg : ℚ) := by
  rw [hardNegRatio_eq s h,
    div_mul_cancel₀ _ (show (s.nbAllNeg : ℚ) ≠ 0 from (denom_pos s .fpr h).ne')]

theorem c06d_len_pos (s : Scores) (h : s.pos.length ≠ 0) :
    (s.pos.length : ℚ) = s.hardPosRatio * (s.nbAllPos : ℚ) := by
  rw [hardPosRatio_eq s h,
    div_mul_cancel₀ _ (show (s.nbAllPos : ℚ) ≠ 0 from (denom_pos s .fnr h).ne')]

/-- **Lipschitz bound of a threshold function (linear) in the requested rate**, both directions,
for a metric whose rescaling is `x ↦ min (x / h) 1` on an array of `h · K` hard samples (`K` counts
the easy samples too: this is where the rescaling by the hard ratio `h` goes). -/
theorem c06d_thrVal_lip (u : Ulp) (hu : u.Lawful) (s : Scores) (metric : Metric)
    (hs : (s.metricArray metric).Pairwise (· ≤ ·)) (hne : (s.metricArray metric).length ≠ 0)
    (h K : ℚ) (hh : 0 < h) (hresc : ∀ x, s.rescale metric x = min (x / h) 1)
    (hlen : ((s.metricArray metric).length : ℚ) = h * K) (x y w : ℚ) (hxy : x ≤ y)
    (hw : y - x ≤ w) :
    thrVal u s metric y - thrVal u s metric x ≤
        K * c06d_maxGap (s.metricArray metric) * w + c06d_jump u (s.metricArray metric) ∧
    thrVal u s metric x - thrVal u s metric y ≤
        K * c06d_maxGap (s.metricArray metric) * w + c06d_jump u (s.metricArray metric) := by
  obtain ⟨m1, m2⟩ := c06d_min_one_lip _ _ (div_le_div_of_nonneg_right hxy hh.le)
  rw [← sub_div, ← hresc, ← hresc] at m2
  rw [← hresc, ← hresc] at m1
  have hwh : (y - x) / h ≤ w / h := div_le_div_of_nonneg_right hw hh.le
  obtain ⟨d1, d2⟩ := c06d_normTarget_dist s metric x y (w / h) (m2.trans hwh)
    (by linarith only [m1, hwh, div_nonneg (sub_nonneg.mpr hxy) hh.le])
  rw [thrVal_eq u s metric x hne, thrVal_eq u s metric y hne]
  have hK : K * c06d_maxGap (s.metricArray metric) * w =
      ((s.metricArray metric).length : ℚ) * c06d_maxGap (s.metricArray metric) * (w / h) := by
    rw [hlen, mul_comm h K, mul_right_comm K h, mul_assoc _ h, mul_div_cancel₀ _ hh.ne']
  rw [hK]
  exact ⟨c06d_invert_lip_abs u hu _ hs hne _ _ _ _ d1 d2,
    c06d_invert_lip_abs u hu _ hs hne _ _ _ _ d2 d1⟩

/-- **Lipschitz bound of `threshold_at_fpr` (linear) in the requested rate**:
`|thr_fpr(y) − thr_fpr(x)| ≤ N_neg · maxGap(neg) · w + sentinel steps` for `x ≤ y ≤ x + w`. -/
theorem c06d_thrVal_fpr_lip (u : Ulp) (hu : u.Lawful) (s : Scores)
    (hn : s.neg.Pairwise (· ≤ ·)) (hne : s.neg.length ≠ 0) (x y w : ℚ) (hxy : x ≤ y)
    (hw : y - x ≤ w) :
    thrVal u s .fpr y - thrVal u s .fpr x ≤
        (s.nbAllNeg : ℚ) * c06d_maxGap s.neg * w + c06d_jump u s.neg ∧
    thrVal u s .fpr x - thrVal u s .fpr y ≤
        (s.nbAllNeg : ℚ) * c06d_maxGap s.neg * w + c06d_jump u s.neg :=
  c06d_thrVal_lip u hu s .fpr hn hne _ _ (hardNegRatio_pos s hne).1 (fun _ => rfl)
    (c06d_len_neg s hne) x y w hxy hw

/-- **Lipschitz bound of `threshold_at_fnr` (linear) in the requested rate.** -/
theorem c06d_thrVal_fnr_lip (u : Ulp) (hu : u.Lawful) (s : Scores)
    (hp : s.pos.Pairwise (· ≤ ·)) (hne : s.pos.length ≠ 0) (x y w : ℚ) (hxy : x ≤ y)
    (hw : y - x ≤ w) :
    thrVal u s .fnr y - thrVal u s .fnr x ≤
        (s.nbAllPos : ℚ) * c06d_maxGap s.pos * w + c06d_jump u s.pos ∧
    thrVal u s .fnr x - thrVal u s .fnr y ≤
        (s.nbAllPos : ℚ) * c06d_maxGap s.pos * w + c06d_jump u s.pos :=
  c06d_thrVal_lip u hu s .fnr hp hne _ _ (hardPosRatio_pos s hne).1 (fun _ => rfl)
    (c06d_len_pos s hne) x y w hxy hw

/-! ### non-vacuity of the main lemmas (list `[0, 1, 3, 4]`, half-step oracle) -/

/-- `c06d_gap_le_max`, `c06d_min_le_gap` -/
example : c06d_minGap [0, 1, 3, 4] = 1 ∧ c06d_maxGap [0, 1, 3, 4] = 2 := by
  constructor <;> decide +kernel

/-- `c06d_interp_cell`, `c06d_interp_lip`, `c06d_interp_invlip` (index targets `1/2 ≤ 5/2 ≤ 3`) -/
example : c06d_minGap [0, 1, 3, 4] * (5 / 2 - 1 / 2) ≤
    interp [0, 1, 3, 4] (5 / 2) - interp [0, 1, 3, 4] (1 / 2) ∧
    interp [0, 1, 3, 4] (5 / 2) - interp [0, 1, 3, 4] (1 / 2) ≤
      c06d_maxGap [0, 1, 3, 4] * (5 / 2 - 1 / 2) :=
  ⟨c06d_interp_invlip [0, 1, 3, 4] (1 / 2) (5 / 2) (by norm_num) (by norm_num)
      (by simp; norm_num),
    c06d_interp_lip [0, 1, 3, 4] (1 / 2) (5 / 2) (by norm_num)⟩

/-- `c06d_invert_lip`, `c06d_invert_lip_abs` -/
example : invertIncreasing Ulp.half [0, 1, 3, 4] (3 / 4) true .linear -
    invertIncreasing Ulp.half [0, 1, 3, 4] (1 / 4) true .linear ≤
      (([0, 1, 3, 4] : List ℚ).length : ℚ) * c06d_maxGap [0, 1, 3, 4] * (3 / 4 - 1 / 4) +
        c06d_jump Ulp.half [0, 1, 3, 4] :=
  c06d_invert_lip Ulp.half Ulp.half_lawful [0, 1, 3, 4] (by simp) true _ _
    (by norm_num)

/-- `c06d_invert_lip_interior`, `c06d_invert_invlip` (targets `1/4 ≤ 1/2`, index targets `1, 2`) -/
example : (([0, 1, 3, 4] : List ℚ).length : ℚ) * c06d_minGap [0, 1, 3, 4] * (1 / 2 - 1 / 4) ≤
    invertIncreasing Ulp.half [0, 1, 3, 4] (1 / 2) true .linear -
      invertIncreasing Ulp.half [0, 1, 3, 4] (1 / 4) true .linear :=
  c06d_invert_invlip Ulp.half [0, 1, 3, 4] true _ _ (by norm_num) (by simp) (by norm_num)
    (by simp [indexTarget]; norm_num)

/-- `c06d_cntLe_near`, `c06d_cntLt_near` (`y` a quarter above the threshold for `r = 1/2`) -/
example :
    (cntLe [0, 1, 3, 4] (invertIncreasing Ulp.half [0, 1, 3, 4] (1 / 2) true .linear + 1 / 4) : ℚ)
    ≤ clip01 (1 / 2) * (([0, 1, 3, 4] : List ℚ).length : ℚ) + 1 +
      (1 / 4) / c06d_minGap [0, 1, 3, 4] ∧
    clip01 (1 / 2) * (([0, 1, 3, 4] : List ℚ).length : ℚ) - 1 - (1 / 4) / c06d_minGap [0, 1, 3, 4] ≤
    (cntLt [0, 1, 3, 4] (invertIncreasing Ulp.half [0, 1, 3, 4] (1 / 2) true .linear + 1 / 4) : ℚ) :=
  have hs : ([0, 1, 3, 4] : List ℚ).Pairwise (· < ·) := by decide +kernel
  ⟨c06d_cntLe_near Ulp.half Ulp.half_lawful [0, 1, 3, 4] hs (by simp) _ true (1 / 4) _
      (by norm_num) (le_refl _),
    c06d_cntLt_near Ulp.half Ulp.half_lawful [0, 1, 3, 4] hs (by simp) _ true (1 / 4) _
      (by norm_num) (by linarith)⟩

end SA

/-
Lemmas about threshold setting: floor/ceil/clamp index arithmetic, the `nextafter` oracle,
sorted lists, and the normal forms of `_invert_increasing_function`, `_threshold_at_ratio` and
`threshold_at_*` with their sentinel cases.
-/
import SA.Model.Threshold
import SA.Model.Eer
import SA.Proofs.Bisect
import Mathlib.Tactic.Linarith
import Mathlib.Tactic.Ring
import Mathlib.Tactic.Positivity
import Mathlib.Data.Rat.Floor
import Mathlib.Algebra.Order.Floor.Ring

namespace SA

/-! ### index arithmetic -/

theorem ceilQ_eq (x : ℚ) : ceilQ x = ⌈x⌉ := by
  unfold ceilQ
  have : (-x).floor = ⌊-x⌋ := rfl
  rw [this, Int.floor_neg]; simp

theorem floor_le_ceilQ (x : ℚ) : x.floor ≤ ceilQ x := by
  rw [ceilQ_eq]; exact Int.floor_le_ceil x

theorem la_range (x : ℚ) : 0 ≤ ((ceilQ x : ℤ) : ℚ) - x ∧ ((ceilQ x : ℤ) : ℚ) - x < 1 := by
  rw [ceilQ_eq]
  exact ⟨sub_nonneg.2 (Int.le_ceil x), by linarith [Int.ceil_lt_add_one x]⟩

theorem ceilQ_cases (x : ℚ) :
    ((x.floor : ℚ) = x ∧ ceilQ x = x.floor) ∨ ceilQ x = x.floor + 1 := by
  show ((⌊x⌋ : ℚ) = x ∧ ceilQ x = ⌊x⌋) ∨ ceilQ x = ⌊x⌋ + 1
  rw [ceilQ_eq]
  rcases eq_or_lt_of_le (Int.floor_le x) with h | h
  · exact Or.inl ⟨h, Int.ceil_eq_iff.mpr ⟨by linarith, h.ge⟩⟩
  · refine Or.inr (Int.ceil_eq_iff.mpr ⟨?_, ?_⟩)
    · push_cast; linarith
    · push_cast; exact (Int.lt_floor_add_one x).le

theorem clampIdx_lt (i : ℤ) (n : ℕ) (hn : n ≠ 0) : clampIdx i n < n := by
  unfold clampIdx; omega

theorem clampIdx_mono (i j : ℤ) (n : ℕ) (h : i ≤ j) : clampIdx i n ≤ clampIdx j n :=
  Int.toNat_le_toNat (max_le_max (min_le_min h le_rfl) le_rfl)

theorem clampIdx_natCast (i n : ℕ) (h : i < n) : clampIdx (i : ℤ) n = i := by
  unfold clampIdx
  rw [min_eq_left (by omega), max_eq_left (Int.natCast_nonneg i), Int.toNat_natCast]

theorem clampIdx_of_nonpos (i : ℤ) (n : ℕ) (h : i ≤ 0) : clampIdx i n = 0 :=
  Int.toNat_eq_zero.mpr (max_le (le_trans (min_le_left _ _) h) le_rfl)

theorem clampIdx_of_ge (i : ℤ) (n : ℕ) (h : (n : ℤ) - 1 ≤ i) : clampIdx i n = n - 1 := by
  unfold clampIdx; rw [min_eq_right h]; omega

/-! `x.floor` is `⌊x⌋` only after unfolding instances, and unifying the two is slow: these lemmas
restate the model's clamped indices through `⌊x⌋`, `⌈x⌉` once. -/

theorem ne_zero_of_target_lt {n : ℕ} {x : ℚ} (hx0 : 0 ≤ x) (hxN : x < n) : n ≠ 0 := by
  rintro rfl; exact absurd hxN (not_lt.2 (by simpa using hx0))

theorem clampIdx_floor (n : ℕ) (x : ℚ) (hx0 : 0 ≤ x) (hxN : x < n) :
    (clampIdx x.floor n : ℤ) = ⌊x⌋ := by
  have hff : x.floor = ⌊x⌋ := rfl
  have h0 : 0 ≤ ⌊x⌋ := Int.floor_nonneg.2 hx0
  have hn : ⌊x⌋ < n := Int.floor_lt.2 (by exact_mod_cast hxN)
  rw [hff, ← Int.toNat_of_nonneg h0, clampIdx_natCast _ _ (by omega)]

theorem clampIdx_ceil (n : ℕ) (x : ℚ) (hx0 : 0 ≤ x) (hn : n ≠ 0) :
    (clampIdx (ceilQ x) n : ℤ) = min ⌈x⌉ ((n : ℤ) - 1) := by
  have h : 0 ≤ min ⌈x⌉ ((n : ℤ) - 1) := le_min (Int.ceil_nonneg hx0) (by omega)
  rw [ceilQ_eq]; unfold clampIdx; rw [max_eq_left h, Int.toNat_of_nonneg h]

theorem clampIdx_floor_ceil_cases (n : ℕ) (x : ℚ) (hx0 : 0 ≤ x) (hxN : x < n) :
    clampIdx (ceilQ x) n = clampIdx x.floor n ∨
      (clampIdx (ceilQ x) n = clampIdx x.floor n + 1 ∧ ⌈x⌉ = ⌊x⌋ + 1) := by
  have hk := clampIdx_floor n x hx0 hxN
  have hj := clampIdx_ceil n x hx0 (ne_zero_of_target_lt hx0 hxN)
  have h1 := Int.floor_le_ceil x
  have h2 := Int.ceil_le_floor_add_one x
  have h3 : ⌊x⌋ < n := Int.floor_lt.2 (by exact_mod_cast hxN)
  rcases le_total ⌈x⌉ ((n : ℤ) - 1) with h | h
  · rw [min_eq_left h] at hj; omega
  · rw [min_eq_right h] at hj; omega

/-! ### the oracle, and sorted lists -/

/-- Hypotheses on the `nextafter` oracle (`Ulp.float64` is not shown to satisfy them). -/
structure Ulp.Lawful (u : Ulp) : Prop where
  down_lt : ∀ x, u.down x < x
  lt_up : ∀ x, x < u.up x

/-- a lawful oracle, for the non-vacuity examples -/
def Ulp.half : Ulp := ⟨fun x => x - 1 / 2, fun x => x + 1 / 2⟩

theorem Ulp.half_lawful : Ulp.half.Lawful :=
  ⟨fun x => sub_lt_self x one_half_pos, fun x => lt_add_of_pos_right x one_half_pos⟩

theorem getD_mono (s : List ℚ) (hs : s.Pairwise (· ≤ ·)) (i j : ℕ) (hij : i ≤ j)
    (hj : j < s.length) :
    s.getD i 0 ≤ s.getD j 0 := by
  rw [getD_eq s i (by omega), getD_eq s j hj]
  rcases Nat.lt_or_ge i j with h | h
  · exact List.pairwise_iff_getElem.mp hs i j (by omega) hj h
  · have : i = j := by omega
    subst this; exact le_refl _

theorem head_le_of_sorted (l : List ℚ) (hs : l.Pairwise (· ≤ ·)) (x : ℚ) (hx : x ∈ l) :
    l.getD 0 0 ≤ x := by
  obtain ⟨i, hi, rfl⟩ := List.getElem_of_mem hx
  rw [← getD_eq l i hi]; exact getD_mono l hs 0 i (Nat.zero_le i) hi

theorem le_last_of_sorted (l : List ℚ) (hs : l.Pairwise (· ≤ ·)) (x : ℚ) (hx : x ∈ l) :
    x ≤ l.getD (l.length - 1) 0 := by
  obtain ⟨i, hi, rfl⟩ := List.getElem_of_mem hx
  rw [← getD_eq l i hi]; exact getD_mono l hs i (l.length - 1) (by omega) (by omega)

theorem down_head_lt {u : Ulp} (hu : u.Lawful) {s : List ℚ} (hs : s.Pairwise (· ≤ ·)) :
    ∀ x ∈ s, u.down (s.getD 0 0) < x := fun x hx =>
  lt_of_lt_of_le (hu.down_lt _) (head_le_of_sorted s hs x hx)

theorem lt_up_last {u : Ulp} (hu : u.Lawful) {s : List ℚ} (hs : s.Pairwise (· ≤ ·)) :
    ∀ x ∈ s, x < u.up (s.getD (s.length - 1) 0) := fun x hx =>
  lt_of_le_of_lt (le_last_of_sorted s hs x hx) (hu.lt_up _)

theorem length_concat (s : Scores) : s.concat.length = s.neg.length + s.pos.length := by
  unfold Scores.concat; rw [length_sortQ, List.length_append]

theorem metricArray_sorted (s : Scores) (hp : s.pos.Pairwise (· ≤ ·))
    (hn : s.neg.Pairwise (· ≤ ·)) (metric : Metric) :
    (s.metricArray metric).Pairwise (· ≤ ·) := by
  cases metric <;> simp only [Scores.metricArray, Scores.concat] <;>
    first | exact hp | exact hn | exact sortQ_pairwise _

/-! ### normal form of `_invert_increasing_function` -/

/-- the `linear` branch of `_invert_increasing_function` for an index target `x` -/
def interp (s : List ℚ) (x : ℚ) : ℚ :=
  (((ceilQ x : ℤ) : ℚ) - x) * s.getD (clampIdx x.floor s.length) 0 +
    (1 - (((ceilQ x : ℤ) : ℚ) - x)) * s.getD (clampIdx (ceilQ x) s.length) 0

/-- the three branches before the special cases -/
def rawThr (s : List ℚ) (x : ℚ) : Method → ℚ
  | .linear => interp s x
  | .lower => s.getD (clampIdx x.floor s.length) 0
  | .higher => s.getD (clampIdx (ceilQ x) s.length) 0

theorem invertIncreasing_eq (u : Ulp) (s : List ℚ) (r : ℚ) (lc : Bool) (m : Method) :
    invertIncreasing u s r lc m =
      if 1 ≤ r then u.up (s.getD (s.length - 1) 0)
      else if (if lc then r else r - 1 / (s.length : ℚ)) ≤ 0 then u.down (s.getD 0 0)
      else rawThr s (indexTarget s r lc) m := by
  unfold invertIncreasing indexTarget rawThr interp
  by_cases h1 : 1 ≤ r
  · simp only [h1, decide_true, if_true]
  · simp only [h1, decide_false, Bool.false_eq_true, if_false]
    split
    · rfl
    · cases m <;> rfl

theorem invertIncreasing_cases (u : Ulp) (s : List ℚ) (r : ℚ) (lc : Bool) :
    (1 ≤ r ∧ ∀ m, invertIncreasing u s r lc m = u.up (s.getD (s.length - 1) 0)) ∨
    (¬ 1 ≤ r ∧ (if lc then r else r - 1 / (s.length : ℚ)) ≤ 0 ∧
      ∀ m, invertIncreasing u s r lc m = u.down (s.getD 0 0)) ∨
    (¬ 1 ≤ r ∧ ¬ (if lc then r else r - 1 / (s.length : ℚ)) ≤ 0 ∧
      ∀ m, invertIncreasing u s r lc m = rawThr s (indexTarget s r lc) m) := by
  by_cases h1 : 1 ≤ r
  · exact Or.inl ⟨h1, fun m => by rw [invertIncreasing_eq, if_pos h1]⟩
  · by_cases h0 : (if lc then r else r - 1 / (s.length : ℚ)) ≤ 0
    · exact Or.inr (Or.inl ⟨h1, h0, fun m => by rw [invertIncreasing_eq, if_neg h1, if_pos h0]⟩)
    · exact Or.inr (Or.inr ⟨h1, h0, fun m => by rw [invertIncreasing_eq, if_neg h1, if_neg h0]⟩)

theorem invertIncreasing_low (u : Ulp) (s : List ℚ) (r : ℚ) (lc : Bool) (m : Method)
    (hr : r ≤ 0) : invertIncreasing u s r lc m = u.down (s.getD 0 0) := by
  have h2 : (if lc = true then r else r - 1 / (s.length : ℚ)) ≤ 0 := by
    split
    · exact hr
    · exact (sub_le_self r (one_div_nonneg.2 (Nat.cast_nonneg _))).trans hr
  rw [invertIncreasing_eq, if_neg (not_le.2 (hr.trans_lt one_pos)), if_pos h2]

theorem invertIncreasing_high (u : Ulp) (s : List ℚ) (r : ℚ) (lc : Bool) (m : Method)
    (hr : 1 ≤ r) : invertIncreasing u s r lc m = u.up (s.getD (s.length - 1) 0) := by
  rw [invertIncreasing_eq, if_pos hr]

theorem invertIncreasing_interior (u : Ulp) (s : List ℚ) (r : ℚ) (lc : Bool)
    (h1 : r < 1) (h0 : 0 < (if lc then r else r - 1 / (s.length : ℚ))) :
    invertIncreasing u s r lc .linear = interp s (indexTarget s r lc) := by
  rw [invertIncreasing_eq, if_neg (not_le.2 h1), if_neg (not_le.2 h0)]; rfl

theorem rawThr_natCast (s : List ℚ) (j : ℕ) (hj : j < s.length) (m : Method) :
    rawThr s (j : ℚ) m = s.getD j 0 := by
  have h1 : (j : ℚ).floor = (j : ℤ) := by show ⌊(j : ℚ)⌋ = _; exact Int.floor_natCast j
  have h2 : ceilQ (j : ℚ) = (j : ℤ) := by rw [ceilQ_eq]; exact Int.ceil_natCast j
  cases m <;> simp only [rawThr, interp, h1, h2, clampIdx_natCast j _ hj]
  push_cast; ring

theorem c08n_rawThr_top (s : List ℚ) (x : ℚ) (h1 : (s.length : ℚ) - 1 ≤ x) (m : Method) :
    rawThr s x m = s.getD (s.length - 1) 0 := by
  have hfl : (s.length : ℤ) - 1 ≤ x.floor := by
    show _ ≤ ⌊x⌋
    exact Int.le_floor.mpr (by push_cast; exact h1)
  have c1 := clampIdx_of_ge _ _ hfl
  have c2 := clampIdx_of_ge _ _ (le_trans hfl (floor_le_ceilQ x))
  cases m <;> simp only [rawThr, interp, c1, c2]
  ring

theorem c08n_rawThr_bottom (s : List ℚ) (x : ℚ) (h : x ≤ 0) (m : Method) :
    rawThr s x m = s.getD 0 0 := by
  have hce : ceilQ x ≤ 0 := by rw [ceilQ_eq]; exact Int.ceil_le.mpr (by push_cast; exact h)
  have c1 := clampIdx_of_nonpos _ s.length (le_trans (floor_le_ceilQ x) hce)
  have c2 := clampIdx_of_nonpos _ s.length hce
  cases m <;> simp only [rawThr, interp, c1, c2]
  ring

/-- The index target is `x = r·N - δ` with `δ = 0` for a left-continuous metric, else `1`. -/
theorem indexTarget_eq (s : List ℚ) (hne : s.length ≠ 0) (r : ℚ) (lc : Bool) :
    indexTarget s r lc = r * (s.length : ℚ) - (if lc then 0 else 1) := by
  have hN : (s.length : ℚ) ≠ 0 := Nat.cast_ne_zero.mpr hne
  cases lc
  · simp only [indexTarget, Bool.false_eq_true, if_false]
    rw [sub_mul, one_div, inv_mul_cancel₀ hN]
  · simp only [indexTarget, if_true, sub_zero]

theorem delta_range (lc : Bool) :
    (0 : ℚ) ≤ (if lc then 0 else 1) ∧ ((if lc then 0 else 1) : ℚ) ≤ 1 := by
  cases lc
  exacts [⟨zero_le_one, le_rfl⟩, ⟨le_rfl, zero_le_one⟩]

theorem indexTarget_bounds (s : List ℚ) (hne : s.length ≠ 0) (r : ℚ) (lc : Bool) :
    r * (s.length : ℚ) - 1 ≤ indexTarget s r lc ∧ indexTarget s r lc ≤ r * (s.length : ℚ) := by
  rw [indexTarget_eq s hne]
  exact ⟨sub_le_sub_left (delta_range lc).2 _, sub_le_self _ (delta_range lc).1⟩

theorem invertIncreasing_index (u : Ulp) (s : List ℚ) (hne : s.length ≠ 0) (r : ℚ) (lc : Bool)
    (m : Method) :
    invertIncreasing u s r lc m =
      if (s.length : ℚ) ≤ r * (s.length : ℚ) then u.up (s.getD (s.length - 1) 0)
      else if indexTarget s r lc ≤ 0 then u.down (s.getD 0 0)
      else rawThr s (indexTarget s r lc) m := by
  have hN : (0 : ℚ) < (s.length : ℚ) := Nat.cast_pos.mpr (Nat.pos_of_ne_zero hne)
  have h0 : ∀ a : ℚ, a * (s.length : ℚ) ≤ 0 ↔ a ≤ 0 := fun a => by
    rw [← not_lt, ← not_lt, mul_pos_iff_of_pos_right hN]
  rw [invertIncreasing_eq]
  simp only [indexTarget, h0, le_mul_iff_one_le_left hN]

theorem invertIncreasing_at_index (u : Ulp) (s : List ℚ) (j : ℕ) (hj0 : 0 < j)
    (hj : j + 1 < s.length) (r : ℚ) (lc : Bool) (m : Method) (hx : indexTarget s r lc = (j : ℚ)) :
    invertIncreasing u s r lc m = s.getD j 0 := by
  have hne : s.length ≠ 0 := by omega
  have hxe := indexTarget_eq s hne r lc
  have hj' : ((j + 1 : ℕ) : ℚ) < (s.length : ℚ) := Nat.cast_lt.mpr hj
  push_cast at hj'
  rw [invertIncreasing_index u s hne, hx, if_neg
      (by linarith only [hx, hxe, hj', (delta_range lc).2]),
    if_neg (not_le.mpr (Nat.cast_pos.mpr hj0)), rawThr_natCast s j (by omega)]

/-! ### normal form of `_threshold_at_ratio` and `threshold_at_*` -/

/-- Is the normalised target the requested one (even number of flips)? -/
def evenFlips (cfg : Cfg) (increasing : Bool) : Bool := increasing == (cfg.scoreClass == .pos)

/-- the continuity flag handed to `_invert_increasing_function` -/
def normLc (cfg : Cfg) (inc : Bool) (rc : Label) : Bool := (normalise cfg 0 inc rc .linear).2.1

theorem normLc_eq (cfg : Cfg) (inc : Bool) (rc : Label) :
    normLc cfg inc rc =
      (((rc == .pos) == (cfg.equalClass == .pos)) == (cfg.scoreClass == .pos)) := by
  obtain ⟨sc, ec⟩ := cfg
  cases sc <;> cases ec <;> cases rc <;> rfl

theorem normalise_fst (cfg : Cfg) (r : ℚ) (inc : Bool) (rc : Label) (m : Method) :
    (normalise cfg r inc rc m).1 = if evenFlips cfg inc then r else 1 - r := by
  obtain ⟨sc, ec⟩ := cfg
  cases inc <;> cases sc <;> simp [normalise, evenFlips]

theorem normalise_lc (cfg : Cfg) (r : ℚ) (inc : Bool) (rc : Label) (m : Method) :
    (normalise cfg r inc rc m).2.1 = normLc cfg inc rc := by
  obtain ⟨sc, ec⟩ := cfg
  cases inc <;> cases sc <;> cases ec <;> cases rc <;> rfl

theorem normalise_method (cfg : Cfg) (r : ℚ) (inc : Bool) (rc : Label) (m : Method) :
    (normalise cfg r inc rc m).2.2 = if evenFlips cfg inc then m else m.reverse := by
  obtain ⟨sc, ec⟩ := cfg
  cases inc <;> cases sc <;> cases m <;> rfl

theorem thresholdAtRatio_eq (u : Ulp) (cfg : Cfg) (a : List ℚ) (r : ℚ) (inc : Bool)
    (rc : Label) (m : Method) :
    thresholdAtRatio u cfg a r inc rc m =
      invertIncreasing u a (if evenFlips cfg inc then r else 1 - r) (normLc cfg inc rc)
        (if evenFlips cfg inc then m else m.reverse) := by
  simp only [thresholdAtRatio, normalise_fst, normalise_lc, normalise_method]

theorem thresholdAtRatio_low (u : Ulp) (cfg : Cfg) (a : List ℚ) (r : ℚ) (inc : Bool)
    (rc : Label) (m : Method) (hr : r ≤ 0) :
    thresholdAtRatio u cfg a r inc rc m =
      if evenFlips cfg inc then u.down (a.getD 0 0) else u.up (a.getD (a.length - 1) 0) := by
  rw [thresholdAtRatio_eq]
  split_ifs
  · exact invertIncreasing_low _ _ _ _ _ hr
  · exact invertIncreasing_high _ _ _ _ _ (by linarith)

theorem thresholdAtRatio_high (u : Ulp) (cfg : Cfg) (a : List ℚ) (r : ℚ) (inc : Bool)
    (rc : Label) (m : Method) (hr : 1 ≤ r) :
    thresholdAtRatio u cfg a r inc rc m =
      if evenFlips cfg inc then u.up (a.getD (a.length - 1) 0) else u.down (a.getD 0 0) := by
  rw [thresholdAtRatio_eq]
  split_ifs
  · exact invertIncreasing_high _ _ _ _ _ hr
  · exact invertIncreasing_low _ _ _ _ _ (by linarith)

/-- the target handed to `_invert_increasing_function` -/
def normTarget (s : Scores) (metric : Metric) (r : ℚ) : ℚ :=
  if evenFlips s.cfg metric.increasing then s.rescale metric r else 1 - s.rescale metric r

theorem thresholdAt_eq (u : Ulp) (s : Scores) (metric : Metric) (r : ℚ) (m : Method)
    (hne : (s.metricArray metric).length ≠ 0) :
    s.thresholdAt u metric r m = .ok (invertIncreasing u (s.metricArray metric)
      (normTarget s metric r) (normLc s.cfg metric.increasing metric.ratioClass)
      (if evenFlips s.cfg metric.increasing then m else m.reverse)) := by
  unfold Scores.thresholdAt
  rw [if_neg hne, thresholdAtRatio_eq, normTarget]

theorem thresholdAt_ok {u : Ulp} {s : Scores} {metric : Metric} {r t : ℚ} {m : Method}
    (h : s.thresholdAt u metric r m = .ok t) :
    (s.metricArray metric).length ≠ 0 ∧
      invertIncreasing u (s.metricArray metric) (normTarget s metric r)
        (normLc s.cfg metric.increasing metric.ratioClass)
        (if evenFlips s.cfg metric.increasing then m else m.reverse) = t := by
  have hne : (s.metricArray metric).length ≠ 0 := by
    intro h0; simp [Scores.thresholdAt, h0] at h
  rw [thresholdAt_eq u s metric r m hne] at h
  exact ⟨hne, Except.ok.inj h⟩

/-- `linear` is its own reverse, so for it the method needs no case distinction. -/
theorem thresholdAt_linear (ulp : Ulp) (s : Scores) (metric : Metric) (r : ℚ)
    (hne : (s.metricArray metric).length ≠ 0) :
    s.thresholdAt ulp metric r .linear = .ok (invertIncreasing ulp (s.metricArray metric)
      (normTarget s metric r) (normLc s.cfg metric.increasing metric.ratioClass) .linear) := by
  rw [thresholdAt_eq ulp s metric r .linear hne]
  split <;> rfl

theorem thresholdAt_linear_ok {u : Ulp} {s : Scores} {metric : Metric} {r t : ℚ}
    (h : s.thresholdAt u metric r .linear = .ok t) :
    (s.metricArray metric).length ≠ 0 ∧
      invertIncreasing u (s.metricArray metric) (normTarget s metric r)
        (normLc s.cfg metric.increasing metric.ratioClass) .linear = t := by
  have hne := (thresholdAt_ok h).1
  rw [thresholdAt_linear u s metric r hne] at h
  exact ⟨hne, Except.ok.inj h⟩

theorem thrVal_eq (u : Ulp) (s : Scores) (metric : Metric) (x : ℚ)
    (hne : (s.metricArray metric).length ≠ 0) :
    thrVal u s metric x = invertIncreasing u (s.metricArray metric) (normTarget s metric x)
      (normLc s.cfg metric.increasing metric.ratioClass) .linear := by
  unfold thrVal
  rw [thresholdAt_linear u s metric x hne]

theorem thrVal_ok (u : Ulp) (s : Scores) (metric : Metric) (r : ℚ)
    (h : (s.metricArray metric).length ≠ 0) :
    s.thresholdAt u metric r .linear = .ok (thrVal u s metric r) := by
  unfold thrVal
  rw [thresholdAt_linear u s metric r h]

end SA

/-
C01 — the confusion matrix at a threshold equals counting by the documented decision rule.
-/
import SA.Proofs.Bisect
import SA.Spec.C01

namespace SA

/-- **C01 (cells).** For any input lists (unsorted, with duplicates, shared values, empty),
any easy counts, any of the four configurations and any threshold (incl. ±inf), the matrix
of the constructed object is the count by the decision rule, easy positives added to TP and
easy negatives to TN. -/
theorem C01_cells (pos neg : List Rat) (ep en : Nat) (cfg : Cfg) (t : ERat) :
    (Scores.make pos neg ep en cfg false).cm t = countCM pos neg ep en cfg t := by
  rw [cm_eq_countCM_of_sorted (Scores.make pos neg ep en cfg false)
    (sortQ_pairwise pos) (sortQ_pairwise neg) t]
  simp only [Scores.make, Bool.false_eq_true, if_false, countCM, countP_sortQ]

/-- **C01 (is_sorted=True).** Same under the caller's contract that the inputs are sorted. -/
theorem C01_cells_sorted_flag (pos neg : List Rat) (ep en : Nat) (cfg : Cfg) (t : ERat)
    (hp : pos.Pairwise (· ≤ ·)) (hn : neg.Pairwise (· ≤ ·)) :
    (Scores.make pos neg ep en cfg true).cm t = countCM pos neg ep en cfg t := by
  exact cm_eq_countCM_of_sorted (Scores.make pos neg ep en cfg true) hp hn t

/-- **C01 (totals).** TP+FN and FP+TN do not depend on the threshold. -/
theorem C01_totals (pos neg : List Rat) (ep en : Nat) (cfg : Cfg) (t : ERat) :
    let m := (Scores.make pos neg ep en cfg false).cm t
    m.tp + m.fn = pos.length + ep ∧ m.fp + m.tn = neg.length + en := by
  simp only [C01_cells]
  exact countCM_totals pos neg ep en cfg t

theorem pointwiseCell_eq (cfg : Cfg) (b : Bool) (x : Rat) (t : ERat) :
    pointwiseCell cfg b x t =
      ⟨(accept cfg x t && b).toNat, (!accept cfg x t && b).toNat,
       (accept cfg x t && !b).toNat, (!accept cfg x t && !b).toNat⟩ := by
  obtain ⟨sc, ec⟩ := cfg
  cases sc <;> cases ec <;> simp only [pointwiseCell, accept, Bool.not_not, Bool.and_comm]

theorem countP_cons_toNat {α : Type} (p : α → Bool) (a : α) (l : List α) :
    (a :: l).countP p = (p a).toNat + l.countP p := by
  rw [List.countP_cons, Nat.add_comm]; cases p a <;> rfl

theorem foldl_add_indicator {α : Type} (p1 p2 p3 p4 : α → Bool) (l : List α) (acc : CM) :
    l.foldl (fun acc s => acc.add ⟨(p1 s).toNat, (p2 s).toNat, (p3 s).toNat, (p4 s).toNat⟩) acc =
      acc.add ⟨l.countP p1, l.countP p2, l.countP p3, l.countP p4⟩ := by
  induction l generalizing acc with
  | nil => rfl
  | cons a l ih =>
    rw [List.foldl_cons, ih]
    simp only [CM.add, countP_cons_toNat, Nat.add_assoc]

/-- **C01 (pointwise).** Summing the per-sample membership array of `pointwise_cm` over the
samples gives the matrix obtained by counting (no easy samples), for any label encoding. -/
theorem C01_pointwise_sum (cfg : Cfg) (samples : List (Bool × Rat)) (t : ERat) :
    pointwiseSum cfg samples t =
      countCM ((samples.filter (fun s => s.1)).map (·.2))
        ((samples.filter (fun s => !s.1)).map (·.2)) 0 0 cfg t := by
  unfold pointwiseSum
  simp only [pointwiseCell_eq]
  rw [foldl_add_indicator]
  simp only [countCM, CM.add, List.countP_map, List.countP_filter, Nat.zero_add, Nat.add_zero]
  rfl

/-- **C01 (from_labels).** `from_labels` followed by `cm` equals the pointwise sum plus the
easy samples; in particular both routes give the same matrix. -/
theorem C01_from_labels (cfg : Cfg) (samples : List (Bool × Rat)) (ep en : Nat) (t : ERat) :
    (Scores.fromLabels samples ep en cfg false).cm t =
      (pointwiseSum cfg samples t).add ⟨ep, 0, 0, en⟩ := by
  unfold Scores.fromLabels
  rw [C01_cells, C01_pointwise_sum]
  simp [countCM, CM.add]

/-! ### The executable spec clauses hold of the model (what the driver evaluates on the
implementation's observed output is proved of the model for all inputs). -/

theorem C01_spec_cells (pos neg : List Rat) (ep en : Nat) (cfg : Cfg) (t : ERat) :
    Spec.C01.cellsOK pos neg ep en cfg t ((Scores.make pos neg ep en cfg false).cm t) = true := by
  simp [Spec.C01.cellsOK, C01_cells]

theorem C01_spec_totals (pos neg : List Rat) (ep en : Nat) (cfg : Cfg) (t : ERat) :
    Spec.C01.totalsOK pos neg ep en ((Scores.make pos neg ep en cfg false).cm t) = true := by
  have := C01_totals pos neg ep en cfg t
  simp only [Spec.C01.totalsOK, Bool.and_eq_true, beq_iff_eq]
  exact this

theorem C01_spec_pointwise (cfg : Cfg) (samples : List (Bool × Rat)) (t : ERat) :
    Spec.C01.pointwiseOK cfg samples t (pointwiseSum cfg samples t) = true := by
  simp [Spec.C01.pointwiseOK, C01_pointwise_sum]

/-- Non-vacuity: a concrete unsorted input with ties across classes and easy samples
(evaluated through the theorem; the hypothesis of the `is_sorted` variant is satisfiable). -/
example : (Scores.make [3, 1, 2, 2] [2, 0, 5] 4 7 ⟨.neg, .pos⟩ false).cm (.fin 2)
    = ⟨3 + 4, 1, 2, 1 + 7⟩ := by rw [C01_cells]; decide +kernel

example : ([1, 2, 2, 3] : List Rat).Pairwise (· ≤ ·) := by decide +kernel

end SA

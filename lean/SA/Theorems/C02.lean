/-
C02 — threshold setting round-trips within one sample; its methods are coherent and monotone
in the target.
-/
import SA.Proofs.Counts
import SA.Proofs.Coherence
import SA.Theorems.C03

namespace SA
open Spec

theorem div_sub_le_iff {x c d : ℚ} (hd : 0 < d) : x / d - 1 / d ≤ c ↔ x - 1 ≤ c * d := by
  rw [← sub_div, div_le_iff₀ hd]

theorem le_div_add_iff {x c d : ℚ} (hd : 0 < d) : c ≤ x / d + 1 / d ↔ c * d ≤ x + 1 := by
  rw [← add_div, le_div_iff₀ hd]

theorem absQ_le (x d : ℚ) : absQ x ≤ d ↔ -d ≤ x ∧ x ≤ d := by
  by_cases hx : x < 0
  · simp only [absQ, hx, if_true]
    constructor
    · intro h; constructor <;> linarith
    · intro h; linarith [h.1]
  · simp only [absQ, hx, if_false]
    constructor
    · intro h; constructor <;> linarith
    · intro h; exact h.2

/-- **C02 (bracket).** For all six metrics, four configurations, easy counts and every real
target `r`: the values of the metric at any threshold below and any threshold above the
returned (linear) threshold bracket `r` clipped to the achievable range to within one sample
of the relevant population (easy samples included). Ties are allowed. -/
theorem C02_bracket (u : Ulp) (hu : u.Lawful) (s : Scores)
    (hp : s.pos.Pairwise (· ≤ ·)) (hn : s.neg.Pairwise (· ≤ ·))
    (metric : Metric) (r thr : ℚ) (h : s.thresholdAt u metric r .linear = .ok thr)
    (tB tA : ℚ) (hB : tB < thr) (hA : thr < tA) :
    C02.bracketOK s metric r 0 (s.cm (.fin tB)) (s.cm (.fin tA)) = true := by
  obtain ⟨hne, hthr⟩ := thresholdAt_linear_ok h
  obtain ⟨hL, hU⟩ := invert_bracket u hu _ (metricArray_sorted s hp hn metric) hne
    (normTarget s metric r) (normLc s.cfg metric.increasing metric.ratioClass)
  rw [hthr] at hL hU
  have hd := denom_pos s metric hne
  have h1 : (belowCount s.cfg (s.metricArray metric) tB : ℚ) ≤
      cntLt (s.metricArray metric) thr := by
    exact_mod_cast (belowCount_le_cntLe s.cfg _ tB).trans (cntLe_le_cntLt_of_lt _ tB thr hB)
  have h2 : (cntLe (s.metricArray metric) thr : ℚ) ≤
      belowCount s.cfg (s.metricArray metric) tA := by
    exact_mod_cast (cntLe_le_cntLt_of_lt _ thr tA hA).trans (cntLt_le_belowCount s.cfg _ tA)
  simp only [C02.bracketOK, rateQ, Bool.and_eq_true, decide_eq_true_eq, sub_zero, add_zero]
  rw [min_div_div_right hd.le, max_div_div_right hd.le, div_sub_le_iff hd, le_div_add_iff hd,
    clipped_mul_denom s metric r hne, rateNum_eq_cast s hp hn, rateNum_eq_cast s hp hn]
  -- the count is increasing in the threshold for an even number of flips, decreasing otherwise
  split_ifs
  · exact ⟨(sub_le_sub_right (min_le_left _ _) _).trans (by linarith only [h1, hL]),
      le_trans (by linarith only [h2, hU]) (add_le_add (le_max_right _ _) le_rfl)⟩
  · exact ⟨(sub_le_sub_right (min_le_right _ _) _).trans (by linarith only [h2, hU]),
      le_trans (by linarith only [h1, hL]) (add_le_add (le_max_left _ _) le_rfl)⟩

theorem pairwise_of_strictlySorted : ∀ l : List ℚ, C02.strictlySorted l = true → l.Pairwise (· < ·)
  | [] => by simp
  | [a] => by simp
  | a :: b :: rest => by
    intro h
    simp only [C02.strictlySorted, Bool.and_eq_true, decide_eq_true_eq] at h
    have ih := pairwise_of_strictlySorted (b :: rest) h.2
    have ih' := List.pairwise_cons.mp ih
    rw [List.pairwise_cons]
    refine ⟨?_, ih⟩
    intro x hx
    rcases List.mem_cons.mp hx with rfl | hx
    · exact h.1
    · exact lt_trans h.1 (ih'.1 x hx)

/-- **C02 (round trip, tie-free).** If the relevant scored samples are pairwise distinct, the
metric evaluated by the same object at the returned (linear) threshold is within one sample
(1/N of the relevant population, easy samples included) of the target clipped to the
achievable range — all six metrics, four configurations, all easy counts, every real target. -/
theorem C02_within (u : Ulp) (hu : u.Lawful) (s : Scores)
    (hp : s.pos.Pairwise (· ≤ ·)) (hn : s.neg.Pairwise (· ≤ ·))
    (metric : Metric) (r thr : ℚ) (h : s.thresholdAt u metric r .linear = .ok thr)
    (htf : C02.strictlySorted (s.metricArray metric) = true) :
    C02.withinOK s metric r 0 (s.cm (.fin thr)) = true := by
  obtain ⟨hne, hthr⟩ := thresholdAt_linear_ok h
  have hb1 := cntLt_le_belowCount s.cfg (s.metricArray metric) thr
  have hb2 := belowCount_le_cntLe s.cfg (s.metricArray metric) thr
  rw [← hthr] at hb1 hb2
  obtain ⟨hL, hU⟩ := invert_within u hu _ (pairwise_of_strictlySorted _ htf) hne _ _ _ hb1 hb2
  rw [hthr] at hL hU
  simp only [C02.withinOK, rateQ, decide_eq_true_eq, add_zero]
  have hd := denom_pos s metric hne
  rw [absQ_le, neg_le_sub_iff_le_add, sub_le_comm, le_div_add_iff hd, div_sub_le_iff hd,
    clipped_mul_denom s metric r hne,
    rateNum_eq_cast s hp hn]
  split_ifs <;> constructor <;> linarith only [hL, hU]

/-- **C02 (tie-free, spec form).** -/
theorem C02_tiefree (u : Ulp) (hu : u.Lawful) (s : Scores)
    (hp : s.pos.Pairwise (· ≤ ·)) (hn : s.neg.Pairwise (· ≤ ·))
    (metric : Metric) (r thr : ℚ) (h : s.thresholdAt u metric r .linear = .ok thr) :
    C02.tiefreeOK s metric r 0 (s.cm (.fin thr)) = true := by
  unfold C02.tiefreeOK
  split
  · rename_i htf; exact C02_within u hu s hp hn metric r thr h htf
  · rfl

/-! ### coherence of the three methods -/

/-- **C02 (members).** `lower` and `higher` return an actual sample score of the relevant
class, or the sentinel one ulp outside the score range. -/
theorem C02_member (u : Ulp) (s : Scores) (metric : Metric) (r t : ℚ) (m : Method)
    (hm : m ≠ .linear) (h : s.thresholdAt u metric r m = .ok t) :
    C02.memberOK u s metric t = true := by
  obtain ⟨hne, rfl⟩ := thresholdAt_ok h
  have hm' : (if evenFlips s.cfg metric.increasing then m else m.reverse) ≠ .linear := by
    split
    · exact hm
    · cases m <;> simp [Method.reverse] at hm ⊢
  simp only [C02.memberOK, Bool.or_eq_true, List.contains_iff_mem, beq_iff_eq]
  rcases invert_member u (s.metricArray metric) hne (normTarget s metric r)
    (normLc s.cfg metric.increasing metric.ratioClass) _ hm' with a | a | a
  · exact Or.inl (Or.inl a)
  · exact Or.inl (Or.inr a)
  · exact Or.inr a

/-- **C02 (order).** metric(lower) ≤ metric(higher), for all metrics and configurations: this
is where the method reversal for decreasing metrics and for `score_class = neg` matters. -/
theorem C02_order (u : Ulp) (s : Scores) (hp : s.pos.Pairwise (· ≤ ·)) (hn : s.neg.Pairwise (· ≤ ·))
    (metric : Metric) (r tLo tHi : ℚ)
    (hLo : s.thresholdAt u metric r .lower = .ok tLo)
    (hHi : s.thresholdAt u metric r .higher = .ok tHi) :
    C02.orderOK metric (s.cm (.fin tLo)) (s.cm (.fin tHi)) = true := by
  obtain ⟨hne, rfl⟩ := thresholdAt_ok hLo
  obtain ⟨-, rfl⟩ := thresholdAt_ok hHi
  obtain ⟨o1, o2⟩ := invert_order u _ (metricArray_sorted s hp hn metric) hne
    (normTarget s metric r) (normLc s.cfg metric.increasing metric.ratioClass)
  have o := belowCount_mono s.cfg (s.metricArray metric) _ _ (le_trans o1 o2)
  simp only [C02.orderOK, decide_eq_true_eq, rateNum_eq s hp hn]
  split_ifs
  · exact Nat.add_le_add_left o _
  · exact Nat.add_le_add_left (Nat.sub_le_sub_left o _) _

/-- **C02 (between).** The linear threshold lies between the `lower` and `higher` ones. -/
theorem C02_between (u : Ulp) (s : Scores) (hp : s.pos.Pairwise (· ≤ ·))
    (hn : s.neg.Pairwise (· ≤ ·))
    (metric : Metric) (r tLin tLo tHi : ℚ)
    (hLin : s.thresholdAt u metric r .linear = .ok tLin)
    (hLo : s.thresholdAt u metric r .lower = .ok tLo)
    (hHi : s.thresholdAt u metric r .higher = .ok tHi) :
    C02.betweenOK tLin tLo tHi 0 = true := by
  obtain ⟨hne, rfl⟩ := thresholdAt_linear_ok hLin
  obtain ⟨-, rfl⟩ := thresholdAt_ok hLo
  obtain ⟨-, rfl⟩ := thresholdAt_ok hHi
  obtain ⟨o1, o2⟩ := invert_order u _ (metricArray_sorted s hp hn metric) hne
    (normTarget s metric r) (normLc s.cfg metric.increasing metric.ratioClass)
  simp only [C02.betweenOK, Bool.and_eq_true, decide_eq_true_eq, sub_zero, add_zero]
  split_ifs
  · exact ⟨le_trans (min_le_left _ _) o1, le_trans o2 (le_max_right _ _)⟩
  · exact ⟨le_trans (min_le_right _ _) o1, le_trans o2 (le_max_left _ _)⟩

/-- **C02 (convex).** For interior targets the linear threshold equals the convex combination
of the two neighbouring sample thresholds, weighted by the fractional part of the index
target (`⌈x⌉ - x`). -/
theorem C02_convex (u : Ulp) (s : Scores) (metric : Metric) (r tLin tLo tHi : ℚ)
    (hLin : s.thresholdAt u metric r .linear = .ok tLin)
    (hLo : s.thresholdAt u metric r .lower = .ok tLo)
    (hHi : s.thresholdAt u metric r .higher = .ok tHi) :
    C02.convexOK s metric r tLin tLo tHi 0 = true := by
  obtain ⟨hne, rfl⟩ := thresholdAt_linear_ok hLin
  obtain ⟨-, rfl⟩ := thresholdAt_ok hLo
  obtain ⟨-, rfl⟩ := thresholdAt_ok hHi
  unfold C02.convexOK
  simp only [normalise_fst, normalise_lc, normalise_method]
  unfold normTarget
  rw [ite_eq_left_iff]
  intro hcond
  simp only [Bool.or_eq_true, decide_eq_true_eq, not_or] at hcond
  rw [invert_convex u (s.metricArray metric) _
    (normLc s.cfg metric.increasing metric.ratioClass) hcond.1 hcond.2]
  -- for an odd number of flips the observed `higher` threshold is the normalised `lower` one
  have hb : (Method.higher == Method.lower) = false := by decide
  have h0 : ∀ x : ℚ, decide (absQ (x - x) ≤ 0) = true := fun x => by rw [sub_self]; simp [absQ]
  by_cases he : evenFlips s.cfg metric.increasing = true
  · simp only [he, if_true, beq_self_eq_true]; exact h0 _
  · simp only [he, if_false, Bool.false_eq_true, Method.reverse, hb]; exact h0 _

/-! ### monotonicity in the target -/

/-- **C02 (monotone).** For every metric, configuration and method the returned threshold is
a monotone function of the target; the direction is given by the metric and `score_class`. -/
theorem C02_monotone (u : Ulp) (hu : u.Lawful) (s : Scores)
    (hp : s.pos.Pairwise (· ≤ ·)) (hn : s.neg.Pairwise (· ≤ ·))
    (metric : Metric) (m : Method) (r1 r2 t1 t2 : ℚ) (h : r1 ≤ r2)
    (h1 : s.thresholdAt u metric r1 m = .ok t1) (h2 : s.thresholdAt u metric r2 m = .ok t2) :
    if C02.thresholdIncreasing s.cfg metric then t1 ≤ t2 else t2 ≤ t1 := by
  obtain ⟨hne, rfl⟩ := thresholdAt_ok h1
  obtain ⟨-, rfl⟩ := thresholdAt_ok h2
  have harr := metricArray_sorted s hp hn metric
  have hr := rescale_mono s metric r1 r2 h
  have hev : C02.thresholdIncreasing s.cfg metric = evenFlips s.cfg metric.increasing := rfl
  rw [hev]
  unfold normTarget
  split_ifs
  · exact invert_mono u hu _ harr hne _ _ _ _ hr
  · exact invert_mono u hu _ harr hne _ _ _ _ (by linarith)

/-- list form: thresholds of ascending targets satisfy the executable predicate -/
theorem C02_monotoneOK (u : Ulp) (hu : u.Lawful) (s : Scores)
    (hp : s.pos.Pairwise (· ≤ ·)) (hn : s.neg.Pairwise (· ≤ ·))
    (metric : Metric) (m : Method) :
    ∀ (rs ts : List ℚ), rs.Pairwise (· ≤ ·) →
      List.Forall₂ (fun r t => s.thresholdAt u metric r m = .ok t) rs ts →
      C02.monotoneOK s.cfg metric 0 ts = true := by
  intro rs ts hrs hf
  induction hf with
  | nil => rfl
  | @cons r t rs' ts' hrt hrest ih =>
    cases hrest with
    | nil => rfl
    | @cons r2 t2 rs'' ts'' hrt2 hrest2 =>
      rw [List.pairwise_cons] at hrs
      have hmono := C02_monotone u hu s hp hn metric m r r2 t t2 (hrs.1 r2 (by simp)) hrt hrt2
      unfold C02.monotoneOK
      simp only [Bool.and_eq_true, add_zero]
      refine ⟨?_, ih hrs.2⟩
      split_ifs at hmono ⊢ <;> simpa using hmono

end SA

namespace SA
/-- Non-vacuity: the hypotheses of the C02 theorems are satisfiable (a lawful oracle, a
successful call on tie-free data with easy samples). -/
example : Ulp.half.Lawful ∧
    (∃ thr, (Scores.make [3, 1, 4, 2] [0, 1] 5 2 ⟨.neg, .pos⟩ false).thresholdAt Ulp.half .tnr
      (1 / 2) .linear = .ok thr) ∧
    Spec.C02.strictlySorted [1, 2, 3, 4] = true := by
  refine ⟨Ulp.half_lawful, ?_, by decide +kernel⟩
  rw [C03_error_iff]; simp [Scores.metricArray, Scores.make, length_sortQ]
end SA

/-
C03 — extreme operating points are honoured exactly.
-/
import SA.Proofs.Counts

namespace SA
open Spec

def Metric.usesPos : Metric → Bool
  | .tnr => false
  | .fpr => false
  | _ => true

def Metric.usesNeg : Metric → Bool
  | .tpr => false
  | .fnr => false
  | _ => true

theorem forall_mem_metricArray (s : Scores) (metric : Metric) (P : ℚ → Prop)
    (hP : metric.usesPos = true → ∀ x ∈ s.pos, P x)
    (hN : metric.usesNeg = true → ∀ x ∈ s.neg, P x) : ∀ x ∈ s.metricArray metric, P x := by
  have hc : ∀ x ∈ s.concat, (x ∈ s.neg ∨ x ∈ s.pos) := fun x hx =>
    List.mem_append.1 ((sortQ_perm _).mem_iff.1 hx)
  cases metric
  · exact hP rfl
  · exact hP rfl
  · exact hN rfl
  · exact hN rfl
  · exact fun x hx => (hc x hx).elim (hN rfl x) (hP rfl x)
  · exact fun x hx => (hc x hx).elim (hN rfl x) (hP rfl x)

/-- the condition in `rateNum_below` / `rateNum_above` is an odd number of flips -/
theorem evenFlips_iff (cfg : Cfg) (inc : Bool) :
    evenFlips cfg inc = true ↔ ¬ ((cfg.scoreClass = .pos) = (inc = false)) := by
  obtain ⟨sc, ec⟩ := cfg
  cases sc <;> cases inc <;> simp [evenFlips]

/-- Counting at a threshold below every relevant score: with `score_class = pos` everything is
accepted, otherwise nothing is. -/
theorem rateNum_below (s : Scores) (metric : Metric) (t : ℚ)
    (hP : metric.usesPos = true → ∀ x ∈ s.pos, t < x)
    (hN : metric.usesNeg = true → ∀ x ∈ s.neg, t < x) :
    (countCM s.pos s.neg s.easyPos s.easyNeg s.cfg (.fin t)).rateNum metric =
      if (s.cfg.scoreClass = .pos) = (metric.increasing = false)
      then maxNum s metric else minNum s metric := by
  rw [rateNum_countCM, belowCount_of_all_gt _ _ _ (forall_mem_metricArray s metric _ hP hN),
    maxNum_eq]
  by_cases he : evenFlips s.cfg metric.increasing = true
  · rw [if_pos he, if_neg ((evenFlips_iff _ _).1 he)]; rfl
  · rw [if_neg he, if_pos (not_not.1 (mt (evenFlips_iff _ _).2 he))]; rfl

/-- Counting at a threshold above every relevant score. -/
theorem rateNum_above (s : Scores) (metric : Metric) (t : ℚ)
    (hP : metric.usesPos = true → ∀ x ∈ s.pos, x < t)
    (hN : metric.usesNeg = true → ∀ x ∈ s.neg, x < t) :
    (countCM s.pos s.neg s.easyPos s.easyNeg s.cfg (.fin t)).rateNum metric =
      if (s.cfg.scoreClass = .pos) = (metric.increasing = false)
      then minNum s metric else maxNum s metric := by
  rw [rateNum_countCM, belowCount_of_all_lt _ _ _ (forall_mem_metricArray s metric _ hP hN),
    maxNum_eq, Nat.sub_self]
  by_cases he : evenFlips s.cfg metric.increasing = true
  · rw [if_pos he, if_neg ((evenFlips_iff _ _).1 he)]
  · rw [if_neg he, if_pos (not_not.1 (mt (evenFlips_iff _ _).2 he))]; rfl

/-- **C03 (low end).** For every metric, configuration, easy counts and method: a target
`r ≤ 0` yields a threshold at which the metric's count is exactly its lowest achievable
value. Holds for any `nextafter` oracle with `down x < x < up x`. -/
theorem C03_extreme_low (u : Ulp) (hu : u.Lawful) (s : Scores)
    (hp : s.pos.Pairwise (· ≤ ·)) (hn : s.neg.Pairwise (· ≤ ·))
    (metric : Metric) (m : Method) (r : ℚ) (hr : r ≤ 0) (thr : ℚ)
    (h : s.thresholdAt u metric r m = .ok thr) :
    (s.cm (.fin thr)).rateNum metric = minNum s metric := by
  obtain ⟨hne, rfl⟩ := thresholdAt_ok h
  have harr := metricArray_sorted s hp hn metric
  have hlow := rescale_low s metric r hr
  -- the normalised target is `≤ 0` (lower sentinel, nothing below) or, flipped, `≥ 1`
  -- (upper sentinel, everything below)
  rw [rateNum_eq s hp hn, normTarget]
  split_ifs
  · rw [invertIncreasing_low _ _ _ _ _ hlow, belowCount_of_all_gt _ _ _ (down_head_lt hu harr)]
    rfl
  · rw [invertIncreasing_high _ _ _ _ _ (by linarith),
      belowCount_of_all_lt _ _ _ (lt_up_last hu harr), Nat.sub_self]
    rfl

/-- **C03 (high end).** A target `r ≥ 1` yields a threshold at which the metric's count is
exactly its highest achievable value. -/
theorem C03_extreme_high (u : Ulp) (hu : u.Lawful) (s : Scores)
    (hp : s.pos.Pairwise (· ≤ ·)) (hn : s.neg.Pairwise (· ≤ ·))
    (metric : Metric) (m : Method) (r : ℚ) (hr : 1 ≤ r) (thr : ℚ)
    (h : s.thresholdAt u metric r m = .ok thr) :
    (s.cm (.fin thr)).rateNum metric = maxNum s metric := by
  obtain ⟨hne, rfl⟩ := thresholdAt_ok h
  have harr := metricArray_sorted s hp hn metric
  have hhigh := rescale_high s metric r hr hne
  rw [rateNum_eq s hp hn, normTarget, maxNum_eq]
  split_ifs
  · rw [invertIncreasing_high _ _ _ _ _ hhigh, belowCount_of_all_lt _ _ _ (lt_up_last hu harr)]
  · rw [invertIncreasing_low _ _ _ _ _ (by linarith),
      belowCount_of_all_gt _ _ _ (down_head_lt hu harr)]
    rfl

/-- **C03 (spec form, constructed object).** The executable predicate the driver evaluates on
the implementation's matrices holds of the model for every input, unsorted lists included. -/
theorem C03_spec_extreme (u : Ulp) (hu : u.Lawful) (pos neg : List ℚ) (ep en : ℕ) (cfg : Cfg)
    (metric : Metric) (m : Method) (r : ℚ) (thr : ℚ)
    (h : (Scores.make pos neg ep en cfg false).thresholdAt u metric r m = .ok thr) :
    C03.extremeOK (Scores.make pos neg ep en cfg false) metric r
      ((Scores.make pos neg ep en cfg false).cm (.fin thr)) = true := by
  have hp : (Scores.make pos neg ep en cfg false).pos.Pairwise (· ≤ ·) := sortQ_pairwise pos
  have hn : (Scores.make pos neg ep en cfg false).neg.Pairwise (· ≤ ·) := sortQ_pairwise neg
  unfold C03.extremeOK
  by_cases h0 : r ≤ 0
  · have h1 : ¬ (1 ≤ r) := by linarith
    simp [h0, h1, C03_extreme_low u hu _ hp hn metric m r h0 thr h]
  · by_cases h1 : 1 ≤ r
    · simp [h0, h1, C03_extreme_high u hu _ hp hn metric m r h1 thr h]
    · simp [h0, h1]

/-- The error branch: threshold setting fails exactly when the relevant class is empty. -/
theorem C03_error_iff (u : Ulp) (s : Scores) (metric : Metric) (m : Method) (r : ℚ) :
    (∃ thr, s.thresholdAt u metric r m = .ok thr) ↔ (s.metricArray metric).length ≠ 0 := by
  unfold Scores.thresholdAt
  split <;> simp_all

example : ∃ thr, (Scores.make [5] [3, 1, 2] 0 0 ⟨.pos, .pos⟩ false).thresholdAt Ulp.half .fpr 0
    .linear = .ok thr := by
  rw [C03_error_iff]; simp [Scores.metricArray, Scores.make, length_sortQ]

end SA

/-
C04, third tie — `utils.binomial_ci` regenerated from the source (`SA/Model/CIDefs.lean`,
`harness/cidefs.py`).

* `modelCI_eval`: the model's row in the IR evaluates to `SA.binomialCI` for EVERY count, nobs, z
  and every total square-root function (no hypothesis: the IR row is the code), NaN exactly when
  `nobs = 0` (`modelCI_nan_iff`).
* `ci_bridge`: a translated row the checker accepts evaluates to `SA.binomialCI` on every input and
  asks `isf` for `alpha / 2`, so `C04_ci_spec` / `_mirror` / `_nested` / `ci_fl_error` apply to the
  translated code.
* `checkCI_mismatch_sound`: a reported mismatch is another `isf` argument, another stacking axis, or
  a witness `(count, nobs, z)` at which a limit differs from the model's under the exact square root
  on rational squares, both values inside the fragment.

Left out: `ok` means equality with the model's row as data.  There is no canonical form "(centre,
z^2 * radicand)", so the mathematically equal rewrites `sqrt(z*z*p*(1-p)/n)` and `sqrt((p/n)*(1-p))`
come out `undecided`, not `ok`.
-/
import SA.Model.CIDefs
import SA.Proofs.Checkers
import Mathlib.Algebra.Order.Field.Rat
import Mathlib.Tactic.SplitIfs

namespace SA.CIDefs
open SA SA.MetricExpr

/-- the model's row evaluates to the model's `binomialCI` for every input and every square-root
function -/
theorem modelCI_eval (z : ℚ) (sqrt : ℚ → ℚ) (c n : ℚ) :
    (modelCIDef.lo.eval c n z (fun x => some (sqrt x)), modelCIDef.hi.eval c n z (fun x => some (sqrt x))) =
      match binomialCI z sqrt c n with
      | none => (Val.nan, Val.nan)
      | some (lo, hi) => (Val.num lo, Val.num hi) := by
  simp only [modelCIDef, CExpr.eval, Val.whereNZ, binomialCI, divQ]
  split_ifs with hn
  · rfl
  · simp only [Val.div, if_neg hn, Val.sub, vmul, vsqrt, Val.add, Int.cast_one]

/-- NaN exactly when there is no trial -/
theorem modelCI_nan_iff (z : ℚ) (sqrt : ℚ → ℚ) (c n : ℚ) :
    modelCIDef.lo.eval c n z (fun x => some (sqrt x)) = Val.nan ↔ n = 0 := by
  have h := modelCI_eval z sqrt c n
  by_cases hn : n = 0
  · simp only [hn, iff_true]
    rw [hn] at h
    simp only [binomialCI, divQ, if_true] at h
    exact (Prod.mk.inj h).1
  · simp only [hn, iff_false]
    simp only [binomialCI, divQ, hn, if_false] at h
    rw [(Prod.mk.inj h).1]
    intro hc; cases hc

theorem checkCI_ok_sound (d : CIDef) (h : checkCI d = .ok) : d = modelCIDef := by
  unfold checkCI at h
  by_cases hd : d = modelCIDef
  · exact hd
  · simp only [hd, if_false] at h
    split at h
    · cases h
    · split at h
      · cases h
      · split at h <;> cases h

/-- **bridge**: an accepted row computes the model's `binomialCI` on every input, asks `isf` for
`alpha / 2` and stacks the limits along the last axis -/
theorem ci_bridge (d : CIDef) (h : checkCI d = .ok) :
    d.isfA = 1 / 2 ∧ d.isfB = 0 ∧ d.stackAxis = -1 ∧
    ∀ (z : ℚ) (sqrt : ℚ → ℚ) (c n : ℚ),
      (d.lo.eval c n z (fun x => some (sqrt x)), d.hi.eval c n z (fun x => some (sqrt x))) =
        match binomialCI z sqrt c n with
        | none => (Val.nan, Val.nan)
        | some (lo, hi) => (Val.num lo, Val.num hi) := by
  rw [checkCI_ok_sound d h]
  exact ⟨rfl, rfl, rfl, modelCI_eval⟩

/-- a reported mismatch is definite -/
theorem checkCI_mismatch_sound (d : CIDef) (i : Nat) (h : checkCI d = .mismatch i) :
    (i = 100 ∧ (d.isfA ≠ 1 / 2 ∨ d.isfB ≠ 0)) ∨ (i = 101 ∧ d.stackAxis ≠ -1) ∨
    ∃ w, ciWitnesses[i]? = some w ∧ differsAt d w = true := by
  unfold checkCI at h
  by_cases hd : d = modelCIDef
  · simp [hd] at h
  · simp only [hd, if_false] at h
    split at h
    · rename_i hne
      cases h
      exact Or.inl ⟨rfl, by simpa [modelCIDef] using hne⟩
    · split at h
      · rename_i hax
        cases h
        exact Or.inr (Or.inl ⟨rfl, by simpa [modelCIDef] using hax⟩)
      · split at h
        · rename_i k hk
          cases h
          exact Or.inr (Or.inr (SA.CmDefs.firstIdx_zero_sound hk))
        · cases h

/-- the model's row is accepted; a wrong tail and `p(1-p)/n^2` are definite mismatches; the equal
rewrite `sqrt(z*z*p*(1-p)/n)` is `undecided` (not an alarm) -/
example : checkCI modelCIDef = .ok := by decide +kernel
example : checkCI { modelCIDef with isfA := 1 } = .mismatch 100 := by decide +kernel
example :
    let p := CExpr.guard .nobs (.divRaw .count .nobs)
    let std := CExpr.sqrt
      (.guard .nobs (.divRaw (.divRaw (.mul p (.sub (.const 1) p)) .nobs) .nobs))
    checkCI ⟨.sub p (.mul .z std), .add p (.mul .z std), 1 / 2, 0, -1⟩ = .mismatch 0 := by decide +kernel
example :
    let p := CExpr.guard .nobs (.divRaw .count .nobs)
    let d := CExpr.sqrt (.guard .nobs
      (.divRaw (.mul (.mul .z .z) (.mul p (.sub (.const 1) p))) .nobs))
    checkCI ⟨.sub p d, .add p d, 1 / 2, 0, -1⟩ = .undecided := by decide +kernel

end SA.CIDefs

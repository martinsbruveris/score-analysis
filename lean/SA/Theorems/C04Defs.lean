/-
C04 — the definitions of `score_analysis/metrics.py` as regenerated from the source
(`harness/metricdefs.py`, IR and checker in `SA/Model/MetricExpr.lean`).

An expression and its normal form have the same value on EVERY matrix with rational cells
(`normalize_sound`); the normal forms listed for the model are the model's functions `SA.CMq.*`
(`model_table_sound`, `model_ci_sound`); hence every name in the `covered` list of the generated theorem
`generated_c04_defs_ok : checkAll translated = ⟨closed, mismatches, covered⟩` denotes the model's metric
for all matrices (`checkAll_covered_sound`), and every entry of `mismatches` comes with a concrete
matrix on which the two differ (`checkAll_mismatch_sound`).
-/
import SA.Model.MetricExpr
import SA.Proofs.Rates
import SA.Proofs.Checkers
import Mathlib.Tactic.Ring
import Mathlib.Data.List.Chain

namespace SA.MetricExpr
open SA

/-! ### linear forms -/

theorem Lin.eval_add (x y : Lin) (m : CMq) : (x.add y).eval m = x.eval m + y.eval m := by
  simp only [Lin.eval, Lin.add, Int.cast_add]; ring

theorem Lin.eval_sub (x y : Lin) (m : CMq) : (x.sub y).eval m = x.eval m - y.eval m := by
  simp only [Lin.eval, Lin.sub, Int.cast_sub]; ring

theorem Lin.eval_smul (s : Int) (x : Lin) (m : CMq) : (x.smul s).eval m = s * x.eval m := by
  simp only [Lin.eval, Lin.smul, Int.cast_mul]; ring

theorem Lin.eval_zero (m : CMq) : Lin.zero.eval m = 0 := by
  simp [Lin.eval, Lin.zero]

theorem Lin.eval_basic (m : CMq) :
    Lin.eval ⟨1, 0, 0, 0, 0⟩ m = m.tp ∧ Lin.eval ⟨0, 1, 0, 0, 0⟩ m = m.fn ∧
    Lin.eval ⟨0, 0, 1, 0, 0⟩ m = m.fp ∧ Lin.eval ⟨0, 0, 0, 1, 0⟩ m = m.tn ∧
    Lin.eval ⟨1, 1, 0, 0, 0⟩ m = m.tp + m.fn ∧ Lin.eval ⟨0, 0, 1, 1, 0⟩ m = m.fp + m.tn ∧
    Lin.eval ⟨1, 0, 1, 0, 0⟩ m = m.tp + m.fp ∧ Lin.eval ⟨0, 1, 0, 1, 0⟩ m = m.fn + m.tn ∧
    Lin.eval ⟨1, 1, 1, 1, 0⟩ m = m.tp + m.fn + m.fp + m.tn ∧
    Lin.eval ⟨1, 0, 0, 1, 0⟩ m = m.tp + m.tn ∧ Lin.eval ⟨0, 1, 1, 0, 0⟩ m = m.fn + m.fp := by
  simp only [Lin.eval, Int.cast_zero, Int.cast_one, zero_mul, one_mul, add_zero, zero_add, and_self]

theorem Lin.isConst_eval {x : Lin} {k : Int} (h : x.isConst = some k) (m : CMq) : x.eval m = k := by
  unfold Lin.isConst at h
  split_ifs at h with hc
  obtain ⟨h1, h2, h3, h4⟩ := hc
  cases h
  simp only [Lin.eval, h1, h2, h3, h4, Int.cast_zero, zero_mul, zero_add]

/-! ### the arithmetic of normal forms -/

/-- `nfAdd`, `nfSub` are `nfBin Lin.add`, `nfBin Lin.sub` -/
def nfBin (lop : Lin → Lin → Lin) : NF → NF → Option NF
  | .lin x, .lin y => some (.lin (lop x y))
  | .ratio n d, .lin y => y.isConst.map fun k => .ratio (lop n (d.smul k)) d
  | .lin x, .ratio n d => x.isConst.map fun k => .ratio (lop (d.smul k) n) d
  | .ratio n d, .ratio n' d' => if d = d' then some (.ratio (lop n n') d) else none

/-- `Val.add`, `Val.sub` are `Val.bin (+)`, `Val.bin (-)` -/
def Val.bin (op : ℚ → ℚ → ℚ) : Val → Val → Val
  | .bad, _ => .bad
  | .nan, .bad => .bad
  | .nan, _ => .nan
  | .num _, .bad => .bad
  | .num _, .nan => .nan
  | .num a, .num b => .num (op a b)

/-- all that is used of `+` and `-`: they commute with division by a common denominator, so a
quotient over `d` combined with a constant `k = k * d / d`, or with another quotient over `d`, is
again one -/
theorem nfBin_sound {lop : Lin → Lin → Lin} {op : ℚ → ℚ → ℚ}
    (hl : ∀ x y m, (lop x y).eval m = op (x.eval m) (y.eval m))
    (hdiv : ∀ a b d : ℚ, op a b / d = op (a / d) (b / d))
    {x y z : NF} (h : nfBin lop x y = some z) (m : CMq) : Val.bin op (x.eval m) (y.eval m) = z.eval
      m := by
  match x, y, h with
  | .lin a, .lin b, h =>
    cases h
    simp only [NF.eval, Val.bin, hl]
  | .lin a, .ratio n d, h | .ratio n d, .lin a, h =>
    obtain ⟨k, hk, rfl⟩ := Option.map_eq_some_iff.1 h
    simp only [NF.eval, hl, Lin.eval_smul, Lin.isConst_eval hk m]
    split_ifs with hd
    · rfl
    · simp only [Val.bin, hdiv, mul_div_cancel_right₀ _ hd]
  | .ratio n d, .ratio n' d', h =>
    simp only [nfBin] at h
    split_ifs at h with hdd
    subst hdd
    cases h
    simp only [NF.eval, hl]
    split_ifs with hd
    · rfl
    · simp only [Val.bin, hdiv]

theorem nfAdd_sound {x y z : NF} (h : nfAdd x y = some z) (m : CMq) :
    (x.eval m).add (y.eval m) = z.eval m := by
  have e1 : nfAdd = nfBin Lin.add := by funext x y; cases x <;> cases y <;> rfl
  have e2 : Val.add = Val.bin (· + ·) := by funext a b; cases a <;> cases b <;> rfl
  rw [e1] at h
  rw [e2]
  exact nfBin_sound Lin.eval_add add_div h m

theorem nfSub_sound {x y z : NF} (h : nfSub x y = some z) (m : CMq) :
    (x.eval m).sub (y.eval m) = z.eval m := by
  have e1 : nfSub = nfBin Lin.sub := by funext x y; cases x <;> cases y <;> rfl
  have e2 : Val.sub = Val.bin (· - ·) := by funext a b; cases a <;> cases b <;> rfl
  rw [e1] at h
  rw [e2]
  exact nfBin_sound Lin.eval_sub sub_div h m

/-! ### facts of the enclosing branches -/

theorem knows_iff {ctx : Ctx} {l : Lin} {b : Bool} : knows ctx l b = true ↔ (l, b) ∈ ctx := by
  simp only [knows, List.any_eq_true, Bool.and_eq_true, decide_eq_true_eq, beq_iff_eq]
  exact ⟨fun ⟨_, hp, h1, h2⟩ => h1 ▸ h2 ▸ hp, fun h => ⟨_, h, rfl, rfl⟩⟩

theorem knows_true {ctx : Ctx} {m : CMq} (hc : ctx.Holds m) {l : Lin} (h : knows ctx l true = true)
    :
    l.eval m ≠ 0 :=
  (hc _ (knows_iff.1 h)).1 rfl

theorem knows_false {ctx : Ctx} {m : CMq} (hc : ctx.Holds m) {l : Lin}
    (h : knows ctx l false = true) :
    l.eval m = 0 :=
  (hc _ (knows_iff.1 h)).2 rfl

theorem Ctx.Holds.nil (m : CMq) : Ctx.Holds [] m := by
  intro p hp; cases hp

theorem Ctx.Holds.cons_true {ctx : Ctx} {m : CMq} (hc : ctx.Holds m) {l : Lin} (h : l.eval m ≠ 0) :
    Ctx.Holds ((l, true) :: ctx) m := by
  intro p hp
  rcases List.mem_cons.mp hp with rfl | hp
  · exact ⟨fun _ => h, fun h' => by cases h'⟩
  · exact hc p hp

theorem Ctx.Holds.cons_false {ctx : Ctx} {m : CMq} (hc : ctx.Holds m) {l : Lin} (h : l.eval m = 0) :
    Ctx.Holds ((l, false) :: ctx) m := by
  intro p hp
  rcases List.mem_cons.mp hp with rfl | hp
  · exact ⟨fun h' => (by cases h'), fun _ => h⟩
  · exact hc p hp

theorem nanWhereZero_sound {l : Lin} {nb : NF} (h : nanWhereZero l nb = true) {m : CMq}
    (hl : l.eval m = 0) : nb.eval m = .nan := by
  cases nb with
  | lin _ => cases h
  | ratio n d =>
    simp only [nanWhereZero, Bool.or_eq_true, decide_eq_true_eq] at h
    have hd : d.eval m = 0 := by
      rcases h with rfl | rfl
      · exact Lin.eval_zero m
      · exact hl
    simp only [NF.eval, hd, if_true]

theorem nfWhere_sound {l : Lin} {na nb z : NF} (h : nfWhere l na nb = some z) (m : CMq)
    (va vb : Val)
    (ha : l.eval m ≠ 0 → va = na.eval m) (hb : l.eval m = 0 → vb = nb.eval m) :
    Val.whereNZ (.num (l.eval m)) va vb = z.eval m := by
  have hv : Val.whereNZ (.num (l.eval m)) va vb = if l.eval m = 0 then nb.eval m else na.eval m :=
    by
    show (if l.eval m = 0 then vb else va) = _
    split_ifs with hl
    · exact hb hl
    · exact ha hl
  rw [hv]
  unfold nfWhere at h
  split_ifs at h with he
  · cases h
    rw [he, ite_self]
  · cases na with
    | lin _ => cases h
    | ratio n d =>
      simp only at h
      split_ifs at h with hc
      cases h
      obtain ⟨rfl, hz⟩ := hc
      split_ifs with hl
      · rw [nanWhereZero_sound hz hl]
        simp only [NF.eval, if_pos hl]
      · rfl

/-! ### `normalize_sound` -/

theorem cellLin_sound {i j : Nat} {l : Lin} (h : cellLin i j = some l) (m : CMq) :
    Val.ofIdx (cellVal m i j) = .num (l.eval m) := by
  unfold cellLin at h
  split at h <;> cases h <;> simp only [cellVal, Val.ofIdx, Lin.eval_basic m]

theorem rowLin_sound {i : Nat} {l : Lin} (h : rowLin i = some l) (m : CMq) :
    Val.ofIdx (rowVal m i) = .num (l.eval m) := by
  unfold rowLin at h
  split at h <;> cases h <;> simp only [rowVal, Val.ofIdx, Lin.eval_basic m]

theorem colLin_sound {j : Nat} {l : Lin} (h : colLin j = some l) (m : CMq) :
    Val.ofIdx (colVal m j) = .num (l.eval m) := by
  unfold colLin at h
  split at h <;> cases h <;> simp only [colVal, Val.ofIdx, Lin.eval_basic m]

/-- **normal forms are sound.**  For ALL rational cell values: if the callees' values are those of
their normal forms and the facts of the enclosing branches hold of the matrix, an expression has the
value of its normal form. (`oneMinus (safeDiv n d)` becomes `ratio (d - n) d`; see
`normalize_oneMinus_safeDiv`.) -/
theorem normalize_sound (env : Nat → Option NF) (venv : Nat → Val) (m : CMq)
    (henv : ∀ s nf, env s = some nf → venv s = nf.eval m) :
    ∀ (e : Expr) (ctx : Ctx) (nf : NF), ctx.Holds m → normalize env ctx e = some nf →
      eval venv m e = nf.eval m := by
  intro e ctx nf hc h
  induction e generalizing ctx nf with
  | cell i j =>
    obtain ⟨l, hl, rfl⟩ := Option.map_eq_some_iff.1 h
    exact cellLin_sound hl m
  | rowSum i =>
    obtain ⟨l, hl, rfl⟩ := Option.map_eq_some_iff.1 h
    exact rowLin_sound hl m
  | colSum j =>
    obtain ⟨l, hl, rfl⟩ := Option.map_eq_some_iff.1 h
    exact colLin_sound hl m
  | total | diagSum | const c | nan =>
    cases h
    simp [eval, NF.eval, Lin.eval, Lin.zero]
  | add a b iha ihb | sub a b iha ihb =>
    simp only [normalize] at h
    split at h
    · rename_i x y ha hb
      simp only [eval, iha ctx x hc ha, ihb ctx y hc hb]
      first | exact nfAdd_sound h m | exact nfSub_sound h m
    · cases h
  | divRaw a b iha ihb =>
    simp only [normalize] at h
    split at h
    · rename_i n d ha hb
      split_ifs at h with hk
      cases h
      simp only [eval, iha ctx _ hc ha, ihb ctx _ hc hb, NF.eval, Val.div, if_neg
        (knows_true hc hk)]
    · cases h
  | whereNZ c a b ihc iha ihb =>
    simp only [normalize] at h
    split at h
    · rename_i l hcn
      simp only [eval, ihc ctx _ hc hcn, NF.eval]
      split_ifs at h with hk1 hk2
      · simp only [Val.whereNZ, if_neg (knows_true hc hk1)]
        exact iha ctx nf hc h
      · simp only [Val.whereNZ, if_pos (knows_false hc hk2)]
        exact ihb ctx nf hc h
      · split at h
        · rename_i na nb hna hnb
          exact nfWhere_sound h m _ _ (fun hl => iha _ na (hc.cons_true hl) hna)
            (fun hl => ihb _ nb (hc.cons_false hl) hnb)
        · cases h
    · cases h
  | call s =>
    exact henv s nf h

/-- the interesting case: `1 - np.divide(n, d, out=nan, where=d != 0)` is `(d - n) / d`, NaN iff `d
= 0` -/
theorem normalize_oneMinus_safeDiv (env : Nat → Option NF) (n d : Expr) (ln ld : Lin)
    (hn : ∀ ctx, normalize env ctx n = some (.lin ln)) (hd : ∀ ctx, normalize env ctx d = some (.lin ld)) :
    normalize env [] (.oneMinus (.safeDiv n d)) = some (.ratio ((ld.smul 1).sub ln) ld) := by
  simp [Expr.oneMinus, Expr.safeDiv, normalize, hn, hd, knows, nfWhere, nanWhereZero, nfSub,
    Lin.isConst]

/-- ... whose value is `(d - n) / d` -/
theorem oneMinus_safeDiv_value (ln ld : Lin) (m : CMq) :
    (NF.ratio ((ld.smul 1).sub ln) ld).eval m =
      if ld.eval m = 0 then .nan else .num ((ld.eval m - ln.eval m) / ld.eval m) := by
  simp only [NF.eval, Lin.eval_sub, Lin.eval_smul, Int.cast_one, one_mul]

/-! ### the model's table -/

theorem ofOpt_divQ (a b : ℚ) : Val.ofOpt (divQ a b) = if b = 0 then .nan else .num (a / b) := by
  unfold divQ; split <;> rfl

theorem lookup_forall₂ {β γ : Type} {R : β → γ → Prop} {l₁ : List (Nat × β)} {l₂ : List (Nat × γ)}
    (h : List.Forall₂ (fun p q => p.1 = q.1 ∧ R p.2 q.2) l₁ l₂) {s : Nat} {b : β}
    (hb : l₁.lookup s = some b) : ∃ c, l₂.lookup s = some c ∧ R b c := by
  induction h with
  | nil => cases hb
  | @cons p q _ _ hpq _ ih =>
    obtain ⟨k, v⟩ := p
    obtain ⟨k', w⟩ := q
    obtain ⟨rfl, hR⟩ : k = k' ∧ R v w := hpq
    rw [List.lookup_cons] at hb ⊢
    cases hs : s == k with
    | true => rw [hs] at hb; cases hb; exact ⟨w, rfl, hR⟩
    | false => rw [hs] at hb; exact ih hb

/-- every normal form listed for the model is the model's function of that name, on every matrix -/
theorem base_table_sound :
    ∀ s nf, baseNF.lookup s = some nf → ∃ f, baseFn.lookup s = some f ∧ ∀ m, nf.eval m = f m := by
  intro s nf
  refine lookup_forall₂ (R := fun (nf : NF) (f : CMq → Val) => ∀ m, nf.eval m = f m) ?_
  unfold baseNF baseFn
  -- the two literal tables are walked in step: one goal per entry
  repeat' constructor
  all_goals
    intro m
    simp only [NF.eval, Lin.eval_basic m, CMq.errorRate_eq, CMq.fdr_eq, CMq.for_eq, CMq.accuracy,
      CMq.tpr, CMq.fnr,
      CMq.tnr, CMq.fpr, CMq.topr, CMq.tonr, CMq.ppv, CMq.npv, CMq.p, CMq.n, CMq.top, CMq.ton,
        CMq.pop, ofOpt_divQ]

theorem base_ci_sound :
    ∀ s c n, baseCI.lookup s = some (c, n) → ∃ F, baseCIFn.lookup s = some F ∧
      ∀ z sq m, F z sq m = binomialCI z sq (c.eval m) (n.eval m) := by
  intro s c n
  refine lookup_forall₂ (R := fun (cn : Lin × Lin) (F : ℚ → (ℚ → ℚ) → CMq → Option (ℚ × ℚ)) =>
    ∀ z sq m, F z sq m = binomialCI z sq (cn.1.eval m) (cn.2.eval m)) ?_
  unfold baseCI baseCIFn
  repeat' constructor
  all_goals
    intro z sq m
    simp only [CMq.tprCI, CMq.tnrCI, CMq.fprCI, CMq.fnrCI, CMq.p, CMq.n, Lin.eval_basic m]

/-- **the model's table is the model.**  The normal form listed under a public name (aliases and
`ConfusionMatrix` methods resolved by `canon`) is the model's function `SA.CMq.*` on every
matrix. -/
theorem model_table_sound (s : Nat) (nf : NF) (h : modelNF s = some nf) :
    ∃ f, modelFn s = some f ∧ ∀ m, nf.eval m = f m :=
  base_table_sound (canon s) nf h

/-- the interval functions of the model hand `(count, nobs)` of the table to `binomialCI` -/
theorem model_ci_sound (s : Nat) (c n : Lin) (h : modelCI s = some (c, n)) :
    ∃ F, modelCIFn s = some F ∧ ∀ z sq m, F z sq m = binomialCI z sq (c.eval m) (n.eval m) :=
  base_ci_sound (canon s) c n h

/-- **equal normal forms, equal functions.**  If the normal form of a translated definition equals
(as data) the one listed for the metric `s` in the model's table, the translated definition is the
model's metric on all matrices (given that the callees' values are those of their normal forms). -/
theorem nf_eq_model (env : Nat → Option NF) (e : Expr) (s : Nat) (nf : NF)
    (h1 : normalize env [] e = some nf) (h2 : modelNF s = some nf) :
    ∃ f, modelFn s = some f ∧ ∀ (venv : Nat → Val) (m : CMq),
      (∀ t nf', env t = some nf' → venv t = nf'.eval m) → eval venv m e = f m := by
  obtain ⟨f, hf, hfm⟩ := model_table_sound s nf h2
  refine ⟨f, hf, fun venv m henv => ?_⟩
  rw [normalize_sound env venv m henv e [] nf (Ctx.Holds.nil m) h1, hfm]

/-! ### tables -/

/-- the normal form computed for a definition of a table is its value on every matrix -/
theorem nfOf_sound : ∀ (defs : List Def) (s : Nat) (nf : NF), nfOf defs s = some nf →
    ∀ m, sem defs s m = nf.eval m := by
  intro defs
  induction defs with
  | nil => intro s nf h; simp [nfOf] at h
  | cons d rest ih =>
    intro s nf h m
    simp only [nfOf] at h
    simp only [sem]
    by_cases hn : d.id = s
    · simp only [hn, if_true] at h ⊢
      cases hb : d.body with
      | value e =>
        simp only [hb] at h ⊢
        exact normalize_sound (nfOf rest) _ m (fun t nf' ht => ih t nf' ht m) e [] nf
          (Ctx.Holds.nil m) h
      | ci c n => simp [hb] at h
      | ciOf c => simp [hb] at h
    · simp only [hn, if_false] at h ⊢
      exact ih s nf h m

/-- the two linear forms computed for an interval function are what it hands to `binomial_ci` on
every matrix -/
theorem ciNfOf_sound : ∀ (defs : List Def) (s : Nat) (lc ln : Lin), ciNfOf defs s = some (lc, ln) →
    ∀ m, semCI defs s m = some (.num (lc.eval m), .num (ln.eval m)) := by
  intro defs
  induction defs with
  | nil => intro s lc ln h; simp [ciNfOf] at h
  | cons d rest ih =>
    intro s lc ln h m
    simp only [ciNfOf] at h
    simp only [semCI]
    by_cases hn : d.id = s
    · simp only [hn, if_true] at h ⊢
      cases hb : d.body with
      | value e => simp [hb] at h
      | ciOf c =>
        simp only [hb] at h ⊢
        exact ih c lc ln h m
      | ci c n =>
        simp only [hb] at h ⊢
        split at h
        · rename_i a b h1 h2
          cases h
          have hval := fun e nf => normalize_sound (nfOf rest) _ m
            (fun t nf' ht => nfOf_sound rest t nf' ht m)
            e [] nf (Ctx.Holds.nil m)
          rw [hval c _ h1, hval n _ h2]
          rfl
        · cases h
    · simp only [hn, if_false] at h ⊢
      exact ih s lc ln h m

/-- what verdict `ok` means: the definition IS the model's metric of that name on every matrix with
rational cells, or (interval functions) hands the model's `(count, nobs)` to `binomial_ci` -/
def Denotes (defs : List Def) (s : Nat) : Prop :=
  (∃ f, modelFn s = some f ∧ ∀ m, sem defs s m = f m) ∨
  (∃ F, modelCIFn s = some F ∧ ∀ m, ∃ c n : ℚ, semCI defs s m = some (.num c, .num n) ∧
    ∀ z sq, F z sq m = binomialCI z sq c n)

theorem verdict_ok_sound (defs : List Def) (s : Nat) (h : verdict defs s = .ok)
    : Denotes defs s := by
  unfold verdict at h
  split at h
  · rename_i mnf h1
    split_ifs at h with h2
    · obtain ⟨f, hf, hfm⟩ := model_table_sound s mnf h1
      exact Or.inl ⟨f, hf, fun m => (nfOf_sound defs s mnf h2 m).trans (hfm m)⟩
    · split at h <;> cases h
  · rename_i mc mn _ h3
    split_ifs at h with h2
    · obtain ⟨F, hF, hFm⟩ := model_ci_sound s mc mn h3
      exact Or.inr ⟨F, hF, fun m => ⟨_, _, ciNfOf_sound defs s mc mn h2 m, fun z sq => hFm z sq m⟩⟩
    · split at h <;> cases h
  · cases h

/-- **the generated theorem's `covered` list.**  Every name in the `covered` component of
`checkAll translated` denotes the model's metric for all matrices. -/
theorem checkAll_covered_sound (table : List Def) (s : Nat) (h : s ∈ (checkAll table).covered) :
    Denotes table.reverse s := by
  simp only [checkAll, List.mem_filter, beq_iff_eq] at h
  exact verdict_ok_sound _ _ h.2

/-- what a `mismatch i` verdict means: on the concrete matrix `witnesses[i]` the translated
definition has a value inside the fragment that is not the model's (or hands `binomial_ci` a pair
with another centre / radicand) -/
def DiffersAt (defs : List Def) (s : Nat) (w : CMq) : Prop :=
  (∃ f, modelFn s = some f ∧ sem defs s w ≠ .bad ∧ sem defs s w ≠ f w) ∨
  (∃ (mc mn : Lin) (c n : ℚ), modelCI s = some (mc, mn) ∧ semCI defs s w = some (.num c, .num n) ∧
    binomialCIParts c n ≠ binomialCIParts (mc.eval w) (mn.eval w))

theorem verdict_mismatch_sound (defs : List Def) (s : Nat) (i : Nat)
    (h : verdict defs s = .mismatch i) :
    ∃ w, witnesses[i]? = some w ∧ DiffersAt defs s w := by
  unfold verdict at h
  split at h
  · rename_i mnf h1
    split_ifs at h with h2
    split at h
    · rename_i j hj
      cases h
      obtain ⟨w, hw, hp⟩ := SA.CmDefs.firstIdx_zero_sound (firstIdx_eq _ _ _ ▸ hj)
      obtain ⟨f, hf, hfm⟩ := model_table_sound s mnf h1
      have := Val.differs_iff.1 hp
      exact ⟨w, hw, Or.inl ⟨f, hf, this.1, hfm w ▸ this.2.2⟩⟩
    · cases h
  · rename_i mc mn _ h3
    split_ifs at h with h2
    split at h
    · rename_i j hj
      cases h
      obtain ⟨w, hw, hp⟩ := SA.CmDefs.firstIdx_zero_sound (firstIdx_eq _ _ _ ▸ hj)
      refine ⟨w, hw, Or.inr ?_⟩
      split at hp
      · rename_i a hs
        unfold ciDiffers at hp
        split at hp
        · exact ⟨mc, mn, _, _, h3, hs, of_decide_eq_true hp⟩
        · cases hp
      · cases hp
    · cases h
  · cases h

/-- **the generated theorem's `mismatches` list.**  Every entry names a concrete matrix on which the
translated definition differs from the model. -/
theorem checkAll_mismatch_sound (table : List Def) (s : Nat) (i : Nat)
    (h : (s, i) ∈ (checkAll table).mismatches) :
    ∃ w, witnesses[i]? = some w ∧ DiffersAt table.reverse s w := by
  simp only [checkAll, List.mem_filterMap] at h
  obtain ⟨t, _, ht⟩ := h
  split at ht
  · rename_i j hj
    cases ht
    exact verdict_mismatch_sound _ _ _ hj
  · cases ht

/-- two `(count, nobs)` pairs with different centre / radicand give different intervals (already for
`z = 1` and the identity in place of the square root) -/
theorem ci_parts_differ (c n c' n' : ℚ) (h : binomialCIParts c n ≠ binomialCIParts c' n') :
    binomialCI 1 id c n ≠ binomialCI 1 id c' n' := by
  -- the interval is `(centre - radicand, centre + radicand)`, from which both can be read off
  have hmap : ∀ c n, binomialCI 1 id c n = (binomialCIParts c n).map fun q =>
    (q.1 - q.2, q.1 + q.2) := by
    intro c n
    unfold binomialCI binomialCIParts
    cases divQ c n <;> simp only [Option.map, one_mul, id]
  have hinj : Function.Injective fun q : ℚ × ℚ => (q.1 - q.2, q.1 + q.2) :=
    Function.LeftInverse.injective (g := fun q => ((q.1 + q.2) / 2, (q.2 - q.1) / 2))
      fun q => Prod.ext (by ring) (by ring)
  rw [hmap, hmap]
  exact fun he => h (Option.map_injective hinj he)

/-! ### satisfiability of the hypotheses, examples, counter-examples -/

/-- the public names have distinct numbers, every number the alias table mentions is a public name,
and the tables list exactly the numbered names -/
theorem nameIds_wellformed :
    (nameIds.map (·.2)).Nodup ∧
    aliasOf.all (fun p => (nameIds.any fun q => q.2 == p.1) && (nameIds.any fun q => q.2 == p.2)) = true ∧
    (baseNF.map (·.1) ++ baseCI.map (·.1) ++ aliasOf.map (·.1)).Perm (nameIds.map (·.2)) := by
  -- the numbers are listed in increasing order, and the tables list them in the same order as
  -- `nameIds`: the base
  -- definitions first, then the aliases, whose targets are base definitions
  have hlt : (nameIds.map (·.2)).IsChain (· < ·) := by decide +kernel
  have heq : baseNF.map (·.1) ++ baseCI.map (·.1) ++ aliasOf.map (·.1) = nameIds.map (·.2) := by decide +kernel
  have htgt : aliasOf.all (fun p => (baseNF.map (·.1) ++ baseCI.map (·.1)).contains p.2) = true := by decide +kernel
  have hmem : ∀ n, n ∈ nameIds.map (·.2) → (nameIds.any fun q => q.2 == n) = true := fun n hn => by
    obtain ⟨q, hq, rfl⟩ := List.mem_map.1 hn
    exact List.any_eq_true.2 ⟨q, hq, beq_self_eq_true _⟩
  refine ⟨(List.isChain_iff_pairwise.1 hlt).imp Nat.ne_of_lt, List.all_eq_true.2 fun p hp => ?_,
    heq ▸ List.Perm.refl _⟩
  rw [Bool.and_eq_true]
  exact ⟨hmem _ (heq ▸ List.mem_append_right _ (List.mem_map_of_mem hp)),
    hmem _ (heq ▸ List.mem_append_left _ (List.contains_iff_mem.1 (List.all_eq_true.1 htgt p hp)))⟩

/-- `normalize_sound` is not vacuous: `1 - tp / (tp + fn)` guarded by `tp + fn != 0`, with `ppv`
called through the environment; the hypotheses hold of the matrix `[[3, 1], [2, 5]]` with `env` /
`venv` built from the same definition -/
example :
    let env : Nat → Option NF := fun s => if s = 17 then some (.ratio ⟨1, 0, 0, 0, 0⟩ ⟨1, 0, 1, 0, 0⟩) else none
    let venv : Nat → Val := fun s => if s = 17 then .num (3 / 5) else .bad
    let m : CMq := ⟨3, 1, 2, 5⟩
    (∀ s nf, env s = some nf → venv s = nf.eval m) ∧ Ctx.Holds [] m ∧
    normalize env [] (.oneMinus (.call 17)) = some (.ratio ⟨0, 0, 1, 0, 0⟩ ⟨1, 0, 1, 0, 0⟩) ∧
    eval venv m (.oneMinus (.call 17)) = .num (2 / 5) := by
  refine ⟨?_, Ctx.Holds.nil _, by decide +kernel, by decide +kernel⟩
  intro s nf h
  by_cases hs : s = 17
  · subst hs
    simp only [if_true, Option.some.injEq] at h
    subst h
    decide +kernel
  · simp [hs] at h

/-- a context with facts is satisfiable and used: under "tp + fn is not zero" the unguarded division
normalises -/
example : Ctx.Holds [(⟨1, 1, 0, 0, 0⟩, true), (⟨0, 0, 1, 1, 0⟩, false)] ⟨3, 1, 0, 0⟩ ∧
    normalize (fun _ => none) [(⟨1, 1, 0, 0, 0⟩, true)] (.divRaw (.cell 0 0) (.rowSum 0)) =
      some (.ratio ⟨1, 0, 0, 0, 0⟩ ⟨1, 1, 0, 0, 0⟩) ∧
    normalize (fun _ => none) [] (.divRaw (.cell 0 0) (.rowSum 0)) = none := by
  exact ⟨((Ctx.Holds.nil _).cons_false (by decide +kernel)).cons_true (by decide +kernel), by decide +kernel,
    by decide +kernel⟩

/-- the definitions as `metrics.py` writes them, in the translator's output format (`tp`, `p`,
`top`, `pop`, `accuracy` through the diagonal, `error_rate = 1 - accuracy`, `tpr`, `ppv`, `fdr = 1 -
ppv`, `topr` through calls, the alias `tar`, the interval `tpr_ci` and its alias, two
`ConfusionMatrix` wrappers): all covered -/
def exampleTable : List Def := [
  ⟨0, "tp", .value (.cell 0 0)⟩, ⟨4, "p", .value (.rowSum 0)⟩, ⟨6, "top", .value (.colSum 0)⟩, ⟨8, "pop", .value .total⟩,
  ⟨9, "accuracy", .value (.safeDiv .diagSum .total)⟩, ⟨10, "error_rate", .value (.oneMinus (.call 9))⟩,
  ⟨11, "tpr", .value (.safeDiv (.cell 0 0) (.rowSum 0))⟩,
  ⟨17, "ppv", .value (.safeDiv (.cell 0 0) (.colSum 0))⟩, ⟨18, "fdr", .value (.oneMinus (.call 17))⟩,
  ⟨15, "topr", .value (.safeDiv (.call 6) (.call 8))⟩, ⟨25, "tar", .value (.call 11)⟩,
  ⟨21, "tpr_ci", .ci (.call 0) (.call 4)⟩, ⟨31, "tar_ci", .ciOf 21⟩,
  ⟨125, "ConfusionMatrix.tar", .value (.call 11)⟩, ⟨131, "ConfusionMatrix.tar_ci", .ciOf 21⟩]

theorem checkAll_exampleTable :
    checkAll exampleTable =
      ⟨true, [], [0, 4, 6, 8, 9, 10, 11, 17, 18, 15, 25, 21, 31, 125, 131]⟩ := by
  decide +kernel

example : checkAll exampleTable = ⟨true, [], [0, 4, 6, 8, 9, 10, 11, 17, 18, 15, 25, 21, 31, 125, 131]⟩ :=
  checkAll_exampleTable

/-- ... hence, by `checkAll_covered_sound`, `fdr` as the source writes it (`1 - ppv(matrix)`) IS the
model's `CMq.fdr` on every matrix -/
example : ∀ m : CMq, sem exampleTable.reverse 18 m = Val.ofOpt m.fdr := by
  rcases checkAll_covered_sound exampleTable 18 (by rw [checkAll_exampleTable]; decide) with
    ⟨f, hf, hfm⟩ | ⟨F, hF, _⟩
  · cases (show modelFn 18 = some fun m => Val.ofOpt m.fdr from rfl).symm.trans hf
    exact hfm
  · cases (show modelCIFn 18 = none from rfl).symm.trans hF

/-- the rewrite of the harmless change H3 (`np.where(p != 0, tp / np.where(p != 0, p, 1), np.nan)`)
has the same normal form as the masked division -/
example : normalize (fun _ => none) []
      (.whereNZ (.rowSum 0) (.divRaw (.cell 0 0) (.whereNZ (.rowSum 0) (.rowSum 0) (.const 1))) .nan) =
    normalize (fun _ => none) [] (.safeDiv (.cell 0 0) (.rowSum 0)) := by decide +kernel

/-- COUNTER-EXAMPLES, each rejected with a witness matrix:
* a swapped cell (`fnr` computed from `tp`): differs on `[[2, 3], [5, 7]]` (witness 0);
* a guard on the wrong quantity (seeded change C04_2: `npv` masked by `tn != 0` instead of `ton !=
  0`): no normal form, and NaN instead of 0 on `[[2, 3], [5, 0]]` (witness 4);
* a wrong denominator in an interval wrapper (`fnr_ci` with `nobs = n`): witness 0;
* a `ConfusionMatrix` wrapper forwarding to the wrong function (`frr` calling `metrics.fpr`):
  witness 0 -/
def mutantTable : List Def := [
  ⟨11, "tpr", .value (.safeDiv (.cell 0 0) (.rowSum 0))⟩,
  ⟨12, "fnr", .value (.safeDiv (.cell 0 0) (.rowSum 0))⟩,
  ⟨14, "fpr", .value (.safeDiv (.cell 1 0) (.rowSum 1))⟩,
  ⟨19, "npv", .value (.divWhere (.cell 1 1) (.colSum 1) (.cell 1 1))⟩,
  ⟨24, "fnr_ci", .ci (.cell 0 1) (.rowSum 1)⟩,
  ⟨126, "ConfusionMatrix.frr", .value (.call 14)⟩]

theorem checkAll_mutantTable :
    checkAll mutantTable = ⟨true, [(12, 0), (19, 4), (24, 0), (126, 0)], [11, 14]⟩ := by decide +kernel

example : checkAll mutantTable = ⟨true, [(12, 0), (19, 4), (24, 0), (126, 0)], [11, 14]⟩ := checkAll_mutantTable

example : ∃ w, witnesses[4]? = some w ∧ DiffersAt mutantTable.reverse 19 w :=
  checkAll_mismatch_sound mutantTable 19 4 (by rw [checkAll_mutantTable]; decide)

/-- an ill-formed table (a call of a definition that comes later) is reported as not closed; only
the definition that calls nothing later is covered -/
example : checkAll [⟨18, "fdr", .value (.oneMinus (.call 17))⟩, ⟨17, "ppv", .value (.safeDiv (.cell 0 0) (.colSum 0))⟩] =
    ⟨false, [], [17]⟩ := by decide +kernel

end SA.MetricExpr

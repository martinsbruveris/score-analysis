/-
C05 — multi-class confusion matrices: construction from labels / predictions / weights,
equivalent input routes and class reordering, one-vs-all binarisation, per-class metrics,
permutation equivariance, accuracy.
-/
import SA.Proofs.Multiclass
import SA.Theorems.C04

namespace SA
open Spec.C04 Spec.C05

/-! ### construction from labels, predictions and weights -/

theorem checkClasses_ok (classes : List Nat) (hnd : classes.Nodup) (hlen : 2 ≤ classes.length) :
    checkClasses classes classes.length = .ok () := by
  simp [checkClasses, hnd, Nat.not_lt.mpr hlen]

/-- also for `entryOK` (= `reorderOK` with `get := weightOf samples`) -/
theorem reorderOK_of_eq {get : Nat → Nat → Rat} {classes : List Nat} {obs : Mat}
    (h : ∀ i j, i < classes.length → j < classes.length → obs i j = get (classes.getD i 0)
    (classes.getD j 0)) :
    reorderOK 0 get classes obs = true :=
  (allIdx2_iff _ _).mpr fun i j hi hj => near_of_eq _ _ (h i j hi hj)

/-- **C05 (entries).** For a class list without duplicates and samples whose labels and
predictions are classes, the construction succeeds, keeps the requested class order, and entry
`[i, j]` is the total weight of the samples with label `classes[i]` and prediction `classes[j]`. -/
theorem C05_entry (classes : List Nat) (samples : List Sample) (hnd : classes.Nodup)
    (hlen : 2 ≤ classes.length) (hin : ∀ s ∈ samples, s.label ∈ classes ∧ s.pred ∈ classes) :
    ∃ cm, fromSamples classes samples = .ok cm ∧ cm.n = classes.length ∧ cm.classes = classes ∧
      ∀ i j, i < classes.length → j < classes.length →
        cm.m i j = weightOf samples (classes.getD i 0) (classes.getD j 0) := by
  obtain ⟨M, hM, hE⟩ := accumulate_spec classes hnd samples hin Mat.zero
  refine ⟨⟨classes.length, classes, M⟩, ?_, rfl, rfl, fun i j hi hj => ?_⟩
  · simp only [fromSamples, hM, checkClasses_ok classes hnd hlen]
  · show M i j = _
    rw [hE i j hi hj]; simp [Mat.zero]

theorem entry_by_label {classes : List Nat} {samples : List Sample} {m : Mat}
    (h : ∀ i j, i < classes.length → j < classes.length →
      m i j = weightOf samples (classes.getD i 0) (classes.getD j 0))
    (a b : Nat) (ha : a ∈ classes) (hb : b ∈ classes) :
    m (classes.idxOf a) (classes.idxOf b) = weightOf samples a b := by
  rw [h _ _ (List.idxOf_lt_length_of_mem ha) (List.idxOf_lt_length_of_mem hb),
    getD_idxOf classes a ha, getD_idxOf classes b hb]

/-- the same, by class label: the entry at the positions of classes `a` and `b` -/
theorem C05_entry_by_label (classes : List Nat) (samples : List Sample) (hnd : classes.Nodup)
    (hlen : 2 ≤ classes.length) (hin : ∀ s ∈ samples, s.label ∈ classes ∧ s.pred ∈ classes) :
    ∃ cm, fromSamples classes samples = .ok cm ∧
      ∀ a b, a ∈ classes → b ∈ classes →
        cm.m (classes.idxOf a) (classes.idxOf b) = weightOf samples a b := by
  obtain ⟨cm, h1, _, _, h4⟩ := C05_entry classes samples hnd hlen hin
  exact ⟨cm, h1, entry_by_label h4⟩

/-- spec form of `C05_entry` -/
theorem C05_entry_spec (classes : List Nat) (samples : List Sample) (hnd : classes.Nodup)
    (hlen : 2 ≤ classes.length) (hin : ∀ s ∈ samples, s.label ∈ classes ∧ s.pred ∈ classes) :
    ∃ cm, fromSamples classes samples = .ok cm ∧ entryOK 0 classes samples cm.m = true := by
  obtain ⟨cm, h1, _, _, h4⟩ := C05_entry classes samples hnd hlen hin
  exact ⟨cm, h1, reorderOK_of_eq h4⟩

theorem accumulate_ok_of_mem (classes : List Nat) (samples : List Sample) (M0 : Mat)
    (hin : ∀ s ∈ samples, s.label ∈ classes ∧ s.pred ∈ classes) :
    ∃ M, accumulate classes samples M0 = .ok M := by
  cases h : accumulate classes samples M0 with
  | ok M => exact ⟨M, rfl⟩
  | error e =>
    cases accumulate_error_kind classes samples M0 e h
    obtain ⟨s, hs, hbad⟩ := (accumulate_error_iff classes samples M0).mp h
    exact (hbad.elim (· (hin s hs).1) (· (hin s hs).2)).elim

theorem checkClasses_error (classes : List Nat) (n : Nat) (e : Err)
    (h : checkClasses classes n = .error e) : e = .valueError := by
  unfold checkClasses at h
  split at h
  · simp only [Except.error.injEq] at h; exact h.symm
  · split at h
    · simp only [Except.error.injEq] at h; exact h.symm
    · split at h
      · simp only [Except.error.injEq] at h; exact h.symm
      · cases h

/-- **C05 (KeyError).** The construction raises KeyError exactly when some label or prediction
is not among the classes (whatever the class list). -/
theorem C05_key_error (classes : List Nat) (samples : List Sample) :
    fromSamples classes samples = .error .keyError ↔
      ∃ s ∈ samples, s.label ∉ classes ∨ s.pred ∉ classes := by
  rw [← accumulate_error_iff classes samples Mat.zero]
  unfold fromSamples
  cases h : accumulate classes samples Mat.zero with
  | error e =>
    have he := accumulate_error_kind classes samples Mat.zero e h
    subst he; simp
  | ok M =>
    simp only [reduceCtorEq, iff_false]
    cases h2 : checkClasses classes classes.length with
    | error e =>
      have := checkClasses_error _ _ e h2
      subst this; simp
    | ok u => simp

/-- **C05 (ValueError).** With all labels and predictions among the classes, the construction
raises ValueError exactly when there are fewer than two classes or a duplicated class. -/
theorem C05_value_error (classes : List Nat) (samples : List Sample)
    (hin : ∀ s ∈ samples, s.label ∈ classes ∧ s.pred ∈ classes) :
    fromSamples classes samples = .error .valueError ↔
      classes.length < 2 ∨ ¬ classes.Nodup := by
  obtain ⟨M, hM⟩ := accumulate_ok_of_mem classes samples Mat.zero hin
  simp only [fromSamples, hM, checkClasses]
  by_cases h1 : classes.length < 2
  · simp [h1]
  · by_cases h2 : classes.Nodup
    · simp [h1, h2]
    · simp [h1, h2]

theorem mkSamples_mem (labels preds : List Nat) (weights : Option (List Rat))
    (samples : List Sample) (h : mkSamples labels preds weights = .ok samples) :
    ∀ s ∈ samples, s.label ∈ labels ∧ s.pred ∈ preds := by
  intro s hs
  unfold mkSamples at h
  cases weights with
  | none =>
    cases h
    obtain ⟨x, hx, rfl⟩ := List.mem_map.mp hs
    exact ⟨(List.of_mem_zip hx).1, (List.of_mem_zip hx).2⟩
  | some w =>
    simp only at h
    split at h <;> cases h
    obtain ⟨x, hx, rfl⟩ := List.mem_map.mp hs
    exact ⟨(List.of_mem_zip hx).1, (List.of_mem_zip (List.of_mem_zip hx).2).1⟩

theorem mkSamples_ok (labels preds : List Nat) (weights : Option (List Rat))
    (hw : ∀ w, weights = some w → w.length = labels.length) :
    ∃ samples, mkSamples labels preds weights = .ok samples := by
  cases weights with
  | none => exact ⟨_, rfl⟩
  | some w => exact ⟨_, if_neg (not_not.mpr (hw w rfl))⟩

/-- **C05 (default classes).** Without `classes=` the classes are the labels and predictions
that occur, strictly increasing; no KeyError can arise; the entries are the total weights. -/
theorem C05_default_classes (labels preds : List Nat) (weights : Option (List Rat))
    (hw : ∀ w, weights = some w → w.length = labels.length)
    (h2 : 2 ≤ (defaultClasses labels preds).length) :
    ∃ cm samples, mkSamples labels preds weights = .ok samples ∧
      fromPredictions none labels preds weights = .ok cm ∧
      cm.classes = defaultClasses labels preds ∧
      cm.classes.Pairwise (· < ·) ∧ (∀ x, x ∈ cm.classes ↔ x ∈ labels ∨ x ∈ preds) ∧
      entryOK 0 cm.classes samples cm.m = true := by
  obtain ⟨samples, hsm⟩ := mkSamples_ok labels preds weights hw
  have hin : ∀ s ∈ samples, s.label ∈ defaultClasses labels preds ∧
      s.pred ∈ defaultClasses labels preds := by
    intro s hs
    obtain ⟨h1, h2⟩ := mkSamples_mem labels preds weights samples hsm s hs
    exact ⟨(mem_defaultClasses _ _ _).mpr (Or.inl h1), (mem_defaultClasses _ _ _).mpr (Or.inr h2)⟩
  obtain ⟨cm, hcm, _, hcls, hE⟩ := C05_entry (defaultClasses labels preds) samples
    (defaultClasses_nodup labels preds) h2 hin
  refine ⟨cm, samples, hsm, ?_, hcls, ?_⟩
  · simp only [fromPredictions, hsm, hcm]
  · rw [hcls]
    exact ⟨defaultClasses_sorted labels preds, fun x => mem_defaultClasses x labels preds,
      reorderOK_of_eq hE⟩

/-! ### equivalent inputs and class reordering -/

/-- **C05 (reordering).** Building with a reordered class list gives the same value for every
pair of class labels, i.e. the matrix in the requested order; and this is what the dict /
DataFrame route (`reorder`) produces from the first matrix. -/
theorem C05_reorder (classes classes' : List Nat) (samples : List Sample) (hnd : classes.Nodup)
    (hlen : 2 ≤ classes.length) (hin : ∀ s ∈ samples, s.label ∈ classes ∧ s.pred ∈ classes)
    (hp : classes'.Perm classes) :
    ∃ cm cm', fromSamples classes samples = .ok cm ∧ fromSamples classes' samples = .ok cm' ∧
      cm'.classes = classes' ∧
      (∀ a b, a ∈ classes → b ∈ classes →
        cm'.m (classes'.idxOf a) (classes'.idxOf b) = cm.m (classes.idxOf a) (classes.idxOf b)) ∧
      (∀ i j, i < classes.length → j < classes.length →
        cm'.m i j = reorder classes cm.m classes' i j) := by
  have hnd' : classes'.Nodup := hp.nodup_iff.mpr hnd
  have hlen' : classes'.length = classes.length := hp.length_eq
  have hin' : ∀ s ∈ samples, s.label ∈ classes' ∧ s.pred ∈ classes' := fun s hs =>
    ⟨hp.mem_iff.mpr (hin s hs).1, hp.mem_iff.mpr (hin s hs).2⟩
  obtain ⟨cm, h1, _, _, hE⟩ := C05_entry classes samples hnd hlen hin
  obtain ⟨cm', h1', _, hc', hE'⟩ := C05_entry classes' samples hnd' (hlen'.symm ▸ hlen) hin'
  have hL := entry_by_label hE
  refine ⟨cm, cm', h1, h1', hc', fun a b ha hb => ?_, fun i j hi hj => ?_⟩
  · rw [hL a b ha hb, entry_by_label hE' a b (hp.mem_iff.mpr ha) (hp.mem_iff.mpr hb)]
  · have hi' : i < classes'.length := hlen'.symm ▸ hi
    have hj' : j < classes'.length := hlen'.symm ▸ hj
    rw [hE' i j hi' hj']
    exact (hL _ _ (hp.mem_iff.mp (getD_mem_of_lt classes' i hi'))
      (hp.mem_iff.mp (getD_mem_of_lt classes' j hj'))).symm

/-- spec form of `C05_reorder`: the two observed matrices agree label by label (this is the
predicate the driver evaluates on two real runs) -/
theorem C05_reorder_spec (classes classes' : List Nat) (samples : List Sample) (hnd : classes.Nodup)
    (hlen : 2 ≤ classes.length) (hin : ∀ s ∈ samples, s.label ∈ classes ∧ s.pred ∈ classes)
    (hp : classes'.Perm classes) :
    ∃ cm cm', fromSamples classes samples = .ok cm ∧ fromSamples classes' samples = .ok cm' ∧
      reorderOK 0 (byLabel classes cm.m) classes' cm'.m = true := by
  obtain ⟨cm, cm', h1, h2, _, _, h5⟩ := C05_reorder classes classes' samples hnd hlen hin hp
  exact ⟨cm, cm', h1, h2, reorderOK_of_eq fun i j hi hj => h5 i j (hp.length_eq ▸ hi)
    (hp.length_eq ▸ hj)⟩

/-- spec form of the array route: read by labels, the matrix is the input matrix -/
theorem C05_array_spec (classes : List Nat) (hnd : classes.Nodup) (M : Mat) :
    reorderOK 0 (byLabel classes M) classes M = true :=
  reorderOK_of_eq fun i j hi hj => by rw [byLabel, idxOf_getD classes hnd i hi, idxOf_getD classes hnd j hj]

/-- reordering to the source order changes nothing -/
theorem C05_reorder_id (src : List Nat) (hnd : src.Nodup) (M : Mat) (i j : Nat)
    (hi : i < src.length) (hj : j < src.length) : reorder src M src i j = M i j := by
  simp only [reorder, reorder2, idxOf_getD src hnd i hi, idxOf_getD src hnd j hj]

/-- reordering twice is reordering once (to the last requested order) -/
theorem C05_reorder_comp (src c1 c2 : List Nat) (M : Mat) (i j : Nat)
    (hi : c2.getD i 0 ∈ c1) (hj : c2.getD j 0 ∈ c1) :
    reorder c1 (reorder src M c1) c2 i j = reorder src M c2 i j := by
  simp only [reorder, reorder2, getD_idxOf c1 _ hi, getD_idxOf c1 _ hj]

/-- **C05 (array route).** `matrix=` with an array keeps the matrix and the given classes (or
`0..n-1`). -/
theorem C05_array_route (n : Nat) (M : Mat) (classes : List Nat) (hnd : classes.Nodup)
    (hlen : classes.length = n) (h2 : 2 ≤ n) :
    fromArray n M (some classes) = .ok ⟨n, classes, M⟩ ∧
    fromArray n M none = .ok ⟨n, List.range n, M⟩ := by
  constructor
  · subst hlen
    simp only [fromArray, checkClasses_ok classes hnd h2]
  · have := checkClasses_ok (List.range n) List.nodup_range (by simpa using h2)
    simp only [List.length_range] at this
    simp only [fromArray, this]

/-- **C05 (dict route).** A dict of dicts whose rows all have the outer keys as keys (in any
order), with `classes=` a reordering of the keys (or absent), yields the matrix whose entry
`[i, j]` is `matrix[classes[i]][classes[j]]`. -/
theorem C05_dict_route (d : DictMat) (classes : List Nat) (hnd : d.keys.Nodup)
    (h2 : 2 ≤ d.keys.length) (hrows : ∀ rk ∈ d.rowKeys, rk.Perm d.keys)
    (hp : classes.Perm d.keys) :
    ∃ cm, fromDict d (some classes) = .ok cm ∧ cm.classes = classes ∧ cm.n = classes.length ∧
      reorderOK 0 d.get classes cm.m = true ∧
    ∃ cm0, fromDict d none = .ok cm0 ∧ cm0.classes = d.keys ∧
      reorderOK 0 d.get d.keys cm0.m = true := by
  have hnd' : classes.Nodup := hp.nodup_iff.mpr hnd
  have hlen' : classes.length = d.keys.length := hp.length_eq
  have hrk : ∀ cls : List Nat, cls.Perm d.keys → (d.rowKeys.all fun rk => sameSet rk cls) = true :=
    fun cls hc =>
    List.all_eq_true.mpr fun rk hrk => sameSet_of_perm rk cls ((hrows rk hrk).trans hc.symm)
  refine ⟨⟨classes.length, classes, fun i j => d.get (classes.getD i 0) (classes.getD j 0)⟩,
    ?_, rfl, rfl, ?_, ⟨d.keys.length, d.keys, fun i j => d.get (d.keys.getD i 0) (d.keys.getD j 0)⟩,
    ?_, rfl, ?_⟩
  · simp only [fromDict, sameSet_of_perm classes d.keys hp, if_true, hrk classes hp,
      not_true_eq_false, if_false, checkClasses_ok classes hnd' (hlen'.symm ▸ h2)]
  · exact reorderOK_of_eq fun _ _ _ _ => rfl
  · simp only [fromDict, hrk d.keys (List.Perm.refl _), not_true_eq_false, if_false,
      checkClasses_ok d.keys hnd h2]
  · exact reorderOK_of_eq fun _ _ _ _ => rfl

/-- **C05 (dict route, inconsistent keys).** A row whose keys are not the requested classes
makes the construction raise ValueError. -/
theorem C05_dict_inconsistent (d : DictMat) (rk : List Nat) (hrk : rk ∈ d.rowKeys)
    (hbad : sameSet rk d.keys = false) : fromDict d none = .error .valueError := by
  have : (d.rowKeys.all fun rk => sameSet rk d.keys) = false := by
    rw [List.all_eq_false]; exact ⟨rk, hrk, by simp [hbad]⟩
  simp [fromDict, this]

/-- **C05 (DataFrame route).** A frame whose row and column names are duplicate-free
reorderings of each other, with `classes=` a reordering of the names (or absent), yields the
matrix whose entry `[i, j]` is the frame value at row `classes[i]`, column `classes[j]`. -/
theorem C05_frame_route (rows cols : List Nat) (M : Mat) (classes : List Nat) (hnd : rows.Nodup)
    (h2 : 2 ≤ rows.length) (hc : cols.Perm rows) (hp : classes.Perm rows) :
    ∃ cm, fromFrame rows cols M (some classes) = .ok cm ∧ cm.classes = classes ∧
      reorderOK 0 (byLabel2 rows cols M) classes cm.m = true ∧
    ∃ cm0, fromFrame rows cols M none = .ok cm0 ∧ cm0.classes = rows ∧
      reorderOK 0 (byLabel2 rows cols M) rows cm0.m = true := by
  have hndc : cols.Nodup := hc.nodup_iff.mpr hnd
  have hnd' : classes.Nodup := hp.nodup_iff.mpr hnd
  have hlen' : classes.length = rows.length := hp.length_eq
  refine ⟨⟨classes.length, classes, reorder2 rows cols M classes⟩, ?_, rfl, ?_,
    ⟨rows.length, rows, reorder2 rows cols M rows⟩, ?_, rfl, ?_⟩
  · simp only [fromFrame, sameSet_of_perm rows cols hc.symm, not_true_eq_false, if_false, hnd, hndc,
      sameSet_of_perm classes rows hp, if_true, checkClasses_ok classes hnd' (hlen'.symm ▸ h2)]
  · exact reorderOK_of_eq fun _ _ _ _ => rfl
  · simp only [fromFrame, sameSet_of_perm rows cols hc.symm, not_true_eq_false, if_false, hnd, hndc,
      checkClasses_ok rows hnd h2]
  · exact reorderOK_of_eq fun _ _ _ _ => rfl

/-- the dict / DataFrame route applied to the matrix of one construction reproduces the
construction with the reordered class list -/
theorem C05_routes_commute (classes classes' : List Nat) (samples : List Sample)
    (hnd : classes.Nodup) (hlen : 2 ≤ classes.length)
    (hin : ∀ s ∈ samples, s.label ∈ classes ∧ s.pred ∈ classes) (hp : classes'.Perm classes) :
    ∃ cm cm' fr, fromSamples classes samples = .ok cm ∧ fromSamples classes' samples = .ok cm' ∧
      fromFrame classes classes cm.m (some classes') = .ok fr ∧ fr.classes = cm'.classes ∧
      ∀ i j, i < classes.length → j < classes.length → fr.m i j = cm'.m i j := by
  obtain ⟨cm, cm', h1, h2, h3, _, h5⟩ := C05_reorder classes classes' samples hnd hlen hin hp
  have hnd' : classes'.Nodup := hp.nodup_iff.mpr hnd
  have hlen' : classes'.length = classes.length := hp.length_eq
  refine ⟨cm, cm', ⟨classes'.length, classes', reorder2 classes classes cm.m classes'⟩, h1, h2,
    ?_, h3.symm, fun i j hi hj => (h5 i j hi hj).symm⟩
  simp only [fromFrame, sameSet_of_perm classes classes (List.Perm.refl _), not_true_eq_false,
    if_false, hnd, sameSet_of_perm classes' classes hp, if_true,
    checkClasses_ok classes' hnd' (hlen'.symm ▸ hlen)]

/-! ### one-vs-all -/

/-- **C05 (conservation).** Every one-vs-all 2x2 sums to the total of the N x N matrix. -/
theorem C05_ova_conserves (n : Nat) (M : Mat) (j : Nat) : (oneVsAll n M j).pop = total n M := by
  simp only [oneVsAll, CMq.pop]; ring

/-- **C05 (cells).** TP_j is the diagonal entry, P_j the row sum and TOP_j the column sum. -/
theorem C05_ova_cells (n : Nat) (M : Mat) (j : Nat) :
    (oneVsAll n M j).tp = M j j ∧ (oneVsAll n M j).p = rowSum n M j ∧
    (oneVsAll n M j).top = colSum n M j := by
  refine ⟨rfl, ?_, ?_⟩ <;> simp only [oneVsAll, CMq.p, CMq.top] <;> ring

/-- the condition-negative and outcome-negative counts are the complements -/
theorem C05_ova_negatives (n : Nat) (M : Mat) (j : Nat) :
    (oneVsAll n M j).n = total n M - rowSum n M j ∧
    (oneVsAll n M j).ton = total n M - colSum n M j := by
  constructor <;> simp only [oneVsAll, CMq.n, CMq.ton] <;> ring

/-- **C05 (marginals).** The P_j and the TOP_j each add up to the population, the TP_j to the
trace. -/
theorem C05_ova_marginals (n : Nat) (M : Mat) :
    sumTo n (fun j => (oneVsAll n M j).p) = total n M ∧
    sumTo n (fun j => (oneVsAll n M j).top) = total n M ∧
    sumTo n (fun j => (oneVsAll n M j).tp) = trace n M := by
  refine ⟨?_, ?_, rfl⟩
  · exact sumTo_congr n _ _ (fun j _ => (C05_ova_cells n M j).2.1)
  · rw [total_eq_colSums]
    exact sumTo_congr n _ _ (fun j _ => (C05_ova_cells n M j).2.2)

/-- the true-negative cell is the sum of the entries outside row `j` and column `j` -/
theorem ova_tn_eq (n : Nat) (M : Mat) (j : Nat) (hj : j < n) :
    (oneVsAll n M j).tn =
      sumTo n (fun i => if i = j then 0 else
        sumTo n (fun k => if k = j then 0 else M i k)) := by
  have hsplit : sumTo n (fun i => if i = j then 0 else rowSum n M i) =
      sumTo n (fun i => if i = j then 0 else M i j) +
      sumTo n (fun i => if i = j then 0 else sumTo n (fun k => if k = j then 0 else M i k)) := by
    rw [← sumTo_add]
    refine sumTo_congr n _ _ fun i _ => ?_
    split
    · exact (add_zero 0).symm
    · exact sumTo_split n (fun k => M i k) j hj
  simp only [oneVsAll]
  rw [total, sumTo_split n (rowSum n M) j hj, hsplit, colSum, sumTo_split n (fun i => M i j) j hj]
  ring

/-- **C05 (non-negative cells).** For a non-negative matrix all four cells of every one-vs-all
matrix are non-negative (so the C04 range theorem applies to every per-class rate). -/
theorem C05_ova_nonneg (n : Nat) (M : Mat) (hM : ∀ i k, i < n → k < n → 0 ≤ M i k) (j : Nat)
    (hj : j < n) : (oneVsAll n M j).Nonneg := by
  have hz : ∀ (f : Nat → Rat), (∀ k, k < n → 0 ≤ f k) →
      0 ≤ sumTo n (fun k => if k = j then 0 else f k) := by
    intro f hf
    apply sumTo_nonneg
    intro k hk
    by_cases h : k = j
    · simp [h]
    · simp only [h, if_false]; exact hf k hk
  refine ⟨hM j j hj hj, ?_, ?_, ?_⟩
  · show 0 ≤ rowSum n M j - M j j
    rw [rowSum, sumTo_split n _ j hj, add_sub_cancel_left]
    exact hz (fun k => M j k) (fun k hk => hM j k hj hk)
  · show 0 ≤ colSum n M j - M j j
    rw [colSum, sumTo_split n _ j hj, add_sub_cancel_left]
    exact hz (fun i => M i j) (fun k hk => hM k j hk hj)
  · rw [ova_tn_eq n M j hj]
    exact hz _ (fun i hi => hz (fun k => M i k) (fun k hk => hM i k hi hk))

/-- spec form of conservation and cells -/
theorem C05_ova_spec (n : Nat) (M : Mat) :
    ovaConservesOK 0 n M (oneVsAll n M) = true ∧ ovaCellsOK 0 n M (oneVsAll n M) = true := by
  constructor
  · rw [ovaConservesOK, allIdx_iff]
    intro j _; exact near_of_eq _ _ (C05_ova_conserves n M j)
  · rw [ovaCellsOK, allIdx_iff]
    intro j _
    obtain ⟨h1, h2, h3⟩ := C05_ova_cells n M j
    simp only [Bool.and_eq_true]
    exact ⟨⟨near_of_eq _ _ h1, near_of_eq _ _ h2⟩, near_of_eq _ _ h3⟩

/-! ### per-class metrics -/

/-- **C05 (shape).** A per-class metric has one value per class. -/
theorem C05_class_metric_length {α} (f : CMq → α) (n : Nat) (M : Mat) :
    (classMetric f n M).length = n := by
  simp [classMetric]

theorem classMetric_get {α} (f : CMq → α) (n : Nat) (M : Mat) (j : Nat) (hj : j < n) :
    (classMetric f n M)[j]? = some (f (oneVsAll n M j)) := by
  simp [classMetric, hj]

/-- **C05 (per-class counts and rates).** Per-class TP / P / TOP are the diagonal, row sums and
column sums; recall is diagonal over row sum, precision diagonal over column sum, the false
positive rate `(colsum - diag) / (total - rowsum)`, the class accuracy
`(total - rowsum - colsum + 2 diag) / total` — NaN exactly when the denominator is zero. -/
theorem C05_class_rates (n : Nat) (M : Mat) :
    classCountsOK 0 n M (fun j => (oneVsAll n M j).tp) (fun j => (oneVsAll n M j).p)
      (fun j => (oneVsAll n M j).top) = true ∧
    classRatesOK 0 n M (fun j => (oneVsAll n M j).tpr) (fun j => (oneVsAll n M j).ppv)
      (fun j => (oneVsAll n M j).fpr) (fun j => (oneVsAll n M j).accuracy) = true := by
  refine ⟨(C05_ova_spec n M).2, (allIdx_iff _ _).mpr fun j _ => ?_⟩
  · obtain ⟨h1, h2, h3⟩ := C05_ova_cells n M j
    obtain ⟨h4, _⟩ := C05_ova_negatives n M j
    have h5 := C05_ova_conserves n M j
    have h6 : (oneVsAll n M j).fp = colSum n M j - M j j := rfl
    have h7 : (oneVsAll n M j).tp + (oneVsAll n M j).tn =
        total n M - rowSum n M j - colSum n M j + 2 * M j j := by
      simp only [oneVsAll]; ring
    simp only [Bool.and_eq_true, CMq.tpr, CMq.ppv, CMq.fpr, CMq.accuracy]
    rw [h7, h1, h2, h3, h4, h5, h6]
    exact ⟨⟨⟨defOK_div _ _, defOK_div _ _⟩, defOK_div _ _⟩, defOK_div _ _⟩

/-- **C05 (as_dict).** The dict form has the classes as keys, in class order, and under
`classes[j]` the `j`-th entry of the array form. -/
theorem C05_as_dict {α} [BEq α] [LawfulBEq α] (classes : List Nat) (vals : List α)
    (hnd : classes.Nodup) (hlen : vals.length = classes.length) :
    asDictOK classes vals (asDict classes vals) = true := by
  have hkeys : (asDict classes vals).map Prod.fst = classes :=
    List.map_fst_zip (Nat.le_of_eq hlen.symm)
  simp only [asDictOK, hkeys, hlen, beq_self_eq_true, Bool.true_and, allIdx_iff]
  intro j hj
  have hjv : j < vals.length := hlen ▸ hj
  rw [asDict, lookup_zip_getD classes vals j hj hjv hnd, List.getElem?_eq_getElem hjv]
  exact beq_self_eq_true _

/-! ### permutation equivariance -/

/-- **C05 (equivariance).** For a permutation `p` of `0..n-1`, the one-vs-all matrix of the
permuted matrix at position `i` is the one-vs-all matrix of the original at position `p[i]`. -/
theorem C05_equivariant (n : Nat) (p : List Nat) (hp : p.Perm (List.range n)) (M : Mat) (i : Nat) :
    oneVsAll n (permute p M) i = oneVsAll n M (p.getD i 0) := by
  simp only [oneVsAll, rowSum_permute n p hp, colSum_permute n p hp, total_permute n p hp]
  rfl

/-- hence every per-class metric permutes with the classes, and accuracy is invariant -/
theorem C05_equivariant_metrics {α} (f : CMq → α) (n : Nat) (p : List Nat)
    (hp : p.Perm (List.range n)) (M : Mat) :
    (∀ i, i < n → (classMetric f n (permute p M))[i]? = (classMetric f n M)[p.getD i 0]?) ∧
    accuracy n (permute p M) = accuracy n M := by
  constructor
  · intro i hi
    rw [classMetric_get f n _ i hi, classMetric_get f n M _ (perm_getD_lt n p hp i hi),
      C05_equivariant n p hp M i]
  · simp only [accuracy, trace_permute n p hp, total_permute n p hp]

/-- the permuted matrix is the one obtained by re-requesting the classes `0..n-1` in the order
`p` (array route followed by the DataFrame route) -/
theorem permute_eq_reorder (n : Nat) (p : List Nat) (hp : p.Perm (List.range n)) (M : Mat)
    (i j : Nat) (hi : i < n) (hj : j < n) :
    reorder (List.range n) M p i j = permute p M i j := by
  have h1 := perm_getD_lt n p hp i hi
  have h2 := perm_getD_lt n p hp j hj
  simp only [reorder, reorder2, permute, idxOf_range n _ h1, idxOf_range n _ h2]

theorem nearO_self (a : Option Rat) : nearO 0 a a = true := by
  cases a with
  | none => rfl
  | some x => exact near_self x

theorem nearL_self (l : List (Option Rat)) : nearL 0 l l = true := by
  induction l with
  | nil => rfl
  | cons a as ih => simp only [nearL, nearO_self, ih, Bool.and_self]

/-- spec form of equivariance, for the cells and for any list of per-class values computed from
the one-vs-all matrix -/
theorem C05_equivariant_spec (n : Nat) (p : List Nat) (hp : p.Perm (List.range n)) (M : Mat)
    (f : CMq → List (Option Rat)) :
    permOK 0 n p (fun j => f (oneVsAll n M j)) (fun i => f (oneVsAll n (permute p M) i)) = true := by
  rw [permOK, allIdx_iff]
  intro i _
  rw [C05_equivariant n p hp M i]
  exact nearL_self _

/-! ### accuracy -/

/-- **C05 (accuracy).** Accuracy is trace over population; NaN exactly when the population is
zero. -/
theorem C05_accuracy (n : Nat) (M : Mat) :
    (accuracy n M = none ↔ total n M = 0) ∧
    (∀ a, accuracy n M = some a → total n M ≠ 0 ∧ a = trace n M / total n M) ∧
    accuracyOK 0 n M (accuracy n M) = true := by
  refine ⟨?_, ?_, ?_⟩
  · unfold accuracy divQ
    by_cases h : total n M = 0 <;> simp [h]
  · intro a ha
    unfold accuracy divQ at ha
    by_cases h : total n M = 0
    · simp [h] at ha
    · simp only [h, if_false, Option.some.injEq] at ha
      exact ⟨h, ha.symm⟩
  · exact defOK_div _ _

/-- accuracy in terms of the one-vs-all matrices: the TP_j add up to the numerator, and each
2x2 population is the denominator -/
theorem C05_accuracy_ova (n : Nat) (M : Mat) (j : Nat) :
    accuracy n M = divQ (sumTo n (fun k => (oneVsAll n M k).tp)) (oneVsAll n M j).pop := by
  rw [C05_ova_conserves, (C05_ova_marginals n M).2.2]; rfl

/-! ### the hypotheses are satisfiable -/

example : ([7, 3, 5] : List Nat).Nodup ∧ 2 ≤ ([7, 3, 5] : List Nat).length ∧
    (∀ s ∈ ([⟨3, 7, 2⟩, ⟨5, 5, 1 / 2⟩] : List Sample),
      s.label ∈ ([7, 3, 5] : List Nat) ∧ s.pred ∈ ([7, 3, 5] : List Nat)) ∧
    ([5, 7, 3] : List Nat).Perm [7, 3, 5] := by decide

example : (∀ w, (some [1, 2, 3] : Option (List Rat)) = some w → w.length = ([4, 4, 9] : List Nat).length) ∧
    2 ≤ (defaultClasses [4, 4, 9] [9, 1, 4]).length := by
  constructor
  · intro w h; cases h; rfl
  · decide

example : ([2, 0, 1] : List Nat).Perm (List.range 3) := by decide

example : ∃ d : DictMat, d.keys.Nodup ∧ 2 ≤ d.keys.length ∧ (∀ rk ∈ d.rowKeys, rk.Perm d.keys) ∧
    ([8, 4] : List Nat).Perm d.keys :=
  ⟨⟨[4, 8], [[8, 4], [4, 8]], fun _ _ => 1⟩, by decide, by decide, by decide, by decide⟩

example : ∃ d : DictMat, ∃ rk ∈ d.rowKeys, sameSet rk d.keys = false :=
  ⟨⟨[4, 8], [[4, 8], [4, 9]], fun _ _ => 1⟩, [4, 9], by decide, by decide⟩

example : ([4, 8] : List Nat).Nodup ∧ 2 ≤ ([4, 8] : List Nat).length ∧
    ([8, 4] : List Nat).Perm [4, 8] := by decide

example : ∀ i k, i < 2 → k < 2 → (0 : Rat) ≤ (fun a b => ((a + 2 * b : Nat) : Rat)) i k := by
  intro i k _ _; exact Nat.cast_nonneg _

example : ([9, 4, 6] : List Nat).Nodup ∧ ([9, 4, 6] : List Nat).length = 3 ∧ 2 ≤ 3 := by decide

example : ([9, 4] : List Nat).Nodup ∧ ([some (1 : Rat), none] : List (Option Rat)).length =
    ([9, 4] : List Nat).length := by decide

example : ([4, 9] : List Nat).getD 0 0 ∈ ([9, 4] : List Nat) ∧
    ([4, 9] : List Nat).getD 1 0 ∈ ([9, 4] : List Nat) := by decide

end SA

/-
C05, second tie — soundness of the checker for `one_vs_all` and the construction loop regenerated
from the source (`SA/Model/CmDefs.lean`, `harness/cmdefs.py`).

* `normalize_sound`: an expression over the four generators equals its normal form on EVERY rational
  matrix of EVERY size (no hypothesis on `n`, `M`, `j`).
* `modelOva_block`: the model's table denotes `SA.oneVsAll`; `modelOvaNF_sound`: its normal forms
  are those listed.
* `checkOva_ok_sound` / `ova_bridge`: a translated table the checker accepts denotes the model's
  one-vs-all block for all matrices, sits at `[..., j, a, b]` of a binary result, hence conservation
  / TP on the diagonal / P = row sum / TOP = column sum / complements / non-negativity (the existing
  C05 theorems) hold of the translated code.
* `cellVerdict_mismatch_sound`: a reported mismatch names a matrix on which the two differ;
  `ovaWitnesses_complete`: the witnesses separate ANY two distinct normal forms.
* `modelCons_run`: the model's construction row denotes `SA.fromPredictions`; `cons_bridge`,
  `cons_bridge_entries`: an accepted row builds, for a duplicate-free class list, the matrix of
  total weights per (label, prediction) pair (`SA.C05_entry`); `checkCons_mismatch_sound`.
-/
import SA.Model.CmDefs
import SA.Theorems.C05
import SA.Proofs.Checkers

namespace SA.CmDefs
open SA SA.Spec.C05

/-! ### linear forms -/

theorem OLin.eval_add (x y : OLin) (n : Nat) (M : Mat) (j : Nat) :
    (x.add y).eval n M j = x.eval n M j + y.eval n M j := by
  simp only [OLin.add, OLin.eval, Int.cast_add]; ring

theorem OLin.eval_sub (x y : OLin) (n : Nat) (M : Mat) (j : Nat) :
    (x.sub y).eval n M j = x.eval n M j - y.eval n M j := by
  simp only [OLin.sub, OLin.eval, Int.cast_sub]; ring

/-- **soundness of the normaliser**: for ALL rational matrices of ANY size and any class index -/
theorem normalize_sound (e : OExpr) (n : Nat) (M : Mat) (j : Nat) :
    e.normalize.eval n M j = e.eval n M j := by
  induction e with
  | add a b iha ihb => simp only [OExpr.normalize, OExpr.eval, OLin.eval_add, iha, ihb]
  | sub a b iha ihb => simp only [OExpr.normalize, OExpr.eval, OLin.eval_sub, iha, ihb]
  | _ =>
    simp only [OExpr.normalize, OExpr.eval, OLin.eval, Int.cast_zero, Int.cast_one, zero_mul,
      one_mul,
      add_zero, zero_add]

/-! ### the model's table -/

/-- the model's table denotes the model's `oneVsAll` on every matrix -/
theorem modelOva_block (n : Nat) (M : Mat) (j : Nat) : modelOva.block n M j = oneVsAll n M j :=
  rfl

/-- the normal forms listed for the model are those of its table -/
theorem modelOvaNF_eq : modelOva.cells.map OExpr.normalize = modelOvaNF := by decide

/-- the listed normal forms are the cells of `oneVsAll` -/
theorem modelOvaNF_sound (n : Nat) (M : Mat) (j : Nat) :
    modelOvaNF.map (fun l => l.eval n M j) =
      [(oneVsAll n M j).tp, (oneVsAll n M j).fn, (oneVsAll n M j).fp, (oneVsAll n M j).tn] := by
  rw [← modelOvaNF_eq, List.map_map, ← modelOva_block]
  exact List.map_congr_left fun e _ => normalize_sound e n M j

/-! ### verdicts -/

theorem cellVerdict_ok_sound {e : OExpr} {m : OLin} (h : cellVerdict e m = .ok) (n : Nat) (M : Mat)
    (j : Nat) :
    e.eval n M j = m.eval n M j := by
  unfold cellVerdict at h
  by_cases hn : e.normalize = m
  · rw [← hn, normalize_sound]
  · simp only [hn, if_false] at h
    split at h <;> cases h

/-- a reported mismatch names a witness matrix on which the translated cell and the model's
differ -/
theorem cellVerdict_mismatch_sound {e : OExpr} {m : OLin} {i : Nat} (h : cellVerdict e m = .mismatch i) :
    ∃ w, ovaWitnesses[i]? = some w ∧ e.eval w.1 (Mat.ofList w.1 w.2.1) w.2.2 ≠ m.eval w.1 (Mat.ofList w.1 w.2.1) w.2.2 := by
  unfold cellVerdict at h
  by_cases hn : e.normalize = m
  · simp [hn] at h
  · simp only [hn, if_false] at h
    split at h
    · rename_i k hk
      cases h
      obtain ⟨w, hw, hp⟩ := firstIdx_zero_sound hk
      exact ⟨w, hw, of_decide_eq_true hp⟩
    · cases h

theorem wEval_two (l : OLin) (a b c d : ℚ) :
    wEval l (2, [a, b, c, d], 0) =
      l.d * a + l.r * (a + b) + l.c * (a + c) + l.t * (a + b + (c + d)) + l.k := by
  simp only [wEval, OLin.eval, SA.rowSum, SA.colSum, SA.total, sumTo, Mat.ofList,
    List.getD_cons_zero,
    List.getD_cons_succ, Nat.zero_mul, Nat.one_mul, Nat.reduceAdd, zero_add]

theorem OLin.eq_of_wEval_eq {l l' : OLin} (hw : ∀ w ∈ ovaWitnesses, wEval l w = wEval l' w)
    : l = l' := by
  obtain ⟨d, r, c, t, k⟩ := l
  obtain ⟨d', r', c', t', k'⟩ := l'
  -- on the four unit matrices and the zero matrix the values are `d+r+c+t+k`, `r+t+k`, `c+t+k`,
  -- `t+k`, `k`:
  -- a triangular system
  simp only [ovaWitnesses, List.forall_mem_cons, wEval_two, mul_one, mul_zero, add_zero, zero_add]
    at hw
  obtain ⟨-, -, -, -, -, e00, e01, e10, e11, ez, -⟩ := hw
  obtain rfl : k = k' := by exact_mod_cast ez
  obtain rfl : t = t' := by exact_mod_cast add_right_cancel e11
  obtain rfl : r = r' := by exact_mod_cast add_right_cancel (add_right_cancel e01)
  obtain rfl : c = c' := by exact_mod_cast add_right_cancel (add_right_cancel e10)
  obtain rfl : d = d' := by
    exact_mod_cast add_right_cancel (add_right_cancel (add_right_cancel (add_right_cancel e00)))
  rfl

/-- the witnesses (already the last five) separate any two distinct linear forms -/
theorem ovaWitnesses_complete (l l' : OLin) (h : l ≠ l') : ∃ w ∈ ovaWitnesses, wEval l w ≠ wEval l' w := by
  by_contra hc
  exact h (OLin.eq_of_wEval_eq fun w hm => by by_contra hne; exact hc ⟨w, hm, hne⟩)

/-- **soundness of the one-vs-all check**: an accepted table puts the block of class `j` at `[...,
j, a, b]` of a binary result and its block IS the model's `oneVsAll` on every rational matrix of
every size -/
theorem checkOva_ok_sound (d : OvaDef) (h : checkOva d = ovaAllOk) :
    d.classAxis = -3 ∧ d.binary = true ∧ ∀ n M j, d.block n M j = oneVsAll n M j := by
  simp only [checkOva, ovaAllOk, OvaReport.mk.injEq, OvaDef.cells, modelOvaNF, List.zip_cons_cons,
    List.zip_nil_right,
    List.map_cons, List.map_nil, List.cons.injEq, and_true] at h
  obtain ⟨hax, hbin, h0, h1, h2, h3⟩ := h
  refine ⟨by simpa [modelOva] using of_decide_eq_true hax, by simpa [modelOva] using hbin, fun n M j => ?_⟩
  have hs := modelOvaNF_sound n M j
  simp only [modelOvaNF, List.map_cons, List.map_nil, List.cons.injEq, and_true] at hs
  obtain ⟨s0, s1, s2, s3⟩ := hs
  simp only [OvaDef.block, cellVerdict_ok_sound h0 n M j, cellVerdict_ok_sound h1 n M j,
    cellVerdict_ok_sound h2 n M j, cellVerdict_ok_sound h3 n M j, s0, s1, s2, s3]

/-- **bridge**: the existing C05 theorems about the model's one-vs-all hold of every accepted
translation: conservation, TP on the diagonal, P = row sum, TOP = column sum, the complements, and
non-negative cells for a non-negative matrix -/
theorem ova_bridge (d : OvaDef) (h : checkOva d = ovaAllOk) (n : Nat) (M : Mat) (j : Nat) :
    (d.block n M j).pop = total n M ∧ (d.block n M j).tp = M j j ∧ (d.block n M j).p = SA.rowSum n M j ∧
    (d.block n M j).top = SA.colSum n M j ∧ (d.block n M j).n = total n M - SA.rowSum n M j ∧
    (d.block n M j).ton = total n M - SA.colSum n M j ∧
    ((∀ i k, i < n → k < n → 0 ≤ M i k) → j < n → (d.block n M j).Nonneg) := by
  rw [(checkOva_ok_sound d h).2.2 n M j]
  obtain ⟨c1, c2, c3⟩ := C05_ova_cells n M j
  obtain ⟨n1, n2⟩ := C05_ova_negatives n M j
  exact ⟨C05_ova_conserves n M j, c1, c2, c3, n1, n2, fun hM hj => C05_ova_nonneg n M hM j hj⟩

/-- the model's own table is accepted (so the hypotheses of `checkOva_ok_sound` / `ova_bridge` are
satisfiable), and the vectorised / re-associated forms `total - rowsum - colsum + M[j,j]` are
accepted too -/
example : checkOva modelOva = ovaAllOk := by decide +kernel
example : checkOva ⟨-3, true, .diag, .sub .rowSum .diag, .sub .colSum .diag,
    .add (.sub (.sub .total .rowSum) .colSum) .diag⟩ = ovaAllOk := by decide +kernel

/-- swapped FN / FP cells, a TN that forgets the diagonal, a wrong axis: definite mismatches with
witnesses -/
example : checkOva ⟨-1, true, .diag, .sub .colSum .diag, .sub .rowSum .diag, .sub (.sub .total .rowSum) .colSum⟩ =
    ⟨false, true, [.ok, .mismatch 0, .mismatch 0, .mismatch 0]⟩ := by decide +kernel

/-! ### the construction loop -/

theorem modelCons_loop (classes : List Nat) (samples : List Sample) (M : Mat) :
    modelCons.loop classes samples M = accumulate classes samples M := by
  induction samples generalizing M with
  | nil => rfl
  | cons s rest ih =>
    simp only [ConsDef.loop, accumulate, modelCons, Field.of, Upd.apply]
    cases idxMap classes s.label with
    | none => rfl
    | some i =>
      cases idxMap classes s.pred with
      | none => rfl
      | some j => exact ih _

theorem modelCons_samples (labels preds : List Nat) (weights : Option (List Rat)) :
    modelCons.samples labels preds weights = mkSamples labels preds weights := by
  cases weights with
  | none => simp [ConsDef.samples, mkSamples, modelCons]
  | some w =>
    simp only [ConsDef.samples, mkSamples, modelCons, Bool.true_and, decide_eq_true_eq]

/-- the model's row denotes the model's `fromPredictions` -/
theorem modelCons_run (classes : Option (List Nat)) (labels preds : List Nat) (weights : Option (List Rat)) :
    modelCons.run classes labels preds weights = fromPredictions classes labels preds weights := by
  simp only [ConsDef.run, fromPredictions, modelCons_samples]
  cases mkSamples labels preds weights with
  | error e => rfl
  | ok samples =>
    have hz : (fun (_ _ : Nat) => ((modelCons.init : Int) : Rat)) = Mat.zero := by
      funext a b; simp [modelCons, Mat.zero]
    cases classes with
    | none => simp only [fromSamples, modelCons_loop, hz]; rfl
    | some c => simp only [fromSamples, modelCons_loop, hz]; rfl

theorem checkCons_ok_sound (d : ConsDef) (h : checkCons d = .ok) : d = modelCons := by
  unfold checkCons at h
  by_cases hd : d = modelCons
  · exact hd
  · simp only [hd, if_false] at h
    split at h
    · cases h
    · split at h <;> cases h

/-- **bridge**: an accepted construction row denotes the model's `fromPredictions` -/
theorem cons_bridge (d : ConsDef) (h : checkCons d = .ok) (classes : Option (List Nat)) (labels preds : List Nat)
    (weights : Option (List Rat)) : d.run classes labels preds weights = fromPredictions classes labels preds weights := by
  rw [checkCons_ok_sound d h, modelCons_run]

/-- **bridge to `C05_entry`**: with a duplicate-free class list of at least two classes containing
every label and prediction (and as many weights as labels), the translated construction succeeds,
keeps the class order, and entry `[i, j]` is the total weight of the samples with label `classes[i]`
and prediction `classes[j]` -/
theorem cons_bridge_entries (d : ConsDef) (h : checkCons d = .ok) (classes labels preds : List Nat)
    (weights : Option (List Rat)) (hnd : classes.Nodup) (hlen : 2 ≤ classes.length)
    (hw : ∀ w, weights = some w → w.length = labels.length)
    (hin : ∀ x, (x ∈ labels ∨ x ∈ preds) → x ∈ classes) :
    ∃ samples cm, mkSamples labels preds weights = .ok samples ∧
      d.run (some classes) labels preds weights = .ok cm ∧ cm.n = classes.length ∧ cm.classes = classes ∧
      ∀ i j, i < classes.length → j < classes.length →
        cm.m i j = weightOf samples (classes.getD i 0) (classes.getD j 0) := by
  obtain ⟨samples, hs⟩ := mkSamples_ok labels preds weights hw
  have hmem : ∀ s ∈ samples, s.label ∈ classes ∧ s.pred ∈ classes := by
    intro s hsm
    obtain ⟨h1, h2⟩ := mkSamples_mem labels preds weights samples hs s hsm
    exact ⟨hin _ (Or.inl h1), hin _ (Or.inr h2)⟩
  obtain ⟨cm, hcm, h2, h3, h4⟩ := C05_entry classes samples hnd hlen hmem
  refine ⟨samples, cm, hs, ?_, h2, h3, h4⟩
  rw [cons_bridge d h]
  simp only [fromPredictions, hs]
  exact hcm

/-- a reported mismatch of the construction row names a concrete input on which the translated row
and the model produce different results, or one of the three fields without a denotation differs -/
theorem checkCons_mismatch_sound (d : ConsDef) (i : Nat) (h : checkCons d = .mismatch i) :
    (∃ w, consWitnesses[i]? = some w ∧ sameOut (runOn d w) (runOn modelCons w) = false) ∨
    (i = consWitnesses.length ∧ (d.binaryDefault ≠ modelCons.binaryDefault ∨ d.givenAsIs ≠ modelCons.givenAsIs ∨
      d.enumerateMap ≠ modelCons.enumerateMap)) := by
  unfold checkCons at h
  by_cases hd : d = modelCons
  · simp [hd] at h
  · simp only [hd, if_false] at h
    split at h
    · rename_i k hk
      cases h
      obtain ⟨w, hw, hp⟩ := firstIdx_zero_sound hk
      exact Or.inl ⟨w, hw, by simpa using hp⟩
    · split at h
      · rename_i hne
        cases h
        exact Or.inr ⟨rfl, hne⟩
      · cases h

/-- hypotheses of `cons_bridge_entries` are satisfiable; the model's row is accepted -/
example : checkCons modelCons = .ok := by decide +kernel
example : ([7, 3, 5] : List Nat).Nodup ∧ 2 ≤ ([7, 3, 5] : List Nat).length ∧
    (∀ w, (some [1, 2] : Option (List Rat)) = some w → w.length = ([3, 5] : List Nat).length) ∧
    (∀ x, (x ∈ ([3, 5] : List Nat) ∨ x ∈ ([7, 5] : List Nat)) → x ∈ ([7, 3, 5] : List Nat)) := by
  refine ⟨by decide, by decide, ?_, ?_⟩
  · intro w hw; cases hw; rfl
  · intro x hx; simp only [List.mem_cons, List.not_mem_nil, or_false] at hx ⊢; omega

/-- six single-field changes of the model's row: mismatches -/
example : checkCons { modelCons with rowBy := .pred, colBy := .label } = .mismatch 0 := by decide +kernel
example : checkCons { modelCons with upd := .assign } = .mismatch 0 := by decide +kernel
example : checkCons { modelCons with inferred := .uniqueLabels } = .mismatch 2 := by decide +kernel
example : checkCons { modelCons with defaultWeight := 2 } = .mismatch 1 := by decide +kernel
example : checkCons { modelCons with lengthCheck := false } = .mismatch 4 := by decide +kernel
example : checkCons { modelCons with binaryDefault := [0, 1] } = .mismatch 6 := by decide +kernel

end SA.CmDefs

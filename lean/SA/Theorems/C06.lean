/-
C06 — EER is a crossing point.
Proved here: the path analysis of `eer()`, the range of the EER, "EER = 0 only with an error-free
threshold", and the FPR (resp. FNR) side of the crossing wherever the threshold is set at FPR
(resp. FNR) = e.  The bisection path: C06Root.lean (crossing bracket), C06Delta.lean (FNR side).
-/
import SA.Spec.C06
import SA.Theorems.C02
import Mathlib.Tactic.SplitIfs

namespace SA
open Spec Spec.C06

/-! ### the root finder -/

/-- Induction along a run of the bisection: stop, or go on in the left half (midpoint with
`0 ≤ f`) or the right half (midpoint with `f ≤ 0`). -/
theorem findRootLoop_induct (f : ℚ → ℚ) (ff : Bool) (P : ℕ → ℚ → ℚ → ℚ → Prop)
    (stop : ∀ n xa xe, n = 0 ∨ absQ' (xa - xe) < xtol → P n xa xe ((xa + xe) / 2))
    (left : ∀ n xa xe r, 0 ≤ f ((xa + xe) / 2) → P n xa ((xa + xe) / 2) r → P (n + 1) xa xe r)
    (right : ∀ n xa xe r, f ((xa + xe) / 2) ≤ 0 → P n ((xa + xe) / 2) xe r → P (n + 1) xa xe r) :
    ∀ fuel xa xe, P fuel xa xe (findRootLoop f ff fuel xa xe) := by
  intro fuel xa xe
  fun_induction findRootLoop f ff fuel xa xe with
  | case1 xa xe => exact stop 0 xa xe (Or.inl rfl)
  | case2 n xa xe htol => exact stop _ xa xe (Or.inr htol)
  | case3 n xa xe _ xm hneg ih => exact right n xa xe _ hneg.le ih
  | case4 n xa xe _ xm _ hpos ih => exact left n xa xe _ hpos.le ih
  | case5 n xa xe _ xm hneg _ _ ih => exact left n xa xe _ (not_lt.mp hneg) ih
  | case6 n xa xe _ xm _ hpos _ ih => exact right n xa xe _ (not_lt.mp hpos) ih

theorem findRootLoop_bounds (f : ℚ → ℚ) (ff : Bool) :
    ∀ (fuel : ℕ) (xa xe : ℚ), xa ≤ xe →
      xa ≤ findRootLoop f ff fuel xa xe ∧ findRootLoop f ff fuel xa xe ≤ xe :=
  findRootLoop_induct f ff (fun _ xa xe r => xa ≤ xe → xa ≤ r ∧ r ≤ xe)
    (fun _ xa xe _ h => ⟨by linarith, by linarith⟩)
    (fun _ xa xe r _ ih h => by have := ih (by linarith); exact ⟨this.1, by linarith⟩)
    (fun _ xa xe r _ ih h => by have := ih (by linarith); exact ⟨by linarith, this.2⟩)

theorem findRootLoop_pos (f : ℚ → ℚ) (ff : Bool) :
    ∀ (fuel : ℕ) (xa xe : ℚ), 0 ≤ xa → xa ≤ xe → 0 < xe → 0 < findRootLoop f ff fuel xa xe :=
  findRootLoop_induct f ff (fun _ xa xe r => 0 ≤ xa → xa ≤ xe → 0 < xe → 0 < r)
    (fun _ xa xe _ h0 h h1 => by linarith)
    (fun _ xa xe r _ ih h0 h h1 => ih h0 (by linarith) (by linarith))
    (fun _ xa xe r _ ih h0 h h1 => ih (by linarith) (by linarith) h1)

theorem findRoot_ok (f : ℚ → ℚ) (xa xe : ℚ) (ff : Bool) (fuel : ℕ) (r : ℚ)
    (h : findRoot f xa xe ff fuel = .ok r) :
    (f xa ≤ 0 ∧ 0 ≤ f xe) ∧ r = findRootLoop f ff fuel xa xe := by
  unfold findRoot at h
  split at h
  · rename_i hc; exact ⟨hc, (Except.ok.inj h).symm⟩
  · cases h

/-! ### which path produced the result -/

/-- the ways `eer()` can return (the bisection and the cap at `hard_pos_ratio` both as `atFpr`) -/
inductive EerPath (u : Ulp) (s : Scores) (t e : ℚ) : Prop where
  | shortcutPos : s.pos.getD 0 0 > s.neg.getD (s.neg.length - 1) 0 → s.cfg.scoreClass = .pos →
      t = (s.pos.getD 0 0 + s.neg.getD (s.neg.length - 1) 0) / 2 → e = 0 → EerPath u s t e
  | shortcutNeg : s.pos.getD (s.pos.length - 1) 0 < s.neg.getD 0 0 → s.cfg.scoreClass = .neg →
      t = (s.pos.getD (s.pos.length - 1) 0 + s.neg.getD 0 0) / 2 → e = 0 → EerPath u s t e
  | capClose : e = min s.hardPosRatio s.hardNegRatio →
      t = (thrVal u s .fpr e + thrVal u s .fnr e) / 2 → EerPath u s t e
  | atFpr : 0 < e → e ≤ min s.hardPosRatio s.hardNegRatio → t = thrVal u s .fpr e → EerPath u s t e
  | atFnr : e = s.hardNegRatio → e ≤ s.hardPosRatio → t = thrVal u s .fnr e → EerPath u s t e

theorem hardPosRatio_range (s : Scores) (h : s.pos.length ≠ 0) :
    0 < s.hardPosRatio ∧ s.hardPosRatio ≤ 1 := hardPosRatio_pos s h

/-- the function `f` of `Scores.eer` (scores.py: `sign * (thr_fpr(x) - thr_fnr(x))`); by `rfl` also
`eeri_F (thrVal u s .fpr) (thrVal u s .fnr)` (C06Affine.lean) and `c08e_objective u s`
(EerNegate.lean), where `Scores.eer` is analysed as a computation, not as a relation as here -/
def c06f_eerF (u : Ulp) (s : Scores) (x : ℚ) : ℚ :=
  -(thrVal u s .fpr 0 - thrVal u s .fnr 0) * (thrVal u s .fpr x - thrVal u s .fnr x)

/-- shortcut (`e = 0`), cap (`f(maxEer) < 0`) or bisection; the last two only without shortcut -/
theorem eer_ok_cases (u : Ulp) (s : Scores) (fuel : ℕ) (t e : ℚ)
    (h : s.eer u fuel = .ok (t, e)) :
    s.pos.length ≠ 0 ∧ s.neg.length ≠ 0 ∧
    ((e = 0 ∧ EerPath u s t e) ∨
     (¬ (s.pos.getD 0 0 > s.neg.getD (s.neg.length - 1) 0 ∧ s.cfg.scoreClass = .pos) ∧
      ¬ (s.pos.getD (s.pos.length - 1) 0 < s.neg.getD 0 0 ∧ s.cfg.scoreClass = .neg) ∧
      ((c06f_eerF u s (min s.hardPosRatio s.hardNegRatio) < 0 ∧ EerPath u s t e) ∨
       (¬ c06f_eerF u s (min s.hardPosRatio s.hardNegRatio) < 0 ∧ c06f_eerF u s 0 ≤ 0 ∧
        0 ≤ c06f_eerF u s (min s.hardPosRatio s.hardNegRatio) ∧
        e = (findRootLoop (c06f_eerF u s) true fuel 0 (min s.hardPosRatio s.hardNegRatio) +
             findRootLoop (c06f_eerF u s) false fuel 0 (min s.hardPosRatio s.hardNegRatio)) / 2 ∧
        t = thrVal u s .fpr e)))) := by
  unfold Scores.eer at h
  by_cases hne : s.pos.length = 0 ∨ s.neg.length = 0
  · rw [if_pos hne] at h; cases h
  rw [if_neg hne] at h
  rw [not_or] at hne
  refine ⟨hne.1, hne.2, ?_⟩
  have hp := (hardPosRatio_pos s hne.1).1
  dsimp only at h
  by_cases hc1 : s.pos.getD 0 0 > s.neg.getD (s.neg.length - 1) 0 ∧ s.cfg.scoreClass = .pos
  · rw [if_pos hc1] at h
    obtain ⟨rfl, rfl⟩ := Prod.mk.inj (Except.ok.inj h)
    exact Or.inl ⟨rfl, .shortcutPos hc1.1 hc1.2 rfl rfl⟩
  rw [if_neg hc1] at h
  by_cases hc2 : s.pos.getD (s.pos.length - 1) 0 < s.neg.getD 0 0 ∧ s.cfg.scoreClass = .neg
  · rw [if_pos hc2] at h
    obtain ⟨rfl, rfl⟩ := Prod.mk.inj (Except.ok.inj h)
    exact Or.inl ⟨rfl, .shortcutNeg hc2.1 hc2.2 rfl rfl⟩
  rw [if_neg hc2] at h
  refine Or.inr ⟨hc1, hc2, ?_⟩
  split at h
  · rename_i hf
    refine Or.inl ⟨hf, ?_⟩
    split_ifs at h with hcl hlt <;> obtain ⟨rfl, rfl⟩ := Prod.mk.inj (Except.ok.inj h)
    · exact .capClose rfl rfl
    · exact .atFpr hp (le_min (le_refl _) hlt.le) rfl
    · exact .atFnr rfl (not_lt.mp hlt) rfl
  · rename_i hf
    split at h
    · rename_i left right hl hr
      obtain ⟨⟨c0, cM⟩, rfl⟩ := findRoot_ok (c06f_eerF u s) 0 _ true fuel left hl
      obtain ⟨_, rfl⟩ := findRoot_ok (c06f_eerF u s) 0 _ false fuel right hr
      obtain ⟨rfl, rfl⟩ := Prod.mk.inj (Except.ok.inj h)
      exact Or.inr ⟨hf, c0, cM, rfl, rfl⟩
    · cases h
    · cases h

/-- **C06 (paths).** On the bisection path `0 < e ≤ maxEer`, hence `atFpr`. -/
theorem C06_paths (u : Ulp) (s : Scores) (fuel : ℕ) (t e : ℚ)
    (h : s.eer u fuel = .ok (t, e)) :
    s.pos.length ≠ 0 ∧ s.neg.length ≠ 0 ∧ EerPath u s t e := by
  obtain ⟨hpne, hnne, hc⟩ := eer_ok_cases u s fuel t e h
  refine ⟨hpne, hnne, ?_⟩
  rcases hc with ⟨_, hpath⟩ | ⟨_, _, ⟨_, hpath⟩ | ⟨_, _, _, he, ht⟩⟩
  · exact hpath
  · exact hpath
  · -- the bisection: both roots lie in `(0, maxEer]`, hence so does their mean
    have hmin : 0 < min s.hardPosRatio s.hardNegRatio :=
      lt_min (hardPosRatio_pos s hpne).1 (hardNegRatio_pos s hnne).1
    have b1 := (findRootLoop_bounds (c06f_eerF u s) true fuel 0 _ hmin.le).2
    have b2 := (findRootLoop_bounds (c06f_eerF u s) false fuel 0 _ hmin.le).2
    have p1 := findRootLoop_pos (c06f_eerF u s) true fuel 0 _ (le_refl _) hmin.le hmin
    have p2 := findRootLoop_pos (c06f_eerF u s) false fuel 0 _ (le_refl _) hmin.le hmin
    exact .atFpr (by rw [he]; linarith only [p1, p2]) (by rw [he]; linarith only [b1, b2]) ht

/-- **C06 (range).** On every path `0 ≤ e ≤ min(hard_pos_ratio, hard_neg_ratio) ≤ 1`
(this is where `min` vs `max` in the cap matters). -/
theorem C06_range (u : Ulp) (s : Scores) (fuel : ℕ) (t e : ℚ) (h : s.eer u fuel = .ok (t, e)) :
    rangeOK 0 s e = true := by
  obtain ⟨hpne, hnne, hpath⟩ := C06_paths u s fuel t e h
  have hp := hardPosRatio_pos s hpne
  have hn := hardNegRatio_pos s hnne
  have hmin0 : 0 < min s.hardPosRatio s.hardNegRatio := lt_min hp.1 hn.1
  have hmin1 : min s.hardPosRatio s.hardNegRatio ≤ 1 := le_trans (min_le_left _ _) hp.2
  simp only [rangeOK, Bool.and_eq_true, decide_eq_true_eq, neg_zero, add_zero]
  cases hpath with
  | shortcutPos _ _ _ he => rw [he]; exact ⟨⟨le_refl _, le_of_lt hmin0⟩, by norm_num⟩
  | shortcutNeg _ _ _ he => rw [he]; exact ⟨⟨le_refl _, le_of_lt hmin0⟩, by norm_num⟩
  | capClose he _ => rw [he]; exact ⟨⟨le_of_lt hmin0, le_refl _⟩, hmin1⟩
  | atFpr h0 h1 _ => exact ⟨⟨le_of_lt h0, h1⟩, le_trans h1 hmin1⟩
  | atFnr he h1 _ =>
    rw [he]
    exact ⟨⟨le_of_lt hn.1, le_min (by rw [← he]; exact h1) (le_refl _)⟩, hn.2⟩

/-- **C06 (zero EER).** For any input (ties included): a reported EER of exactly 0 comes with a
threshold at which there are no errors (FP = FN = 0). -/
theorem C06_zero (u : Ulp) (s : Scores) (hp : s.pos.Pairwise (· ≤ ·)) (hn : s.neg.Pairwise (· ≤ ·))
    (fuel : ℕ) (t e : ℚ) (h : s.eer u fuel = .ok (t, e)) :
    zeroOK e (s.cm (.fin t)) = true := by
  obtain ⟨hpne, hnne, hpath⟩ := C06_paths u s fuel t e h
  have hpr := (hardPosRatio_pos s hpne).1
  have hnr := (hardNegRatio_pos s hnne).1
  unfold zeroOK
  split
  swap
  · rfl
  rename_i he
  rw [cm_eq_countCM_of_sorted s hp hn]
  simp only [countCM, countP_not, Bool.and_eq_true, beq_iff_eq]
  cases hpath with
  | shortcutPos hc hsc ht _ =>
    have hposgt : ∀ x ∈ s.pos, t < x := fun x hx => by
      have := head_le_of_sorted s.pos hp x hx; rw [ht]; linarith only [this, hc]
    have hneglt : ∀ x ∈ s.neg, x < t := fun x hx => by
      have := le_last_of_sorted s.neg hn x hx; rw [ht]; linarith only [this, hc]
    rw [countP_accept_of_all_gt s.cfg s.pos t hposgt, countP_accept_of_all_lt s.cfg s.neg t hneglt,
      if_pos hsc, if_pos hsc]
    exact ⟨rfl, Nat.sub_self _⟩
  | shortcutNeg hc hsc ht _ =>
    have hposlt : ∀ x ∈ s.pos, x < t := fun x hx => by
      have := le_last_of_sorted s.pos hp x hx; rw [ht]; linarith only [this, hc]
    have hneggt : ∀ x ∈ s.neg, t < x := fun x hx => by
      have := head_le_of_sorted s.neg hn x hx; rw [ht]; linarith only [this, hc]
    have hsc' : ¬ s.cfg.scoreClass = .pos := by rw [hsc]; decide
    rw [countP_accept_of_all_lt s.cfg s.pos t hposlt, countP_accept_of_all_gt s.cfg s.neg t hneggt,
      if_neg hsc', if_neg hsc']
    exact ⟨rfl, Nat.sub_self _⟩
  | capClose he' _ => rw [he] at he'; linarith [lt_min hpr hnr]
  | atFpr h0 _ _ => rw [he] at h0; exact absurd h0 (lt_irrefl _)
  | atFnr he' _ _ => rw [he] at he'; linarith

theorem clipped_of_mem (s : Scores) (metric : Metric) (e : ℚ) (hmin : minNum s metric = 0)
    (h0 : 0 ≤ e) (h1 : e ≤ ((maxNum s metric : ℕ) : ℚ) / ((denom s metric : ℕ) : ℚ)) :
    clipped s metric e = e := by
  unfold clipped clipQ
  rw [hmin, Nat.cast_zero, zero_div, min_eq_left h1, max_eq_right h0]

/-- `C02_within` without the clipping -/
theorem C06_side (u : Ulp) (hu : u.Lawful) (s : Scores)
    (hp : s.pos.Pairwise (· ≤ ·)) (hn : s.neg.Pairwise (· ≤ ·)) (metric : Metric)
    (hmin : minNum s metric = 0) (hne : (s.metricArray metric).length ≠ 0) (t e : ℚ) (h0 : 0 ≤ e)
    (h1 : e ≤ ((maxNum s metric : ℕ) : ℚ) / ((denom s metric : ℕ) : ℚ))
    (ht : t = thrVal u s metric e) (htf : C02.strictlySorted (s.metricArray metric) = true) :
    decide (absQ (rateQ s metric (s.cm (.fin t)) - e) ≤ 1 / (denom s metric : ℚ) + 0) = true := by
  have hw := C02_within u hu s hp hn metric e t (by rw [ht]; exact thrVal_ok u s metric e hne) htf
  unfold C02.withinOK at hw
  rw [clipped_of_mem s metric e hmin h0 h1] at hw
  exact hw

/-- **C06 (FPR side).** On every path whose threshold is set at FPR = e (the bisection path and
the cap at `hard_pos_ratio`), for negatives without ties, `|FPR(t) - e| ≤ 1/N_neg`. -/
theorem C06_fpr_side (u : Ulp) (hu : u.Lawful) (s : Scores)
    (hp : s.pos.Pairwise (· ≤ ·)) (hn : s.neg.Pairwise (· ≤ ·)) (hnne : s.neg.length ≠ 0)
    (t e : ℚ) (h0 : 0 ≤ e) (h1 : e ≤ s.hardNegRatio) (ht : t = thrVal u s .fpr e)
    (htf : C02.strictlySorted s.neg = true) :
    fprSideOK 0 s e (s.cm (.fin t)) = true :=
  C06_side u hu s hp hn .fpr rfl hnne t e h0 (h1.trans (hardNegRatio_eq s hnne).le) ht htf

/-- **C06 (FNR side, cap path).** Symmetrically, where the threshold is set at FNR = e. -/
theorem C06_fnr_side_at_fnr (u : Ulp) (hu : u.Lawful) (s : Scores)
    (hp : s.pos.Pairwise (· ≤ ·)) (hn : s.neg.Pairwise (· ≤ ·)) (hpne : s.pos.length ≠ 0)
    (t e : ℚ) (h0 : 0 ≤ e) (h1 : e ≤ s.hardPosRatio) (ht : t = thrVal u s .fnr e)
    (htf : C02.strictlySorted s.pos = true) :
    fnrSideOK 0 s e (s.cm (.fin t)) = true :=
  C06_side u hu s hp hn .fnr rfl hpne t e h0 (h1.trans (hardPosRatio_eq s hpne).le) ht htf

/-- **C06 (FPR side of the returned pair).** Combining the path analysis with `C06_fpr_side`:
whenever `eer()` returns through the bisection or the `hard_pos_ratio` cap, the FPR at the
returned threshold is within one negative of the returned EER (tie-free negatives). -/
theorem C06_fpr_side_of_eer (u : Ulp) (hu : u.Lawful) (s : Scores)
    (hp : s.pos.Pairwise (· ≤ ·)) (hn : s.neg.Pairwise (· ≤ ·)) (fuel : ℕ) (t e : ℚ)
    (h : s.eer u fuel = .ok (t, e)) (hat : 0 < e ∧ t = thrVal u s .fpr e)
    (htf : C02.strictlySorted s.neg = true) :
    fprSideOK 0 s e (s.cm (.fin t)) = true := by
  obtain ⟨_, hnne, _⟩ := C06_paths u s fuel t e h
  have hr := C06_range u s fuel t e h
  simp only [rangeOK, Bool.and_eq_true, decide_eq_true_eq, add_zero] at hr
  exact C06_fpr_side u hu s hp hn hnne t e (le_of_lt hat.1) (le_trans hr.1.2 (min_le_right _ _))
    hat.2 htf

/-- The FNR side on the bisection path with slack 0: stated here, evaluated (with its `eps`) by
`crossingOK` on every case.  REFUTED in the exact model by `C06_fnr_side_statement_false`
(SA/Theorems/C06Root.lean: the excess is of the order of the `1e-10` bracket); what is proved is
the crossing bracket (there) and the FNR side with explicit slack (SA/Theorems/C06Delta.lean;
`40` is the fuel of the counterexample). -/
def C06_fnr_side_statement : Prop :=
  ∀ (u : Ulp) (s : Scores) (fuel : ℕ) (t e : ℚ), u.Lawful →
    s.pos.Pairwise (· ≤ ·) → s.neg.Pairwise (· ≤ ·) → 40 ≤ fuel →
    s.eer u fuel = .ok (t, e) → tieFree s = true → fnrSideOK 0 s e (s.cm (.fin t)) = true

end SA

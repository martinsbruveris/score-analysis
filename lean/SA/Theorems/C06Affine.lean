/-
C06 / C08 — EER clause of the rescaling rule: an increasing affine map of all scores maps the
returned threshold by the same map and leaves the equal error rate unchanged.

`Scores.eer` inspects the scores only through (i) the first / last elements of the two arrays
(perfect-separation shortcut), (ii) the easy counts (hard ratios) and (iii) the two threshold
functions `threshold_at_fpr`, `threshold_at_fnr`.  Under `x ↦ a x + b` (a > 0) the thresholds are
mapped (`C08_affine_threshold`), so the function handed to the root finder is multiplied by
`a² > 0`; the root finder only inspects signs.
-/
import SA.Theorems.C06
import SA.Theorems.C08

namespace SA

/-! ### the root finder only inspects signs -/

/-- **Root finder, loop.** Multiplying the function by a positive constant does not change
the bisection: only the signs of `f` at the midpoints are inspected. -/
theorem eeri_findRootLoop_scale (f : ℚ → ℚ) (c : ℚ) (hc : 0 < c) (ff : Bool) (fuel : ℕ)
    (xa xe : ℚ) :
    findRootLoop (fun x => c * f x) ff fuel xa xe = findRootLoop f ff fuel xa xe := by
  induction fuel generalizing xa xe with
  | zero => simp only [findRootLoop]
  | succ n ih =>
    simp only [findRootLoop, Rat.mul_neg_iff_of_pos_left hc, gt_iff_lt,
      mul_pos_iff_of_pos_left hc, ih]

/-- **Root finder.** `_find_root` is invariant under multiplying the function by a positive
constant (bracket check and loop). -/
theorem eeri_findRoot_scale (f : ℚ → ℚ) (c : ℚ) (hc : 0 < c) (xa xe : ℚ) (ff : Bool) (fuel : ℕ) :
    findRoot (fun x => c * f x) xa xe ff fuel = findRoot f xa xe ff fuel := by
  unfold findRoot
  simp only [← not_lt, mul_pos_iff_of_pos_left hc, Rat.mul_neg_iff_of_pos_left hc,
    eeri_findRootLoop_scale f c hc]

/-! ### `eer()` as a function of what it reads from the object -/

/-- the function whose root is sought, in terms of the two threshold functions -/
def eeri_F (tf tn : ℚ → ℚ) : ℚ → ℚ := fun x => -(tf 0 - tn 0) * (tf x - tn x)

/-- `Scores.eer` in terms of: class sizes, first / last scores of the two arrays, `score_class`,
the two hard ratios and the two threshold functions. -/
def eeri_core (np nn : ℕ) (pos0 posL neg0 negL : ℚ) (sc : Label) (hpr hnr : ℚ)
    (tf tn : ℚ → ℚ) (fuel : ℕ) : Except Err (ℚ × ℚ) :=
  if np = 0 ∨ nn = 0 then .error .other else
  if pos0 > negL ∧ sc = .pos then .ok ((pos0 + negL) / 2, 0)
  else if posL < neg0 ∧ sc = .neg then .ok ((posL + neg0) / 2, 0)
  else
    if eeri_F tf tn (min hpr hnr) < 0 then
      if isClose hpr hnr then .ok ((tf (min hpr hnr) + tn (min hpr hnr)) / 2, min hpr hnr)
      else if hpr < hnr then .ok (tf hpr, hpr)
      else .ok (tn hnr, hnr)
    else
      match findRoot (eeri_F tf tn) 0 (min hpr hnr) true fuel,
            findRoot (eeri_F tf tn) 0 (min hpr hnr) false fuel with
      | .ok left, .ok right => .ok (tf ((left + right) / 2), (left + right) / 2)
      | .error e, _ => .error e
      | _, .error e => .error e

theorem eeri_eer_eq_core (u : Ulp) (s : Scores) (fuel : ℕ) :
    s.eer u fuel = eeri_core s.pos.length s.neg.length (s.pos.getD 0 0)
      (s.pos.getD (s.pos.length - 1) 0) (s.neg.getD 0 0) (s.neg.getD (s.neg.length - 1) 0)
      s.cfg.scoreClass s.hardPosRatio s.hardNegRatio (thrVal u s .fpr) (thrVal u s .fnr) fuel :=
  rfl

theorem eeri_F_affine (tf tn : ℚ → ℚ) (a b : ℚ) :
    eeri_F (fun x => a * tf x + b) (fun x => a * tn x + b) =
      fun x => (a * a) * eeri_F tf tn x := by
  funext x
  simp only [eeri_F]
  ring

theorem eeri_core_affine (np nn : ℕ) (pos0 posL neg0 negL : ℚ) (sc : Label) (hpr hnr : ℚ)
    (tf tn : ℚ → ℚ) (fuel : ℕ) (a b : ℚ) (ha : 0 < a) :
    eeri_core np nn (a * pos0 + b) (a * posL + b) (a * neg0 + b) (a * negL + b) sc hpr hnr
        (fun x => a * tf x + b) (fun x => a * tn x + b) fuel =
      (eeri_core np nn pos0 posL neg0 negL sc hpr hnr tf tn fuel).map
        (fun (t, e) => (a * t + b, e)) := by
  have haa : 0 < a * a := mul_pos ha ha
  have c1 : (a * pos0 + b > a * negL + b) ↔ pos0 > negL := by
    rw [gt_iff_lt, add_lt_add_iff_right, mul_lt_mul_iff_right₀ ha]
  have c2 : (a * posL + b < a * neg0 + b) ↔ posL < neg0 := by
    rw [add_lt_add_iff_right, mul_lt_mul_iff_right₀ ha]
  have hmid : ∀ x y : ℚ, ((a * x + b) + (a * y + b)) / 2 = a * ((x + y) / 2) + b :=
    fun x y => by ring
  unfold eeri_core
  rw [eeri_F_affine, eeri_findRoot_scale _ _ haa, eeri_findRoot_scale _ _ haa]
  -- the same tests on both sides: compare the leaves
  simp only [c1, c2, Rat.mul_neg_iff_of_pos_left haa, hmid]
  rw [apply_ite (Except.map _), apply_ite (Except.map _), apply_ite (Except.map _),
    apply_ite (Except.map _), apply_ite (Except.map _), apply_ite (Except.map _)]
  refine if_congr Iff.rfl rfl ?_
  refine if_congr Iff.rfl rfl ?_
  refine if_congr Iff.rfl rfl ?_
  refine if_congr Iff.rfl rfl ?_
  cases findRoot (eeri_F tf tn) 0 (min hpr hnr) true fuel <;>
    cases findRoot (eeri_F tf tn) 0 (min hpr hnr) false fuel <;> rfl

/-! ### the rescaled object -/

theorem eeri_thrVal_affine (u u' : Ulp) (s : Scores) (a b : ℚ) (ha : 0 < a)
    (hd : ∀ x, u'.down (a * x + b) = a * u.down x + b)
    (hup : ∀ x, u'.up (a * x + b) = a * u.up x + b) (metric : Metric) (r : ℚ)
    (h : (s.metricArray metric).length ≠ 0) :
    thrVal u' (s.affine a b) metric r = a * thrVal u s metric r + b := by
  have h1 := thrVal_ok u s metric r h
  have h2 := C08_affine_threshold u u' s a b ha hd hup metric r .linear
  rw [h1] at h2
  unfold thrVal
  rw [h2, h1]
  rfl

theorem eeri_hardPos_affine (s : Scores) (a b : ℚ) :
    (s.affine a b).hardPosRatio = s.hardPosRatio := by
  simp only [Scores.hardPosRatio, Scores.affine, List.length_map]

theorem eeri_hardNeg_affine (s : Scores) (a b : ℚ) :
    (s.affine a b).hardNegRatio = s.hardNegRatio := by
  simp only [Scores.hardNegRatio, Scores.affine, List.length_map]

/-- **C06 / C08 (rescaling, EER).** For `a > 0` and a `nextafter` oracle pair that commutes with
the map (as in `C08_affine_threshold`), `eer()` of the rescaled object returns the image of the
threshold and the same rate; errors (an empty class, a failed bracket check) are the same.  No
hypothesis on sortedness, ties, easy counts, configuration or fuel is needed. -/
theorem C06_affine (u u' : Ulp) (s : Scores) (a b : ℚ) (ha : 0 < a)
    (hd : ∀ x, u'.down (a * x + b) = a * u.down x + b)
    (hup : ∀ x, u'.up (a * x + b) = a * u.up x + b) (fuel : ℕ) :
    (s.affine a b).eer u' fuel = (s.eer u fuel).map (fun (t, e) => (a * t + b, e)) := by
  rw [eeri_eer_eq_core, eeri_eer_eq_core, eeri_hardPos_affine, eeri_hardNeg_affine]
  have hlp : (s.affine a b).pos.length = s.pos.length := List.length_map _
  have hln : (s.affine a b).neg.length = s.neg.length := List.length_map _
  have hcfg : (s.affine a b).cfg = s.cfg := rfl
  rw [hlp, hln, hcfg]
  by_cases hE : s.pos.length = 0 ∨ s.neg.length = 0
  · unfold eeri_core
    rw [if_pos hE, if_pos hE]; rfl
  rw [not_or] at hE
  obtain ⟨hp0, hn0⟩ := hE
  have g1 : (s.affine a b).pos.getD 0 0 = a * s.pos.getD 0 0 + b :=
    getD_map_affine s.pos a b 0 (Nat.pos_of_ne_zero hp0)
  have g2 : (s.affine a b).pos.getD (s.pos.length - 1) 0 =
      a * s.pos.getD (s.pos.length - 1) 0 + b :=
    getD_map_affine s.pos a b _ (Nat.sub_one_lt hp0)
  have g3 : (s.affine a b).neg.getD 0 0 = a * s.neg.getD 0 0 + b :=
    getD_map_affine s.neg a b 0 (Nat.pos_of_ne_zero hn0)
  have g4 : (s.affine a b).neg.getD (s.neg.length - 1) 0 =
      a * s.neg.getD (s.neg.length - 1) 0 + b :=
    getD_map_affine s.neg a b _ (Nat.sub_one_lt hn0)
  have t1 : thrVal u' (s.affine a b) .fpr = fun x => a * thrVal u s .fpr x + b := by
    funext x; exact eeri_thrVal_affine u u' s a b ha hd hup .fpr x hn0
  have t2 : thrVal u' (s.affine a b) .fnr = fun x => a * thrVal u s .fnr x + b := by
    funext x; exact eeri_thrVal_affine u u' s a b ha hd hup .fnr x hp0
  rw [g1, g2, g3, g4, t1, t2]
  exact eeri_core_affine _ _ _ _ _ _ _ _ _ _ _ fuel a b ha

/-- **Corollary.** In the `(t, e)` form: a successful call on `s` gives a successful call on
the rescaled object with the mapped threshold and the same EER (that errors correspond too is in
`C06_affine`). -/
theorem C06_affine_ok (u u' : Ulp) (s : Scores) (a b : ℚ) (ha : 0 < a)
    (hd : ∀ x, u'.down (a * x + b) = a * u.down x + b)
    (hup : ∀ x, u'.up (a * x + b) = a * u.up x + b) (fuel : ℕ) (t e : ℚ)
    (h : s.eer u fuel = .ok (t, e)) :
    (s.affine a b).eer u' fuel = .ok (a * t + b, e) := by
  rw [C06_affine u u' s a b ha hd hup fuel, h]; rfl

/-! ### non-vacuity -/

/-- Hypotheses of `C06_affine` are satisfiable (half-step oracle, translations). -/
example : (0 : ℚ) < 1 ∧ (∀ x, Ulp.half.down (1 * x + 7) = 1 * Ulp.half.down x + 7) ∧
    (∀ x, Ulp.half.up (1 * x + 7) = 1 * Ulp.half.up x + 7) :=
  ⟨by norm_num, fun x => by simp only [Ulp.half]; ring, fun x => by simp only [Ulp.half]; ring⟩

/-- ... and the statement is not vacuous: on this example the call succeeds, so `C06_affine_ok`
applies. -/
example : (Scores.eer Ulp.half ⟨[1, 3, 5], [2, 4, 6], 0, 0, ⟨.pos, .pos⟩⟩ 8).isOk = true := by
  decide +kernel

end SA

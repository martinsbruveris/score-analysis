/-
C06 — the FNR side on the bisection path of `Scores.eer()`, with an explicit data-dependent slack.

`C06_bisect_crossing` (C06Root.lean) brackets the returned `e` by targets `p ≤ e ≤ q`,
`q − p < xtol`, across which `thr_fpr − thr_fnr` changes sign.  The returned threshold
`t = thr_fpr(e)` is then within the Lipschitz slack of `thr_fpr(p)`, `thr_fpr(q)`, which lie on
either side of `thr_fnr(p)`, `thr_fnr(q)` (`C06_fnr_side_bisect`, slack `c06d_delta`).  The slack
has to be allowed on the THRESHOLD axis (`C06_fnr_side_slack`): next to a sentinel `thr_fnr` has flat
pieces one sample wide, where no nearby target reproduces a nearby threshold.
-/
import SA.Theorems.C06Root
import SA.Proofs.ThrLipschitz

namespace SA
open Spec Spec.C06

/-! ### the slack -/

/-- how far `thr_fpr` can move when the requested rate moves by `xtol`: Lipschitz constant
`N_neg · maxGap(neg)` (all negatives, easy ones included, times the largest gap between consecutive
negative scores) times `xtol`, plus the two `nextafter` steps at the ends of the negatives -/
def c06d_thrSlack (u : Ulp) (s : Scores) : ℚ :=
  (s.nbAllNeg : ℚ) * c06d_maxGap s.neg * xtol + c06d_jump u s.neg

/-- the slack of the FNR side: `xtol` (width of the crossing bracket) plus `c06d_thrSlack`
divided by the inverse-Lipschitz constant `N_pos · minGap(pos)` of `thr_fnr` -/
def c06d_delta (u : Ulp) (s : Scores) : ℚ :=
  xtol + c06d_thrSlack u s / ((s.nbAllPos : ℚ) * c06d_minGap s.pos)

theorem c06d_thrSlack_pos (u : Ulp) (hu : u.Lawful) (s : Scores) : 0 < c06d_thrSlack u s := by
  unfold c06d_thrSlack c06d_jump
  have h1 : (0 : ℚ) ≤ (s.nbAllNeg : ℚ) := by positivity
  have h2 := mul_nonneg (mul_nonneg h1 (c06d_maxGap_nonneg s.neg)) (le_of_lt c06f_xtol_pos)
  linarith [c06d_jumpLo_pos u hu s.neg, c06d_jumpHi_pos u hu s.neg]

/-! ### arithmetic helpers -/

/-- from a count `c` within `1 + Z · N` of `[p · N, q · N]` to the rate `c / N` -/
theorem c06d_rate_of_count (c N p q e w Z : ℚ) (hN : 0 < N) (hlo : p * N - 1 - Z * N ≤ c)
    (hhi : c ≤ q * N + 1 + Z * N) (hp : e - w ≤ p) (hq : q ≤ e + w) :
    -(1 / N + (w + Z)) ≤ c / N - e ∧ c / N - e ≤ 1 / N + (w + Z) := by
  have h1 : p - 1 / N - Z ≤ c / N := by
    rw [le_div_iff₀ hN, sub_mul, sub_mul, one_div, inv_mul_cancel₀ hN.ne']; exact hlo
  have h2 : c / N ≤ q + 1 / N + Z := by
    rw [div_le_iff₀ hN, add_mul, add_mul, one_div, inv_mul_cancel₀ hN.ne']; exact hhi
  exact ⟨by linarith only [h1, hp], by linarith only [h2, hq]⟩

/-- for a requested FNR in the achievable range, `clip01(rescaled) · #hard positives` is the
requested number of positives -/
theorem c06d_clip_fnr (s : Scores) (hpne : s.pos.length ≠ 0) (x : ℚ) (h0 : 0 ≤ x)
    (h1 : x ≤ s.hardPosRatio) :
    clip01 (s.rescale .fnr x) * (s.pos.length : ℚ) = x * (s.nbAllPos : ℚ) := by
  have hspec := rescale_spec s .fnr x hpne
  rw [clipped_of_mem s .fnr x rfl h0 (h1.trans (hardPosRatio_eq s hpne).le)] at hspec
  simp only [minNum, denom, Scores.metricArray, Nat.cast_zero, zero_add] at hspec
  exact hspec.symm

/-! ### the FNR side, given a sandwich -/

theorem c06f_fnrSide_unfold (s : Scores) (eps e : ℚ) (m : CM) :
    fnrSideOK eps s e m = true ↔
      -(1 / (denom s .fnr : ℚ) + eps) ≤ rateQ s .fnr m - e ∧
        rateQ s .fnr m - e ≤ 1 / (denom s .fnr : ℚ) + eps := by
  unfold fnrSideOK
  rw [decide_eq_true_eq, absQ_le]

/-- **C06 (FNR side, given a sandwich with slack on both axes).** Tie-free positives, targets
`e1, e2 ∈ [0, hard_pos_ratio]` within `δ` of `e`, and `t` between `thr_fnr(e1)` and `thr_fnr(e2)` up
to `D` (in the direction in which FNR grows with the threshold):
`|FNR(t) − e| ≤ 1/N_pos + δ + D / (N_pos · minGap(pos))`.  All configurations and easy counts. -/
theorem C06_fnr_side_slack (u : Ulp) (hu : u.Lawful) (s : Scores)
    (hp : s.pos.Pairwise (· ≤ ·)) (hn : s.neg.Pairwise (· ≤ ·)) (hpne : s.pos.length ≠ 0)
    (htf : C02.strictlySorted s.pos = true) (t e e1 e2 δ D : ℚ)
    (h01 : 0 ≤ e1) (h11 : e1 ≤ s.hardPosRatio) (h02 : 0 ≤ e2) (h12 : e2 ≤ s.hardPosRatio)
    (hd1 : e - δ ≤ e1) (hd2 : e2 ≤ e + δ) (hD : 0 ≤ D)
    (hs : if evenFlips s.cfg Metric.fnr.increasing
      then thrVal u s .fnr e1 - D ≤ t ∧ t ≤ thrVal u s .fnr e2 + D
      else thrVal u s .fnr e2 - D ≤ t ∧ t ≤ thrVal u s .fnr e1 + D) :
    fnrSideOK (δ + D / ((s.nbAllPos : ℚ) * c06d_minGap s.pos)) s e (s.cm (.fin t)) = true := by
  have hstrict := pairwise_of_strictlySorted _ htf
  have hmg := c06d_minGap_pos s.pos hstrict
  have hN : (0 : ℚ) < (s.nbAllPos : ℚ) := denom_pos s .fnr hpne
  -- the number of rejected positives at `t` is within `1 + D / minGap` of `[e1 · N_pos, e2 · N_pos]`
  have hcount : e1 * (s.nbAllPos : ℚ) - 1 - D / c06d_minGap s.pos ≤
        ((s.cm (.fin t)).rateNum .fnr : ℚ) ∧
      ((s.cm (.fin t)).rateNum .fnr : ℚ) ≤ e2 * (s.nbAllPos : ℚ) + 1 + D / c06d_minGap s.pos := by
    have cp := c06d_clip_fnr s hpne e1 h01 h11
    have cq := c06d_clip_fnr s hpne e2 h02 h12
    have b1 : (cntLt s.pos t : ℚ) ≤ (belowCount s.cfg s.pos t : ℚ) :=
      Nat.cast_le.mpr (cntLt_le_belowCount s.cfg s.pos t)
    have b2 : (belowCount s.cfg s.pos t : ℚ) ≤ (cntLe s.pos t : ℚ) :=
      Nat.cast_le.mpr (belowCount_le_cntLe s.cfg s.pos t)
    rw [rateNum_eq s hp hn .fnr t]
    rw [thrVal_eq u s .fnr e1 hpne, thrVal_eq u s .fnr e2 hpne] at hs
    simp only [minNum, Scores.metricArray, zero_add] at hs ⊢
    generalize normLc s.cfg Metric.fnr.increasing Metric.fnr.ratioClass = lc at hs
    split at hs
    · rename_i he
      simp only [normTarget, if_pos he] at hs ⊢
      have A := c06d_cntLe_near u hu s.pos hstrict hpne _ lc D t hD hs.2
      have B := c06d_cntLt_near u hu s.pos hstrict hpne _ lc D t hD hs.1
      rw [cq] at A
      rw [cp] at B
      exact ⟨by linarith only [B, b1], by linarith only [A, b2]⟩
    · rename_i he
      simp only [normTarget, if_neg he] at hs ⊢
      have A := c06d_cntLe_near u hu s.pos hstrict hpne _ lc D t hD hs.2
      have B := c06d_cntLt_near u hu s.pos hstrict hpne _ lc D t hD hs.1
      rw [clip01_one_sub, sub_mul, one_mul, cp] at A
      rw [clip01_one_sub, sub_mul, one_mul, cq] at B
      rw [Nat.cast_sub (belowCount_le_length s.cfg s.pos t)]
      exact ⟨by linarith only [A, b2], by linarith only [B, b1]⟩
  have hZ : D / c06d_minGap s.pos =
      D / ((s.nbAllPos : ℚ) * c06d_minGap s.pos) * (s.nbAllPos : ℚ) := by
    rw [div_mul_eq_mul_div, mul_comm (s.nbAllPos : ℚ), mul_div_mul_right _ _ hN.ne']
  rw [hZ] at hcount
  rw [c06f_fnrSide_unfold]
  exact c06d_rate_of_count _ _ e1 e2 e δ _ hN hcount.1 hcount.2 hd1 hd2

/-- **C06 (FNR side, sandwich form).** The case `D = 0`: `|FNR(t) − e| ≤ 1/N_pos + δ`.  With
`e1 = e2 = e`, `δ = 0` this is `C06_fnr_side_at_fnr`; `C06_fnr_side_statement_false` shows that
`δ = 0` is not achievable on the bisection path. -/
theorem C06_fnr_side_sandwich (u : Ulp) (hu : u.Lawful) (s : Scores)
    (hp : s.pos.Pairwise (· ≤ ·)) (hn : s.neg.Pairwise (· ≤ ·)) (hpne : s.pos.length ≠ 0)
    (htf : C02.strictlySorted s.pos = true) (t e e1 e2 δ : ℚ)
    (h01 : 0 ≤ e1) (h11 : e1 ≤ s.hardPosRatio) (h02 : 0 ≤ e2) (h12 : e2 ≤ s.hardPosRatio)
    (hd1 : e - δ ≤ e1) (hd2 : e2 ≤ e + δ)
    (hs : if evenFlips s.cfg Metric.fnr.increasing
      then thrVal u s .fnr e1 ≤ t ∧ t ≤ thrVal u s .fnr e2
      else thrVal u s .fnr e2 ≤ t ∧ t ≤ thrVal u s .fnr e1) :
    fnrSideOK δ s e (s.cm (.fin t)) = true := by
  have h := C06_fnr_side_slack u hu s hp hn hpne htf t e e1 e2 δ 0 h01 h11 h02 h12 hd1 hd2
    (le_refl _) (by simpa only [sub_zero, add_zero] using hs)
  rwa [zero_div, add_zero] at h

/-- **C06 (FNR side, threshold-slack form).** The case of targets `p ≤ e ≤ q` with `q − p ≤ w`:
`|FNR(t) − e| ≤ 1/N_pos + w + D / (N_pos · minGap(pos))`. -/
theorem C06_fnr_side_near (u : Ulp) (hu : u.Lawful) (s : Scores)
    (hp : s.pos.Pairwise (· ≤ ·)) (hn : s.neg.Pairwise (· ≤ ·)) (hpne : s.pos.length ≠ 0)
    (htf : C02.strictlySorted s.pos = true) (t e p q w D : ℚ)
    (h0 : 0 ≤ p) (hpe : p ≤ e) (heq : e ≤ q) (hq : q ≤ s.hardPosRatio) (hw : q - p ≤ w)
    (hD : 0 ≤ D)
    (hs : if evenFlips s.cfg Metric.fnr.increasing
      then thrVal u s .fnr p - D ≤ t ∧ t ≤ thrVal u s .fnr q + D
      else thrVal u s .fnr q - D ≤ t ∧ t ≤ thrVal u s .fnr p + D) :
    fnrSideOK (w + D / ((s.nbAllPos : ℚ) * c06d_minGap s.pos)) s e (s.cm (.fin t)) = true :=
  C06_fnr_side_slack u hu s hp hn hpne htf t e p q w D h0 (by linarith) (by linarith) hq
    (by linarith) (by linarith) hD hs

/-! ### which way the bracketed function changes sign -/

theorem c06d_thrVal_zero (u : Ulp) (s : Scores) (metric : Metric)
    (hne : (s.metricArray metric).length ≠ 0) :
    thrVal u s metric 0 =
      if evenFlips s.cfg metric.increasing then u.down ((s.metricArray metric).getD 0 0)
      else u.up ((s.metricArray metric).getD ((s.metricArray metric).length - 1) 0) := by
  have h1 := thrVal_ok u s metric 0 hne
  unfold Scores.thresholdAt at h1
  rw [if_neg hne] at h1
  rw [← Except.ok.inj h1]
  exact thresholdAtRatio_low u s.cfg _ _ _ _ _ (rescale_low s metric 0 (le_refl _))

/-- Without perfect separation `thr_fpr(0) = up(neg_last) > down(pos_first) = thr_fnr(0)` for
`score_class = pos` and `down(neg_first) < up(pos_last)` otherwise: the code's `sign` is not 0. -/
theorem c06d_diff_zero (u : Ulp) (hu : u.Lawful) (s : Scores) (hpne : s.pos.length ≠ 0)
    (hnne : s.neg.length ≠ 0)
    (ns1 : ¬ (s.pos.getD 0 0 > s.neg.getD (s.neg.length - 1) 0 ∧ s.cfg.scoreClass = .pos))
    (ns2 : ¬ (s.pos.getD (s.pos.length - 1) 0 < s.neg.getD 0 0 ∧ s.cfg.scoreClass = .neg)) :
    if s.cfg.scoreClass = .pos then 0 < thrVal u s .fpr 0 - thrVal u s .fnr 0
    else thrVal u s .fpr 0 - thrVal u s .fnr 0 < 0 := by
  have z1 := c06d_thrVal_zero u s .fpr hnne
  have z2 := c06d_thrVal_zero u s .fnr hpne
  cases hsc : s.cfg.scoreClass
  · simp only [evenFlips, Metric.increasing, Scores.metricArray, hsc] at z1 z2
    rw [if_neg (by decide)] at z1
    rw [if_pos (by decide)] at z2
    rw [if_pos rfl, z1, z2]
    have hle : s.pos.getD 0 0 ≤ s.neg.getD (s.neg.length - 1) 0 := not_lt.mp fun h => ns1 ⟨h, hsc⟩
    linarith only [hle, hu.down_lt (s.pos.getD 0 0), hu.lt_up (s.neg.getD (s.neg.length - 1) 0)]
  · simp only [evenFlips, Metric.increasing, Scores.metricArray, hsc] at z1 z2
    rw [if_pos (by decide)] at z1
    rw [if_neg (by decide)] at z2
    rw [if_neg (by decide), z1, z2]
    have hle : s.neg.getD 0 0 ≤ s.pos.getD (s.pos.length - 1) 0 := not_lt.mp fun h => ns2 ⟨h, hsc⟩
    linarith only [hle, hu.down_lt (s.neg.getD 0 0), hu.lt_up (s.pos.getD (s.pos.length - 1) 0)]

theorem c06d_factor_signs (c x y : ℚ) (hc : 0 < c) (hx : c * x ≤ 0) (hy : 0 ≤ c * y) :
    x ≤ 0 ∧ 0 ≤ y :=
  ⟨le_of_not_gt fun h => absurd hx (not_le.mpr (mul_pos hc h)),
    (mul_nonneg_iff_of_pos_left hc).mp hy⟩

/-- **Sign of `thr_fpr − thr_fnr` at the ends of the crossing bracket.** On the bisection path
(lawful oracle, fuel ≥ 34, `e ≠ 0`, not the cap path) there are `0 ≤ p ≤ e ≤ q ≤ min(hard ratios)`,
`q − p < xtol`, `t = thr_fpr(e)`, such that for `score_class = pos` the difference
`thr_fpr − thr_fnr` is `≥ 0` at `p` and `≤ 0` at `q`, and the other way round for
`score_class = neg`.  (The factor `sign` of the code is non-zero because the shortcut was not
taken.) -/
theorem c06d_crossing_signs (u : Ulp) (hu : u.Lawful) (s : Scores)
    (hp : s.pos.Pairwise (· ≤ ·)) (hn : s.neg.Pairwise (· ≤ ·)) (fuel : ℕ) (hfuel : 34 ≤ fuel)
    (t e : ℚ) (h : s.eer u fuel = .ok (t, e)) (he : e ≠ 0)
    (hcap : ¬ c06f_eerF u s (min s.hardPosRatio s.hardNegRatio) < 0) :
    ∃ p q : ℚ, 0 ≤ p ∧ p ≤ e ∧ e ≤ q ∧ q ≤ min s.hardPosRatio s.hardNegRatio ∧ q - p < xtol ∧
      t = thrVal u s .fpr e ∧
      (if s.cfg.scoreClass = .pos
       then thrVal u s .fpr q - thrVal u s .fnr q ≤ 0 ∧ 0 ≤ thrVal u s .fpr p - thrVal u s .fnr p
       else thrVal u s .fpr p - thrVal u s .fnr p ≤ 0 ∧
         0 ≤ thrVal u s .fpr q - thrVal u s .fnr q) := by
  obtain ⟨hpne, hnne, hc⟩ := eer_ok_cases u s fuel t e h
  obtain ⟨p, q, hp0, hpe, heq, hqM, hqp, hFp, hFq, ht⟩ :=
    C06_bisect_crossing u hu s hp hn fuel hfuel t e h he hcap
  refine ⟨p, q, hp0, hpe, heq, hqM, hqp, ht, ?_⟩
  rcases hc with ⟨h0, _⟩ | ⟨ns1, ns2, _⟩
  · exact absurd h0 he
  have hd0 := c06d_diff_zero u hu s hpne hnne ns1 ns2
  unfold c06f_eerF at hFp hFq
  split at hd0
  · rename_i hsc
    rw [if_pos hsc]
    rw [neg_mul_comm] at hFp hFq
    have hs := c06d_factor_signs _ _ _ hd0 hFp hFq
    exact ⟨neg_nonneg.mp hs.2, neg_nonpos.mp hs.1⟩
  · rename_i hsc
    rw [if_neg hsc]
    exact c06d_factor_signs _ _ _ (neg_pos.mpr hd0) hFp hFq

/-! ### the bisection path -/

/-- **C06 (the two thresholds nearly agree at the returned EER).** On the bisection path,
`|thr_fpr(e) − thr_fnr(e)| ≤ (N_neg·maxGap(neg) + N_pos·maxGap(pos))·xtol + J(neg) + J(pos)`,
`J` = the two `nextafter` steps at the ends of a class.  Ties allowed, all configurations and easy
counts. -/
theorem C06_thr_gap_at_eer (u : Ulp) (hu : u.Lawful) (s : Scores)
    (hp : s.pos.Pairwise (· ≤ ·)) (hn : s.neg.Pairwise (· ≤ ·)) (fuel : ℕ) (hfuel : 34 ≤ fuel)
    (t e : ℚ) (h : s.eer u fuel = .ok (t, e)) (he : e ≠ 0)
    (hcap : ¬ c06f_eerF u s (min s.hardPosRatio s.hardNegRatio) < 0) :
    absQ (thrVal u s .fpr e - thrVal u s .fnr e) ≤
      ((s.nbAllNeg : ℚ) * c06d_maxGap s.neg + (s.nbAllPos : ℚ) * c06d_maxGap s.pos) * xtol +
        c06d_jump u s.neg + c06d_jump u s.pos := by
  obtain ⟨hpne, hnne, _⟩ := C06_paths u s fuel t e h
  obtain ⟨p, q, hp0, hpe, heq, hqM, hqp, ht, hsg⟩ :=
    c06d_crossing_signs u hu s hp hn fuel hfuel t e h he hcap
  obtain ⟨n1, n2⟩ := c06d_thrVal_fpr_lip u hu s hn hnne p e xtol hpe (by linarith only [heq, hqp])
  obtain ⟨n3, n4⟩ := c06d_thrVal_fpr_lip u hu s hn hnne e q xtol heq (by linarith only [hpe, hqp])
  obtain ⟨p1, p2⟩ := c06d_thrVal_fnr_lip u hu s hp hpne p e xtol hpe (by linarith only [heq, hqp])
  obtain ⟨p3, p4⟩ := c06d_thrVal_fnr_lip u hu s hp hpne e q xtol heq (by linarith only [hpe, hqp])
  rw [absQ_le]
  split at hsg
  · exact ⟨by linarith only [hsg.2, n2, p1], by linarith only [hsg.1, n4, p3]⟩
  · exact ⟨by linarith only [hsg.2, n3, p4], by linarith only [hsg.1, n1, p2]⟩

/-- **C06 (FNR side on the bisection path, explicit slack).** Lawful `nextafter` oracle, sorted
classes, tie-free positives, fuel ≥ 34.  Whenever `eer()` returns `(t, e)` through the bisection
(`e ≠ 0` and not the cap path `f(maxEer) < 0`), the FNR computed by the same object at `t` satisfies
`|FNR(t) − e| ≤ 1/N_pos + c06d_delta u s`, where
`c06d_delta u s = xtol + (N_neg·maxGap(neg)·xtol + J(neg)) / (N_pos·minGap(pos))`.
All configurations and easy counts; ties among the negatives or across classes are allowed. -/
theorem C06_fnr_side_bisect (u : Ulp) (hu : u.Lawful) (s : Scores)
    (hp : s.pos.Pairwise (· ≤ ·)) (hn : s.neg.Pairwise (· ≤ ·))
    (htf : C02.strictlySorted s.pos = true) (fuel : ℕ) (hfuel : 34 ≤ fuel)
    (t e : ℚ) (h : s.eer u fuel = .ok (t, e)) (he : e ≠ 0)
    (hcap : ¬ c06f_eerF u s (min s.hardPosRatio s.hardNegRatio) < 0) :
    fnrSideOK (c06d_delta u s) s e (s.cm (.fin t)) = true := by
  obtain ⟨hpne, hnne, _⟩ := C06_paths u s fuel t e h
  obtain ⟨p, q, hp0, hpe, heq, hqM, hqp, ht, hsg⟩ :=
    c06d_crossing_signs u hu s hp hn fuel hfuel t e h he hcap
  -- `t = thr_fpr(e)` is within `thrSlack` of `thr_fpr(p)` and `thr_fpr(q)`, which lie on either
  -- side of `thr_fnr(p)` resp. `thr_fnr(q)`
  obtain ⟨n1, n2⟩ := c06d_thrVal_fpr_lip u hu s hn hnne p e xtol hpe (by linarith only [heq, hqp])
  obtain ⟨n3, n4⟩ := c06d_thrVal_fpr_lip u hu s hn hnne e q xtol heq (by linarith only [hpe, hqp])
  rw [← ht] at n1 n2 n3 n4
  apply C06_fnr_side_near u hu s hp hn hpne htf t e p q xtol (c06d_thrSlack u s) hp0 hpe heq
    (le_trans hqM (min_le_left _ _)) (le_of_lt hqp) (le_of_lt (c06d_thrSlack_pos u hu s))
  unfold c06d_thrSlack
  cases hsc : s.cfg.scoreClass
  · rw [if_pos hsc] at hsg
    rw [if_pos (by simp only [evenFlips, Metric.increasing, hsc]; decide)]
    exact ⟨by linarith only [hsg.2, n2], by linarith only [hsg.1, n4]⟩
  · rw [if_neg (by rw [hsc]; decide)] at hsg
    rw [if_neg (by simp only [evenFlips, Metric.increasing, hsc]; decide)]
    exact ⟨by linarith only [hsg.2, n3], by linarith only [hsg.1, n1]⟩

/-- tie-free in the sense of the spec (no value repeated within or across the classes) implies
strictly increasing positives -/
theorem c06d_pos_strict_of_tieFree (s : Scores) (hp : s.pos.Pairwise (· ≤ ·))
    (h : tieFree s = true) : s.pos.Pairwise (· < ·) := by
  have h1 : (sortQ (s.pos ++ s.neg)).Pairwise (· < ·) := pairwise_of_strictlySorted _ h
  have h2 : (sortQ (s.pos ++ s.neg)).Nodup := h1.imp (fun hab => ne_of_lt hab)
  have h3 : (s.pos ++ s.neg).Nodup := (sortQ_perm _).nodup_iff.mp h2
  have h4 : s.pos.Nodup := (List.nodup_append.mp h3).1
  exact (hp.and h4).imp (fun hab => lt_of_le_of_ne hab.1 hab.2)

theorem c06d_strictlySorted_of_pairwise : ∀ l : List ℚ, l.Pairwise (· < ·) →
    C02.strictlySorted l = true
  | [], _ => rfl
  | [_], _ => rfl
  | a :: b :: r, h => by
    simp only [C02.strictlySorted, Bool.and_eq_true, decide_eq_true_eq]
    exact ⟨(List.pairwise_cons.mp h).1 b (by simp),
      c06d_strictlySorted_of_pairwise (b :: r) (List.pairwise_cons.mp h).2⟩

/-- **C06 (FNR side on the bisection path), spec-level hypotheses**: `tieFree s` as evaluated by
`crossingOK`. -/
theorem C06_fnr_side_bisect_tieFree (u : Ulp) (hu : u.Lawful) (s : Scores)
    (hp : s.pos.Pairwise (· ≤ ·)) (hn : s.neg.Pairwise (· ≤ ·))
    (htf : tieFree s = true) (fuel : ℕ) (hfuel : 34 ≤ fuel)
    (t e : ℚ) (h : s.eer u fuel = .ok (t, e)) (he : e ≠ 0)
    (hcap : ¬ c06f_eerF u s (min s.hardPosRatio s.hardNegRatio) < 0) :
    fnrSideOK (c06d_delta u s) s e (s.cm (.fin t)) = true :=
  C06_fnr_side_bisect u hu s hp hn
    (c06d_strictlySorted_of_pairwise _ (c06d_pos_strict_of_tieFree s hp htf)) fuel hfuel t e h he
    hcap

/-! ### non-vacuity -/

/-- four positives, five negatives, interleaved, no value repeated, easy samples in both classes;
`score_class = pos`, `equal_class = neg` -/
def c06d_exA : Scores := ⟨[1, 3, 4, 6], [0, 2, 5, 7, 8], 1, 2, ⟨.pos, .neg⟩⟩

/-- same shape with `score_class = neg` (low scores are positive) -/
def c06d_exB : Scores := ⟨[0, 2, 5, 9], [1, 4, 6, 7, 10], 2, 0, ⟨.neg, .pos⟩⟩

/-- a toy `nextafter` with a step of `2^-40` -/
def c06d_fine : Ulp := ⟨fun x => x - 1 / 1099511627776, fun x => x + 1 / 1099511627776⟩

theorem c06d_fine_lawful : c06d_fine.Lawful :=
  ⟨fun x => by show x - 1 / 1099511627776 < x; linarith,
   fun x => by show x < x + 1 / 1099511627776; linarith⟩

/-- does `eer()` (fuel 40) return through the bisection? -/
def c06d_onBisection (u : Ulp) (s : Scores) : Bool :=
  match s.eer u 40 with
  | .ok (_, e) => decide (e ≠ 0) &&
      !decide (c06f_eerF u s (min s.hardPosRatio s.hardNegRatio) < 0)
  | .error _ => false

theorem c06d_onBisection_spec (u : Ulp) (s : Scores) (h : c06d_onBisection u s = true) :
    ∃ t e : ℚ, s.eer u 40 = .ok (t, e) ∧ e ≠ 0 ∧
      ¬ c06f_eerF u s (min s.hardPosRatio s.hardNegRatio) < 0 := by
  unfold c06d_onBisection at h
  split at h
  · rename_i t e heq
    simp only [Bool.and_eq_true, decide_eq_true_eq, Bool.not_eq_true', decide_eq_false_iff_not] at h
    exact ⟨t, e, heq, h.1, h.2⟩
  · exact absurd h (by decide)

theorem c06d_exA_onBisection : c06d_onBisection c06d_fine c06d_exA = true := by decide +kernel

theorem c06d_exB_onBisection : c06d_onBisection Ulp.half c06d_exB = true := by decide +kernel

theorem c06d_exA_sorted : c06d_exA.pos.Pairwise (· ≤ ·) ∧ c06d_exA.neg.Pairwise (· ≤ ·) := by
  decide +kernel

theorem c06d_exB_sorted : c06d_exB.pos.Pairwise (· ≤ ·) ∧ c06d_exB.neg.Pairwise (· ≤ ·) := by
  decide +kernel

theorem c06d_exA_tieFree : tieFree c06d_exA = true :=
  c06f_tieFree_of_perm _ [0, 1, 2, 3, 4, 5, 6, 7, 8] (by decide +kernel) (by decide +kernel)

theorem c06d_exB_tieFree : tieFree c06d_exB = true :=
  c06f_tieFree_of_perm _ [0, 1, 2, 4, 5, 6, 7, 9, 10] (by decide +kernel) (by decide +kernel)

/-- hypotheses of `c06d_crossing_signs`, `C06_thr_gap_at_eer`, `C06_fnr_side_bisect` and
`C06_fnr_side_bisect_tieFree` on `c06d_exA` (`score_class = pos`, easy samples, fine oracle):
the run goes through the bisection; and the conclusion of the main theorem for it -/
example : ∃ t e : ℚ, c06d_exA.eer c06d_fine 40 = .ok (t, e) ∧ e ≠ 0 ∧
    ¬ c06f_eerF c06d_fine c06d_exA (min c06d_exA.hardPosRatio c06d_exA.hardNegRatio) < 0 ∧
    c06d_fine.Lawful ∧ c06d_exA.pos.Pairwise (· ≤ ·) ∧ c06d_exA.neg.Pairwise (· ≤ ·) ∧
    tieFree c06d_exA = true ∧ C02.strictlySorted c06d_exA.pos = true ∧ 34 ≤ 40 ∧
    fnrSideOK (c06d_delta c06d_fine c06d_exA) c06d_exA e (c06d_exA.cm (.fin t)) = true := by
  obtain ⟨t, e, h, he, hcap⟩ := c06d_onBisection_spec _ _ c06d_exA_onBisection
  exact ⟨t, e, h, he, hcap, c06d_fine_lawful, c06d_exA_sorted.1, c06d_exA_sorted.2,
    c06d_exA_tieFree, by decide +kernel, by norm_num,
    C06_fnr_side_bisect_tieFree c06d_fine c06d_fine_lawful c06d_exA c06d_exA_sorted.1
      c06d_exA_sorted.2 c06d_exA_tieFree 40 (by norm_num) t e h he hcap⟩

/-- the same on `c06d_exB` (`score_class = neg`, half-step oracle) -/
example : ∃ t e : ℚ, c06d_exB.eer Ulp.half 40 = .ok (t, e) ∧ e ≠ 0 ∧
    ¬ c06f_eerF Ulp.half c06d_exB (min c06d_exB.hardPosRatio c06d_exB.hardNegRatio) < 0 ∧
    Ulp.half.Lawful ∧ c06d_exB.pos.Pairwise (· ≤ ·) ∧ c06d_exB.neg.Pairwise (· ≤ ·) ∧
    tieFree c06d_exB = true ∧ C02.strictlySorted c06d_exB.pos = true ∧ 34 ≤ 40 ∧
    fnrSideOK (c06d_delta Ulp.half c06d_exB) c06d_exB e (c06d_exB.cm (.fin t)) = true := by
  obtain ⟨t, e, h, he, hcap⟩ := c06d_onBisection_spec _ _ c06d_exB_onBisection
  exact ⟨t, e, h, he, hcap, Ulp.half_lawful, c06d_exB_sorted.1, c06d_exB_sorted.2,
    c06d_exB_tieFree, by decide +kernel, by norm_num,
    C06_fnr_side_bisect_tieFree Ulp.half Ulp.half_lawful c06d_exB c06d_exB_sorted.1
      c06d_exB_sorted.2 c06d_exB_tieFree 40 (by norm_num) t e h he hcap⟩

/-- the slack is of the order of the bisection tolerance when the `nextafter` step is small
against the gaps: for `c06d_exA` with the `2^-40` oracle, `δ = 13/25·10^-9 + 2^-39/5 < 10^-9` -/
example : c06d_delta c06d_fine c06d_exA < 1 / 1000000000 := by decide +kernel

/-- on the counterexample of `C06_fnr_side_statement_false` (half-step oracle) the sentinel steps
dominate the slack: `δ ≈ 1/3`, far above the excess `1/(3·2^35)` found there -/
example : c06d_delta Ulp.half c06f_cex = 2000000003 / 6000000000 := by decide +kernel

/-- hypotheses of `C06_fnr_side_near` (`p = e = q = 1/4`, `w = 0`, `D = 1/8`, `t` half a slack
above `thr_fnr(1/4)`) -/
example : fnrSideOK (0 + (1 / 8) / ((c06d_exA.nbAllPos : ℚ) * c06d_minGap c06d_exA.pos)) c06d_exA
    (1 / 4) (c06d_exA.cm (.fin (thrVal c06d_fine c06d_exA .fnr (1 / 4) + 1 / 16))) = true := by
  apply C06_fnr_side_near c06d_fine c06d_fine_lawful c06d_exA c06d_exA_sorted.1 c06d_exA_sorted.2
    (by decide) (by decide +kernel) _ (1 / 4) (1 / 4) (1 / 4) 0 (1 / 8)
  · norm_num
  · norm_num
  · norm_num
  · simp [Scores.hardPosRatio, c06d_exA]; norm_num
  · norm_num
  · norm_num
  · split <;> constructor <;> linarith

/-- hypotheses of `c06d_pos_strict_of_tieFree` / `c06d_strictlySorted_of_pairwise` -/
example : C02.strictlySorted c06d_exA.pos = true :=
  c06d_strictlySorted_of_pairwise _
    (c06d_pos_strict_of_tieFree c06d_exA c06d_exA_sorted.1 c06d_exA_tieFree)

/-- hypotheses of `c06d_thrVal_zero`, `c06d_clip_fnr` (and a run with `e ≠ 0`) -/
example : ∃ t e : ℚ, c06d_exA.eer c06d_fine 40 = .ok (t, e) ∧ e ≠ 0 ∧
    (c06d_exA.metricArray .fpr).length ≠ 0 ∧ c06d_exA.pos.length ≠ 0 ∧
    (0 : ℚ) ≤ 1 / 4 ∧ (1 / 4 : ℚ) ≤ c06d_exA.hardPosRatio := by
  obtain ⟨t, e, h, he, _⟩ := c06d_onBisection_spec _ _ c06d_exA_onBisection
  refine ⟨t, e, h, he, by decide, by decide, by norm_num, ?_⟩
  simp [Scores.hardPosRatio, c06d_exA]; norm_num

/-- hypotheses of `C06_fnr_side_sandwich` (with `e1 = e2 = e`, `δ = 0`) -/
example : fnrSideOK 0 c06f_cex (1 / 3)
    (c06f_cex.cm (.fin (thrVal Ulp.half c06f_cex .fnr (1 / 3)))) = true := by
  apply C06_fnr_side_sandwich Ulp.half Ulp.half_lawful c06f_cex c06f_cex_sorted.1
    c06f_cex_sorted.2 (by decide) (by decide +kernel) _ (1 / 3) (1 / 3) (1 / 3) 0
  · norm_num
  · simp [Scores.hardPosRatio, c06f_cex]; norm_num
  · norm_num
  · simp [Scores.hardPosRatio, c06f_cex]; norm_num
  · norm_num
  · norm_num
  · split <;> exact ⟨le_refl _, le_refl _⟩

end SA

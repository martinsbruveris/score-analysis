/-
C06 — the bisection path of `Scores.eer()`.

* `_find_root`: the bracket invariant `f xa ≤ 0 ≤ f xe` is preserved, each step halves the
  bracket, and with fuel ≥ 34 on an interval of length ≤ 1 the loop exits by the tolerance test:
  the returned point is the midpoint of a bracket of width `< xtol = 1e-10` across which `f`
  changes sign (`c06f_findRoot_width`, `c06f_findRoot_tol`).
* On the bisection path the function `f` of `eer()` is monotone, and the returned `e` lies in a
  sign-change bracket of width `< xtol` (`C06_bisect_crossing`).
* The statement `C06_fnr_side_statement` (slack 0) is FALSE in the exact model: a tie-free
  counterexample is checked by the kernel (`C06_fnr_side_statement_false`); the excess is
  `1/(3·2^35) ≈ 1e-11`, i.e. below the bisection tolerance.
* With an oracle that is only `Lawful` (samples may lie strictly between a score and its
  `nextafter` neighbour) the FNR side fails by whole samples (`C06_fnr_side_needs_tight_oracle`).
-/
import SA.Theorems.C06

namespace SA
open Spec Spec.C06

/-! ### the bracket invariant of the root finder -/

theorem c06f_absQ'_sub (xa xe : ℚ) (h : xa ≤ xe) : absQ' (xa - xe) = xe - xa := by
  unfold absQ'
  by_cases h' : xa - xe < 0
  · rw [if_pos h']; ring
  · rw [if_neg h']
    have : xa = xe := by linarith
    rw [this]

theorem c06f_xtol_pos : (0 : ℚ) < xtol := by unfold xtol; norm_num

/-- `res` is the midpoint of a sign-change bracket `[a, b] ⊆ [xa, xe]` obtained by `k ≤ fuel`
halvings, and either the tolerance test fired or the fuel ran out. -/
def c06f_Bracket (f : ℚ → ℚ) (xa xe : ℚ) (fuel : ℕ) (res : ℚ) : Prop :=
  ∃ (a b : ℚ) (k : ℕ), k ≤ fuel ∧ xa ≤ a ∧ a ≤ b ∧ b ≤ xe ∧ f a ≤ 0 ∧ 0 ≤ f b ∧
    b - a = (xe - xa) / 2 ^ k ∧ (b - a < xtol ∨ k = fuel) ∧ res = (a + b) / 2

theorem c06f_bracket_half (f : ℚ → ℚ) (xa xe xa' xe' : ℚ) (n : ℕ) (res : ℚ) (h1 : xa ≤ xa')
    (h2 : xe' ≤ xe) (hw : xe' - xa' = (xe - xa) / 2) (hb : c06f_Bracket f xa' xe' n res) :
    c06f_Bracket f xa xe (n + 1) res := by
  obtain ⟨a, b, k, hk, g1, g2, g3, g4, g5, g6, g7, g8⟩ := hb
  refine ⟨a, b, k + 1, by omega, h1.trans g1, g2, g3.trans h2, g4, g5, ?_,
    g7.imp id (congrArg (· + 1)), g8⟩
  rw [g6, hw, div_div, pow_succ, mul_comm]

/-- **Bracket invariant and width halving of `_find_root`.** Started on `xa ≤ xe` with
`f xa ≤ 0 ≤ f xe`, the loop returns the midpoint of a bracket `[a, b] ⊆ [xa, xe]` with
`f a ≤ 0 ≤ f b` of width exactly `(xe - xa) / 2^k` after `k ≤ fuel` halvings; it stopped
because `b - a < xtol` or because the fuel ran out (`k = fuel`).  Any `f`, both `find_first`
settings. -/
theorem c06f_findRoot_width (f : ℚ → ℚ) (ff : Bool) :
    ∀ (fuel : ℕ) (xa xe : ℚ), xa ≤ xe → f xa ≤ 0 → 0 ≤ f xe →
      c06f_Bracket f xa xe fuel (findRootLoop f ff fuel xa xe) :=
  findRootLoop_induct f ff
    (fun n xa xe r => xa ≤ xe → f xa ≤ 0 → 0 ≤ f xe → c06f_Bracket f xa xe n r)
    (fun n xa xe hstop h ha he => ⟨xa, xe, 0, Nat.zero_le _, le_refl _, h, le_refl _, ha, he,
      by rw [pow_zero, div_one],
      hstop.symm.imp (fun ht => by rwa [c06f_absQ'_sub xa xe h] at ht) Eq.symm, rfl⟩)
    (fun n xa xe r hm ih h ha _ =>
      c06f_bracket_half f xa xe xa _ n r (le_refl _) (by linarith) (by ring)
        (ih (by linarith) ha hm))
    (fun n xa xe r hm ih h _ he =>
      c06f_bracket_half f xa xe _ xe n r (by linarith) (le_refl _) (by ring)
        (ih (by linarith) hm he))

/-- **Termination by tolerance.** On an interval of length ≤ 1 (the EER interval `[0, maxEer]`)
34 halvings suffice (`2^-34 < 1e-10`): with fuel ≥ 34 the returned point is the midpoint of a
sign-change bracket of width `< xtol`, hence within `xtol/2` of both a point with `f ≤ 0` and a
point with `f ≥ 0`. -/
theorem c06f_findRoot_tol (f : ℚ → ℚ) (ff : Bool) (fuel : ℕ) (xa xe : ℚ) (h : xa ≤ xe)
    (ha : f xa ≤ 0) (he : 0 ≤ f xe) (hw : xe - xa ≤ 1) (hfuel : 34 ≤ fuel) :
    ∃ a b : ℚ, xa ≤ a ∧ a ≤ b ∧ b ≤ xe ∧ f a ≤ 0 ∧ 0 ≤ f b ∧ b - a < xtol ∧
      findRootLoop f ff fuel xa xe = (a + b) / 2 := by
  obtain ⟨a, b, k, hk, h1, h2, h3, h4, h5, h6, h7, h8⟩ := c06f_findRoot_width f ff fuel xa xe h ha he
  refine ⟨a, b, h1, h2, h3, h4, h5, ?_, h8⟩
  rcases h7 with h7 | h7
  · exact h7
  · rw [h6, h7]
    calc (xe - xa) / 2 ^ fuel ≤ 1 / 2 ^ 34 :=
          div_le_div₀ zero_le_one hw (by norm_num) (pow_le_pow_right₀ (by norm_num) hfuel)
      _ < xtol := by unfold xtol; norm_num

/-! ### the function bisected by `eer()` -/

theorem c06f_thrVal_mono (u : Ulp) (hu : u.Lawful) (s : Scores)
    (hp : s.pos.Pairwise (· ≤ ·)) (hn : s.neg.Pairwise (· ≤ ·)) (metric : Metric)
    (hne : (s.metricArray metric).length ≠ 0) (r1 r2 : ℚ) (h : r1 ≤ r2) :
    if C02.thresholdIncreasing s.cfg metric then thrVal u s metric r1 ≤ thrVal u s metric r2
    else thrVal u s metric r2 ≤ thrVal u s metric r1 :=
  C02_monotone u hu s hp hn metric .linear r1 r2 _ _ h (thrVal_ok u s metric r1 hne)
    (thrVal_ok u s metric r2 hne)

/-- `thr_fpr − thr_fnr` is antitone in the target for `score_class = pos`, monotone otherwise -/
theorem c06f_diff_mono (u : Ulp) (hu : u.Lawful) (s : Scores)
    (hp : s.pos.Pairwise (· ≤ ·)) (hn : s.neg.Pairwise (· ≤ ·))
    (hpne : s.pos.length ≠ 0) (hnne : s.neg.length ≠ 0) (x y : ℚ) (h : x ≤ y) :
    if s.cfg.scoreClass = .pos then
      thrVal u s .fpr y - thrVal u s .fnr y ≤ thrVal u s .fpr x - thrVal u s .fnr x
    else thrVal u s .fpr x - thrVal u s .fnr x ≤ thrVal u s .fpr y - thrVal u s .fnr y := by
  have a := c06f_thrVal_mono u hu s hp hn .fpr hnne x y h
  have b := c06f_thrVal_mono u hu s hp hn .fnr hpne x y h
  unfold C02.thresholdIncreasing at a b
  cases hsc : s.cfg.scoreClass
  · -- `score_class = pos`: `thr_fpr` falls and `thr_fnr` rises with the target
    rw [hsc, if_neg (by decide)] at a
    rw [hsc, if_pos (by decide)] at b
    rw [if_pos rfl]
    linarith only [a, b]
  · -- `score_class = neg`: the other way round
    rw [hsc, if_pos (by decide)] at a
    rw [hsc, if_neg (by decide)] at b
    rw [if_neg (by decide)]
    linarith only [a, b]

/-- **`f` is monotone whenever the bisection is entered** (`¬ f(maxEer) < 0`): `f = −d(0) · d`
with `d = thr_fpr − thr_fnr` monotone in one direction, and `d(0)` has the sign that makes the
product non-decreasing, or else `f(maxEer) = −d(0) · d(maxEer) < 0`. -/
theorem c06f_eerF_mono (u : Ulp) (hu : u.Lawful) (s : Scores)
    (hp : s.pos.Pairwise (· ≤ ·)) (hn : s.neg.Pairwise (· ≤ ·))
    (hpne : s.pos.length ≠ 0) (hnne : s.neg.length ≠ 0) (M : ℚ) (hM : 0 ≤ M)
    (hfM : ¬ c06f_eerF u s M < 0) (x y : ℚ) (hxy : x ≤ y) :
    c06f_eerF u s x ≤ c06f_eerF u s y := by
  have d0M := c06f_diff_mono u hu s hp hn hpne hnne 0 M hM
  have dxy := c06f_diff_mono u hu s hp hn hpne hnne x y hxy
  unfold c06f_eerF at hfM ⊢
  rw [not_lt] at hfM
  generalize thrVal u s .fpr 0 - thrVal u s .fnr 0 = d0 at *
  generalize thrVal u s .fpr M - thrVal u s .fnr M = dM at *
  generalize thrVal u s .fpr x - thrVal u s .fnr x = dx at *
  generalize thrVal u s .fpr y - thrVal u s .fnr y = dy at *
  split at d0M
  · rename_i hsc
    rw [if_pos hsc] at dxy
    have hd0 : 0 ≤ d0 := by
      by_contra hcon
      have := mul_pos_of_neg_of_neg (not_le.mp hcon) (lt_of_le_of_lt d0M (not_le.mp hcon))
      linarith
    have := mul_nonneg hd0 (sub_nonneg.mpr dxy)
    linarith
  · rename_i hsc
    rw [if_neg hsc] at dxy
    have hd0 : d0 ≤ 0 := by
      by_contra hcon
      have := mul_pos (not_le.mp hcon) (lt_of_lt_of_le (not_le.mp hcon) d0M)
      linarith
    have := mul_nonneg (neg_nonneg.mpr hd0) (sub_nonneg.mpr dxy)
    linarith

/-! ### the form of the result on the bisection path -/

theorem c06f_eer_form (u : Ulp) (s : Scores) (fuel : ℕ) (t e : ℚ)
    (h : s.eer u fuel = .ok (t, e)) :
    e = 0 ∨ c06f_eerF u s (min s.hardPosRatio s.hardNegRatio) < 0 ∨
    (c06f_eerF u s 0 ≤ 0 ∧ 0 ≤ c06f_eerF u s (min s.hardPosRatio s.hardNegRatio) ∧
      e = (findRootLoop (c06f_eerF u s) true fuel 0 (min s.hardPosRatio s.hardNegRatio) +
           findRootLoop (c06f_eerF u s) false fuel 0 (min s.hardPosRatio s.hardNegRatio)) / 2 ∧
      t = thrVal u s .fpr e) := by
  obtain ⟨_, _, ⟨he, _⟩ | ⟨_, _, ⟨hf, _⟩ | ⟨_, hb⟩⟩⟩ := eer_ok_cases u s fuel t e h
  · exact Or.inl he
  · exact Or.inr (Or.inl hf)
  · exact Or.inr (Or.inr hb)

/-- Two sign-change brackets of width `< xtol` of a monotone `F` inside `[0, M]`: the mean `e` of
their midpoints lies in such a bracket too, namely between `min e (max a₁ a₂)` and
`max e (min b₁ b₂)`. -/
theorem c06f_between (F : ℚ → ℚ) (hmono : ∀ x y, x ≤ y → F x ≤ F y) (M a1 b1 a2 b2 e : ℚ)
    (l0 : 0 ≤ a1) (l1 : a1 ≤ b1) (l2 : b1 ≤ M) (l3 : F a1 ≤ 0) (l4 : 0 ≤ F b1) (l5 : b1 - a1 < xtol)
    (r0 : 0 ≤ a2) (r1 : a2 ≤ b2) (r2 : b2 ≤ M) (r3 : F a2 ≤ 0) (r4 : 0 ≤ F b2) (r5 : b2 - a2 < xtol)
    (he : e = ((a1 + b1) / 2 + (a2 + b2) / 2) / 2) :
    ∃ p q : ℚ, 0 ≤ p ∧ p ≤ e ∧ e ≤ q ∧ q ≤ M ∧ q - p < xtol ∧ F p ≤ 0 ∧ 0 ≤ F q := by
  have hxt := c06f_xtol_pos
  replace he : 4 * e = a1 + b1 + a2 + b2 := by rw [he]; ring
  have hA1 := le_max_left a1 a2
  have hA2 := le_max_right a1 a2
  have hB1 := min_le_left b1 b2
  have hB2 := min_le_right b1 b2
  have hFA : F (max a1 a2) ≤ 0 := by
    rcases max_choice a1 a2 with h | h <;> rw [h]
    exacts [l3, r3]
  have hFB : 0 ≤ F (min b1 b2) := by
    rcases min_choice b1 b2 with h | h <;> rw [h]
    exacts [l4, r4]
  have he0 : 0 ≤ e := by linarith only [he, l0, l1, r0, r1]
  have heM : e ≤ M := by linarith only [he, l1, l2, r1, r2]
  have w1 : e < xtol + max a1 a2 := by linarith only [he, hA1, hA2, l5, r5, hxt]
  have w2 : min b1 b2 < xtol + e := by linarith only [he, hB1, hB2, l5, r5, hxt]
  have w3 : min b1 b2 < xtol + max a1 a2 := by linarith only [hA1, hB1, l5]
  have hw : max e (min b1 b2) - min e (max a1 a2) < xtol := by
    rw [sub_lt_iff_lt_add, ← min_add_add_left]
    exact max_lt (lt_min (lt_add_of_pos_left _ hxt) w1) (lt_min w2 w3)
  exact ⟨min e (max a1 a2), max e (min b1 b2), le_min he0 (l0.trans hA1), min_le_left _ _,
    le_max_left _ _, max_le heM (hB1.trans l2), hw,
    (hmono _ _ (min_le_right _ _)).trans hFA, hFB.trans (hmono _ _ (le_max_right _ _))⟩

/-- **C06 (bisection path: the returned EER is a crossing to within the tolerance).**
With fuel ≥ 34 (the driver uses 64), whenever `eer()` returns through
the bisection (`e ≠ 0` and `f(maxEer) ≥ 0`), the reported `e` lies in an interval `[p, q]`
of width `< xtol = 1e-10` inside `[0, maxEer]` with `f p ≤ 0 ≤ f q`, where
`f = sign · (thr_fpr − thr_fnr)` is the function bisected by the code, and `t = thr_fpr(e)`.
Ties allowed, all configurations and easy counts. -/
theorem C06_bisect_crossing (u : Ulp) (hu : u.Lawful) (s : Scores)
    (hp : s.pos.Pairwise (· ≤ ·)) (hn : s.neg.Pairwise (· ≤ ·)) (fuel : ℕ) (hfuel : 34 ≤ fuel)
    (t e : ℚ) (h : s.eer u fuel = .ok (t, e)) (he : e ≠ 0)
    (hcap : ¬ c06f_eerF u s (min s.hardPosRatio s.hardNegRatio) < 0) :
    ∃ p q : ℚ, 0 ≤ p ∧ p ≤ e ∧ e ≤ q ∧ q ≤ min s.hardPosRatio s.hardNegRatio ∧ q - p < xtol ∧
      c06f_eerF u s p ≤ 0 ∧ 0 ≤ c06f_eerF u s q ∧ t = thrVal u s .fpr e := by
  obtain ⟨hpne, hnne, _⟩ := C06_paths u s fuel t e h
  have hpr := hardPosRatio_pos s hpne
  have hnr := hardNegRatio_pos s hnne
  have hM0 : 0 < min s.hardPosRatio s.hardNegRatio := lt_min hpr.1 hnr.1
  have hM1 : min s.hardPosRatio s.hardNegRatio - 0 ≤ 1 := by
    rw [sub_zero]; exact le_trans (min_le_left _ _) hpr.2
  rcases c06f_eer_form u s fuel t e h with h0 | hc | ⟨c0, cM, heq, ht⟩
  · exact absurd h0 he
  · exact absurd hc hcap
  · obtain ⟨a1, b1, l0, l1, l2, l3, l4, l5, l6⟩ :=
      c06f_findRoot_tol (c06f_eerF u s) true fuel 0 _ hM0.le c0 cM hM1 hfuel
    obtain ⟨a2, b2, r0, r1, r2, r3, r4, r5, r6⟩ :=
      c06f_findRoot_tol (c06f_eerF u s) false fuel 0 _ hM0.le c0 cM hM1 hfuel
    rw [l6, r6] at heq
    obtain ⟨p, q, g0, g1, g2, g3, g4, g5, g6⟩ := c06f_between (c06f_eerF u s)
      (c06f_eerF_mono u hu s hp hn hpne hnne _ hM0.le hcap) _ a1 b1 a2 b2 e
      l0 l1 l2 l3 l4 l5 r0 r1 r2 r3 r4 r5 heq
    exact ⟨p, q, g0, g1, g2, g3, g4, g5, g6, ht⟩

/-! ### the slack-free FNR-side statement is false -/

/-- counterexample data: three positives, four negatives, no ties, `score_class = pos`.  The
exact crossing is at `e* = 2/3` with `thr_fpr(2/3) = thr_fnr(2/3) = 1 = pos[2]`; the bisection
returns the dyadic `e = 2/3 − 1/(3·2^35) < e*`, so `t = thr_fpr(e)` is just above `pos[2]`,
all three positives are rejected and `FNR(t) − e = 1/3 + 1/(3·2^35) > 1/N_pos`. -/
def c06f_cex : Scores := ⟨[-2, -1, 1], [0, 3, 4, 5], 0, 0, ⟨.pos, .pos⟩⟩

/-- executable check of the counterexample (the matrix by counting, which is the object's
matrix on sorted arrays) -/
def c06f_cexCheck : Bool :=
  match c06f_cex.eer Ulp.half 40 with
  | .ok (t, e) =>
    !(fnrSideOK 0 c06f_cex e
      (countCM c06f_cex.pos c06f_cex.neg c06f_cex.easyPos c06f_cex.easyNeg c06f_cex.cfg (.fin t)))
  | .error _ => false

/-- `t = 1 + 2^-33`, `e = 2/3 − 1/(3·2^35)` -/
theorem c06f_cex_eer :
    c06f_cex.eer Ulp.half 40 = .ok (8589934593 / 8589934592, 22906492245 / 34359738368) := by
  decide +kernel

theorem c06f_cexCheck_true : c06f_cexCheck = true := by
  unfold c06f_cexCheck
  rw [c06f_cex_eer]
  decide +kernel

theorem c06f_cex_sorted :
    c06f_cex.pos.Pairwise (· ≤ ·) ∧ c06f_cex.neg.Pairwise (· ≤ ·) := by decide +kernel

/-- for concrete objects both hypotheses are evaluated (`sortQ` itself is a merge sort by
well-founded recursion and is not) -/
theorem c06f_tieFree_of_perm (s : Scores) (l : List ℚ) (hl : C02.strictlySorted l = true)
    (hp : l.Perm (s.pos ++ s.neg)) : tieFree s = true := by
  have hs : sortQ (s.pos ++ s.neg) = l :=
    List.Perm.eq_of_pairwise' (r := (· ≤ ·)) (sortQ_pairwise _)
      ((pairwise_of_strictlySorted l hl).imp le_of_lt) ((sortQ_perm _).trans hp.symm)
  unfold tieFree
  rw [hs, hl]

theorem c06f_cex_tieFree : tieFree c06f_cex = true :=
  c06f_tieFree_of_perm _ [-2, -1, 0, 1, 3, 4, 5] (by decide +kernel) (by decide +kernel)

/-- **`C06_fnr_side_statement` is false** (exact model, slack 0): for the tie-free object
`c06f_cex`, the lawful half-step oracle and fuel 40, `eer()` returns `(t, e)` on the bisection
path with `|FNR(t) − e| > 1/N_pos` (by `1/(3·2^35)`).  The claim needs a slack of the order of
the bisection tolerance, cf. `C06_fnr_side_bisect` (C06Delta.lean). -/
theorem C06_fnr_side_statement_false : ¬ C06_fnr_side_statement := by
  intro hst
  have := hst Ulp.half c06f_cex 40 _ _ Ulp.half_lawful c06f_cex_sorted.1 c06f_cex_sorted.2
    (le_refl _) c06f_cex_eer c06f_cex_tieFree
  rw [cm_eq_countCM_of_sorted c06f_cex c06f_cex_sorted.1 c06f_cex_sorted.2] at this
  exact absurd this (by decide +kernel)

/-! ### a lawful but coarse `nextafter` oracle breaks the FNR side by whole samples -/

/-- eight positives strictly between `down(neg[0]) = -1/2` and `neg[0] = 0` (impossible for the
float64 `nextafter`, possible for an oracle that is only `Lawful`): the crossing sits on the
jump of `thr_fpr` at its lower sentinel, `e ≈ 3/4`, `t ≈ 0+`, `FNR(t) = 1`. -/
def c06f_cex2 : Scores :=
  ⟨[-9/20, -8/20, -7/20, -6/20, -5/20, -4/20, -3/20, -2/20], [0, 1, 2, 3], 0, 0, ⟨.pos, .pos⟩⟩

def c06f_cex2Check : Bool :=
  match c06f_cex2.eer Ulp.half 40 with
  | .ok (t, e) =>
    !(fnrSideOK (1 / 10) c06f_cex2 e
      (countCM c06f_cex2.pos c06f_cex2.neg c06f_cex2.easyPos c06f_cex2.easyNeg c06f_cex2.cfg
        (.fin t)))
  | .error _ => false

theorem c06f_cex2Check_true : c06f_cex2Check = true := by decide +kernel

theorem c06f_cex2_sorted :
    c06f_cex2.pos.Pairwise (· ≤ ·) ∧ c06f_cex2.neg.Pairwise (· ≤ ·) := by decide +kernel

theorem c06f_cex2_tieFree : tieFree c06f_cex2 = true :=
  c06f_tieFree_of_perm _ (c06f_cex2.pos ++ c06f_cex2.neg) (by decide +kernel) (List.Perm.refl _)

/-- **The FNR side needs a tight oracle.** With an oracle that is merely `Lawful` the FNR at the
returned threshold can be off by whole samples, not just by the bisection tolerance: here
`|FNR(t) − e| > 1/N_pos + 1/10` on tie-free data (`N_pos = 8`, `FNR(t) − e ≈ 1/4`).  Any
corrected FNR-side theorem must assume that no sample lies strictly between a score and its
`nextafter` neighbour (true for float64). -/
theorem C06_fnr_side_needs_tight_oracle :
    ∃ (u : Ulp) (s : Scores) (t e : ℚ), u.Lawful ∧ s.pos.Pairwise (· ≤ ·) ∧
      s.neg.Pairwise (· ≤ ·) ∧ tieFree s = true ∧ s.eer u 40 = .ok (t, e) ∧
      fnrSideOK (1 / 10) s e (s.cm (.fin t)) = false := by
  have hc := c06f_cex2Check_true
  unfold c06f_cex2Check at hc
  split at hc
  · rename_i t e heq
    refine ⟨Ulp.half, c06f_cex2, t, e, Ulp.half_lawful, c06f_cex2_sorted.1, c06f_cex2_sorted.2,
      c06f_cex2_tieFree, heq, ?_⟩
    rw [cm_eq_countCM_of_sorted c06f_cex2 c06f_cex2_sorted.1 c06f_cex2_sorted.2]
    simpa using hc
  · exact absurd hc (by decide)

/-! ### non-vacuity -/

/-- hypotheses of `c06f_findRoot_tol` -/
example : (0 : ℚ) ≤ 1 ∧ (fun x : ℚ => x - 1 / 3) 0 ≤ 0 ∧ 0 ≤ (fun x : ℚ => x - 1 / 3) 1 ∧
    (1 : ℚ) - 0 ≤ 1 ∧ 34 ≤ 40 := by norm_num

/-- hypotheses of `C06_bisect_crossing`: `c06f_cex` returns through the bisection -/
def c06f_cexOnBisection : Bool :=
  match c06f_cex.eer Ulp.half 40 with
  | .ok (_, e) => decide (e ≠ 0) &&
      !decide (c06f_eerF Ulp.half c06f_cex (min c06f_cex.hardPosRatio c06f_cex.hardNegRatio) < 0)
  | .error _ => false

set_option maxRecDepth 100000 in
example : c06f_cexOnBisection = true := by
  unfold c06f_cexOnBisection
  rw [c06f_cex_eer]
  decide +kernel

end SA

/-
C07 — AUC.  Property theorems; helper lemmas are in SA/Proofs/Auc*.lean and
SA/Proofs/MwInvariance.lean.

A. Properties of the reference semantics (`stepArea`, `mannWhitney`).
B. The code-shaped model `Scores.auc` equals the reference.
-/
import SA.Spec.C07
import SA.Proofs.AucCode
import SA.Proofs.AucAxes
import SA.Proofs.MwInvariance

namespace SA

/-! ## A. Reference semantics -/

/-- The overlap of an interval with adjacent windows is additive. -/
theorem C07_overlap_additive (a b lo mid hi : ℚ) (hab : a ≤ b) (h1 : lo ≤ mid) (h2 : mid ≤ hi) :
    overlap a b lo mid + overlap a b mid hi = overlap a b lo hi :=
  overlap_split_window a b lo mid hi hab h1 h2

/-- The step area is additive over adjacent windows: whenever the area over
`[lo, hi]` is defined (both classes non-empty) so are the two parts, and they add up. -/
theorem C07_step_additive (s : Scores) (lo mid hi : ℚ) (h1 : lo ≤ mid) (h2 : mid ≤ hi) :
    (stepArea s lo hi = none ∧ stepArea s lo mid = none ∧ stepArea s mid hi = none) ∨
    ∃ a b, stepArea s lo mid = some a ∧ stepArea s mid hi = some b ∧
      stepArea s lo hi = some (a + b) := by
  rw [stepArea_eq, stepArea_eq, stepArea_eq]
  by_cases h : s.pos.length + s.easyPos = 0 ∨ s.neg.length + s.easyNeg = 0
  · left; simp only [h, if_true, and_self]
  · right
    simp only [h, if_false]
    exact ⟨_, _, rfl, rfl, by rw [stepValue_additive s lo mid hi h1 h2]⟩

/-- Over a window inside `[0, 1]` the step area lies between 0 and the window length. -/
theorem C07_step_le (s : Scores) (lo hi : ℚ) (h0 : 0 ≤ lo) (h : lo ≤ hi) (h1 : hi ≤ 1) (a : ℚ)
    (ha : stepArea s lo hi = some a) : 0 ≤ a ∧ a ≤ hi - lo := by
  rw [stepArea_eq] at ha
  split at ha
  · cases ha
  · cases ha
    exact ⟨stepValue_nonneg s lo hi, stepValue_le s lo hi h⟩

/-- Without cross-class ties the full step area is the Mann–Whitney statistic. -/
theorem C07_step_full_eq_mw (s : Scores) (h : noCrossTies s = true) :
    stepArea s 0 1 = mannWhitney s := by
  rw [stepArea_eq, mannWhitney_eq]
  split
  · rfl
  · rename_i hc
    rw [not_or] at hc
    rw [stepValue_full s h hc.1 hc.2]

/-- The Mann–Whitney statistic is a probability. -/
theorem C07_mw_range (s : Scores) (a : ℚ) (h : mannWhitney s = some a) : 0 ≤ a ∧ a ≤ 1 := by
  rw [mannWhitney_eq] at h
  split at h
  · cases h
  · cases h
    exact ⟨mwValue_nonneg s, mwValue_le_one s⟩

/-- The Mann–Whitney statistic does not depend on `equal_class`. -/
theorem C07_mw_equal_class (s : Scores) (e : Label) :
    mannWhitney { s with cfg := ⟨s.cfg.scoreClass, e⟩ } = mannWhitney s := rfl

/-- Exchanging the classes and flipping `score_class` (`Scores.swap`) leaves the
statistic unchanged. -/
theorem C07_mw_swap (s : Scores) : mannWhitney s.swap = mannWhitney s := by
  -- the same pairs counted from the other list (`double_count`); `ranksAbove` with the class
  -- flipped and the arguments exchanged is the same comparison
  have hw : mwWins s.swap = mwWins s := by
    rw [mwWins_eq_sum_winsOver s.swap]
    unfold mwWins winsOver
    simp only [Scores.swap, Scores.make, if_true, Cfg.swap]
    congr 1
    apply List.map_congr_left
    intro p _
    congr 1
    funext q
    cases s.cfg.scoreClass <;> rfl
  have ht : mwTies s.swap = mwTies s := by
    unfold mwTies
    simp only [Scores.swap, Scores.make, if_true]
    rw [double_count (fun p q => decide (p = q)) s.neg s.pos]
    congr 1
    apply List.map_congr_left
    intro p _
    congr 1
    funext q
    simp only [eq_comm]
  have hv : mwValue s.swap = mwValue s := by
    unfold mwValue
    rw [hw, ht]
    simp only [Scores.swap, Scores.make, if_true]
    rw [show s.easyNeg * (s.pos.length + s.easyPos) + s.neg.length * s.easyPos =
        s.easyPos * (s.neg.length + s.easyNeg) + s.pos.length * s.easyNeg by ring,
      Nat.mul_comm (s.neg.length + s.easyNeg)]
  rw [mannWhitney_eq, mannWhitney_eq, hv]
  exact if_congr (by simp only [Scores.swap, Scores.make, if_true]; exact or_comm) rfl rfl

/-! ## B. The code-shaped model `Scores.auc` against the reference -/

/-- **Below.** One ulp below a data value `v` the matrix of *every* configuration is the
matrix at `v` itself of the configuration with the same `score_class` that puts `v` on the high
side: exactly the scores `< v` are on the low side, whatever `equal_class` is. -/
theorem C07_points_down (u : Ulp) (hu : u.Lawful) (s : Scores) (hp : s.pos.Pairwise (· ≤ ·))
    (hn : s.neg.Pairwise (· ≤ ·)) (hadj : u.AdjacentOn (s.pos ++ s.neg)) (v : ℚ)
    (hv : v ∈ s.pos ++ s.neg) :
    s.cm (.fin (u.down v)) =
      countCM s.pos s.neg s.easyPos s.easyNeg ⟨s.cfg.scoreClass, s.cfg.scoreClass⟩ (.fin v) := by
  rw [cm_eq_countCM_of_sorted s hp hn]
  exact countCM_congr _ _ _ _ _ _ _ _ (fun x hx => accept_at_down u hu _ hadj s.cfg x v hx hv)

/-- **Above.** One ulp above a data value `v` exactly the scores `≤ v` are on the low
side, whatever `equal_class` is. -/
theorem C07_points_up (u : Ulp) (hu : u.Lawful) (s : Scores) (hp : s.pos.Pairwise (· ≤ ·))
    (hn : s.neg.Pairwise (· ≤ ·)) (hadj : u.AdjacentOn (s.pos ++ s.neg)) (v : ℚ)
    (hv : v ∈ s.pos ++ s.neg) :
    s.cm (.fin (u.up v)) =
      countCM s.pos s.neg s.easyPos s.easyNeg ⟨s.cfg.scoreClass, s.cfg.scoreClass.flip⟩
        (.fin v) := by
  rw [cm_eq_countCM_of_sorted s hp hn]
  exact countCM_congr _ _ _ _ _ _ _ _ (fun x hx => accept_at_up u hu _ hadj s.cfg x v hx hv)

/-- **Cells.** In terms of `cntLt` / `cntLe`: the numbers of scored positives / negatives
on the low side of the threshold at the two evaluation points of a data value. -/
theorem C07_points_counts (u : Ulp) (hu : u.Lawful) (sc l : List ℚ) (hl : ∀ x ∈ l, x ∈ sc)
    (hadj : u.AdjacentOn sc) (cfg : Cfg) (v : ℚ) (hv : v ∈ sc) :
    belowCount cfg l (u.down v) = cntLt l v ∧ belowCount cfg l (u.up v) = cntLe l v := by
  unfold belowCount cntLt cntLe
  constructor <;> split <;> apply List.countP_congr <;> intro x hx <;>
    simp only [decide_eq_true_eq]
  · exact lt_down_iff u hu sc hadj x v (hl x hx) hv
  · exact le_down_iff u hu sc hadj x v (hl x hx) hv
  · exact lt_up_iff u hu sc hadj x v (hl x hx) hv
  · exact le_up_iff u hu sc hadj x v (hl x hx) hv

/-- The full AUC of the code-shaped model (FPR on x, TPR on y, all four
configurations, easy samples, ties across and within classes) is the Mann–Whitney statistic,
for a `nextafter` oracle that is lawful (`down x < x < up x`) and has no data value strictly
between a data value and its neighbours (consecutive floats in the data are allowed), and at
least one scored negative. -/
theorem C07_code_eq_mw (u : Ulp) (hu : u.Lawful) (s : Scores) (hp : s.pos.Pairwise (· ≤ ·))
    (hn : s.neg.Pairwise (· ≤ ·)) (hneg : s.neg ≠ [])
    (hadj : u.NeighbourOn (s.pos ++ s.neg)) :
    s.auc u 0 1 .fpr .tpr = mannWhitney s := by
  have hw := sweep_orient u hu s hadj (by simp [hneg])
  have hN := negTotal_ne_zero hneg
  rw [auc_eq_window_of_sweep u s hp hn hneg hw, mannWhitney_eq]
  by_cases hP : s.pos.length + s.easyPos = 0
  · simp only [hP, true_or, if_true]
  · rw [if_neg hP, if_neg (not_or.mpr ⟨hP, hN⟩), (aucWindow_full_sweep s _ hw hP hN).1]

/-- Without cross-class ties the partial AUC of the code-shaped model over any window
`[lower, upper] ⊆ [0, 1]` is the exact area under the empirical step ROC (all four
configurations, easy samples, ties within a class). -/
theorem C07_partial_eq_step (u : Ulp) (hu : u.Lawful) (s : Scores) (hp : s.pos.Pairwise (· ≤ ·))
    (hn : s.neg.Pairwise (· ≤ ·)) (hneg : s.neg ≠ [])
    (hadj : u.NeighbourOn (s.pos ++ s.neg)) (hnt : noCrossTies s = true)
    (lower upper : ℚ) (h0 : 0 ≤ lower) (hlu : lower ≤ upper) (h1 : upper ≤ 1) :
    s.auc u lower upper .fpr .tpr = stepArea s lower upper := by
  have hw := sweep_orient u hu s hadj (by simp [hneg])
  have hN := negTotal_ne_zero hneg
  rw [auc_eq_window_of_sweep u s hp hn hneg hw, stepArea_eq]
  by_cases hP : s.pos.length + s.easyPos = 0
  · simp only [hP, true_or, if_true]
  · rw [if_neg hP, if_neg (not_or.mpr ⟨hP, hN⟩),
      aucWindow_sweep s hnt _ hw hP lower upper h0 hlu h1]

/-- **Corollary (code, additivity).** The partial AUC of the code-shaped model is additive over
adjacent windows. -/
theorem C07_code_additive (u : Ulp) (hu : u.Lawful) (s : Scores) (hp : s.pos.Pairwise (· ≤ ·))
    (hn : s.neg.Pairwise (· ≤ ·)) (hneg : s.neg ≠ [])
    (hadj : u.NeighbourOn (s.pos ++ s.neg)) (hnt : noCrossTies s = true)
    (lo mid hi : ℚ) (h0 : 0 ≤ lo) (h1 : lo ≤ mid) (h2 : mid ≤ hi) (h3 : hi ≤ 1) :
    (s.auc u lo hi .fpr .tpr = none ∧ s.auc u lo mid .fpr .tpr = none ∧
      s.auc u mid hi .fpr .tpr = none) ∨
    ∃ a b, s.auc u lo mid .fpr .tpr = some a ∧ s.auc u mid hi .fpr .tpr = some b ∧
      s.auc u lo hi .fpr .tpr = some (a + b) := by
  rw [C07_partial_eq_step u hu s hp hn hneg hadj hnt lo hi h0 (le_trans h1 h2) h3,
    C07_partial_eq_step u hu s hp hn hneg hadj hnt lo mid h0 h1 (le_trans h2 h3),
    C07_partial_eq_step u hu s hp hn hneg hadj hnt mid hi (le_trans h0 h1) h2 h3]
  exact C07_step_additive s lo mid hi h1 h2

/-- **Corollary (code, bound).** The partial AUC of the code-shaped model lies between 0 and
`upper - lower`. -/
theorem C07_code_le (u : Ulp) (hu : u.Lawful) (s : Scores) (hp : s.pos.Pairwise (· ≤ ·))
    (hn : s.neg.Pairwise (· ≤ ·)) (hneg : s.neg ≠ [])
    (hadj : u.NeighbourOn (s.pos ++ s.neg)) (hnt : noCrossTies s = true)
    (lower upper : ℚ) (h0 : 0 ≤ lower) (hlu : lower ≤ upper) (h1 : upper ≤ 1) (a : ℚ)
    (ha : s.auc u lower upper .fpr .tpr = some a) : 0 ≤ a ∧ a ≤ upper - lower := by
  rw [C07_partial_eq_step u hu s hp hn hneg hadj hnt lower upper h0 hlu h1] at ha
  exact C07_step_le s lower upper h0 hlu h1 a ha

/-- **Corollary (code, `equal_class`).** The full AUC of the code-shaped model does not depend
on `equal_class`. -/
theorem C07_code_equal_class (u : Ulp) (hu : u.Lawful) (s : Scores) (hp : s.pos.Pairwise (· ≤ ·))
    (hn : s.neg.Pairwise (· ≤ ·)) (hneg : s.neg ≠ [])
    (hadj : u.NeighbourOn (s.pos ++ s.neg)) (e : Label) :
    Scores.auc u { s with cfg := ⟨s.cfg.scoreClass, e⟩ } 0 1 .fpr .tpr = s.auc u 0 1 .fpr .tpr := by
  rw [C07_code_eq_mw u hu s hp hn hneg hadj,
    C07_code_eq_mw u hu { s with cfg := ⟨s.cfg.scoreClass, e⟩ } hp hn hneg hadj]
  rfl

/-- **Exchanged axes.** Over the full range, TPR on x and FPR on y give one minus the
Mann–Whitney statistic (any ties; both scored lists non-empty). -/
theorem C07_code_exchange (u : Ulp) (hu : u.Lawful) (s : Scores) (hp : s.pos.Pairwise (· ≤ ·))
    (hn : s.neg.Pairwise (· ≤ ·)) (hpos : s.pos ≠ []) (hneg : s.neg ≠ [])
    (hadj : u.NeighbourOn (s.pos ++ s.neg)) :
    s.auc u 0 1 .tpr .fpr = (mannWhitney s).map (fun a => 1 - a) := by
  have hN := negTotal_ne_zero hneg
  have hP : s.pos.length + s.easyPos ≠ 0 := by
    have := List.length_pos_iff.mpr hpos; omega
  have hsc : s.pos ++ s.neg ≠ [] := by simp [hneg]
  have hw := sweep_orient u hu s hadj hsc
  rw [(auc_oriented u s 0 1 .tpr .fpr (tpQ s) (fpQ s)
      (fun t => by rw [rate_tpr s hp hn, if_neg hP]) (fun t => by rw [rate_fpr s hp hn, if_neg hN])
      (aucPoints_ne_nil u s hsc)).1 (hw.tpQ_lt hpos),
    (aucWindow_full_sweep s _ hw hP hN).2, mannWhitney_eq, if_neg (not_or.mpr ⟨hP, hN⟩)]
  rfl

/-- **Complemented y-axis.** Without cross-class ties, FNR against FPR over `[lower, upper]`
gives `(upper - lower)` minus the step area. -/
theorem C07_code_ycompl (u : Ulp) (hu : u.Lawful) (s : Scores) (hp : s.pos.Pairwise (· ≤ ·))
    (hn : s.neg.Pairwise (· ≤ ·)) (hneg : s.neg ≠ [])
    (hadj : u.NeighbourOn (s.pos ++ s.neg)) (hnt : noCrossTies s = true)
    (hP : s.pos.length + s.easyPos ≠ 0)
    (lower upper : ℚ) (h0 : 0 ≤ lower) (hlu : lower ≤ upper) (h1 : upper ≤ 1) :
    s.auc u lower upper .fpr .fnr =
      (stepArea s lower upper).map (fun a => (upper - lower) - a) := by
  have hN := negTotal_ne_zero hneg
  have hsc : s.pos ++ s.neg ≠ [] := by simp [hneg]
  have hw := sweep_orient u hu s hadj hsc
  rw [(auc_oriented u s lower upper .fpr .fnr (fpQ s) (fun t => 1 - tpQ s t)
      (fun t => by rw [rate_fpr s hp hn, if_neg hN]) (fun t => rate_fnr s hp hn t hP)
      (aucPoints_ne_nil u s hsc)).1 (hw.fpQ_lt hneg),
    aucWindow_ycompl_sweep s hnt _ hw hP lower upper h0 hlu h1, stepArea_eq,
    if_neg (not_or.mpr ⟨hP, hN⟩)]
  rfl

/-- **Complemented x-axis.** Without cross-class ties, TPR against TNR over `[lower, upper]`
is the step area over the mirrored window `[1 - upper, 1 - lower]`. -/
theorem C07_code_xcompl (u : Ulp) (hu : u.Lawful) (s : Scores) (hp : s.pos.Pairwise (· ≤ ·))
    (hn : s.neg.Pairwise (· ≤ ·)) (hneg : s.neg ≠ [])
    (hadj : u.NeighbourOn (s.pos ++ s.neg)) (hnt : noCrossTies s = true)
    (hP : s.pos.length + s.easyPos ≠ 0)
    (lower upper : ℚ) (h0 : 0 ≤ lower) (hlu : lower ≤ upper) (h1 : upper ≤ 1) :
    s.auc u lower upper .tnr .tpr = stepArea s (1 - upper) (1 - lower) := by
  have hN := negTotal_ne_zero hneg
  have hsc : s.pos ++ s.neg ≠ [] := by simp [hneg]
  have hw := sweep_orient u hu s hadj hsc
  rw [(auc_oriented u s lower upper .tnr .tpr (fun t => 1 - fpQ s t) (tpQ s)
      (fun t => rate_tnr s hp hn t hN) (fun t => by rw [rate_tpr s hp hn, if_neg hP])
      (aucPoints_ne_nil u s hsc)).2 (sub_lt_sub_left (hw.fpQ_lt hneg) 1),
    aucWindow_xcompl_sweep s hnt _ hw hP lower upper h0 hlu h1, stepArea_eq,
    if_neg (not_or.mpr ⟨hP, hN⟩)]

/-- **Complemented x-axis, as a relation between two runs of the code-shaped model.** -/
theorem C07_code_xcompl_mirror (u : Ulp) (hu : u.Lawful) (s : Scores) (hp : s.pos.Pairwise (· ≤ ·))
    (hn : s.neg.Pairwise (· ≤ ·)) (hneg : s.neg ≠ [])
    (hadj : u.NeighbourOn (s.pos ++ s.neg)) (hnt : noCrossTies s = true)
    (hP : s.pos.length + s.easyPos ≠ 0)
    (lower upper : ℚ) (h0 : 0 ≤ lower) (hlu : lower ≤ upper) (h1 : upper ≤ 1) :
    s.auc u (1 - upper) (1 - lower) .tnr .tpr = s.auc u lower upper .fpr .tpr := by
  rw [C07_code_xcompl u hu s hp hn hneg hadj hnt hP (1 - upper) (1 - lower) (by linarith)
    (by linarith) (by linarith),
    C07_partial_eq_step u hu s hp hn hneg hadj hnt lower upper h0 hlu h1]
  congr 1 <;> ring

/-- **Complemented y-axis, as a relation between two runs of the code-shaped model.** -/
theorem C07_code_ycompl_rel (u : Ulp) (hu : u.Lawful) (s : Scores) (hp : s.pos.Pairwise (· ≤ ·))
    (hn : s.neg.Pairwise (· ≤ ·)) (hneg : s.neg ≠ [])
    (hadj : u.NeighbourOn (s.pos ++ s.neg)) (hnt : noCrossTies s = true)
    (hP : s.pos.length + s.easyPos ≠ 0)
    (lower upper : ℚ) (h0 : 0 ≤ lower) (hlu : lower ≤ upper) (h1 : upper ≤ 1) :
    s.auc u lower upper .fpr .fnr =
      (s.auc u lower upper .fpr .tpr).map (fun a => (upper - lower) - a) := by
  rw [C07_code_ycompl u hu s hp hn hneg hadj hnt hP lower upper h0 hlu h1,
    C07_partial_eq_step u hu s hp hn hneg hadj hnt lower upper h0 hlu h1]

/-- **Exchanged axes, as a relation between two runs of the code-shaped model.** -/
theorem C07_code_exchange_rel (u : Ulp) (hu : u.Lawful) (s : Scores) (hp : s.pos.Pairwise (· ≤ ·))
    (hn : s.neg.Pairwise (· ≤ ·)) (hpos : s.pos ≠ []) (hneg : s.neg ≠ [])
    (hadj : u.NeighbourOn (s.pos ++ s.neg)) :
    s.auc u 0 1 .tpr .fpr = (s.auc u 0 1 .fpr .tpr).map (fun a => 1 - a) := by
  rw [C07_code_exchange u hu s hp hn hpos hneg hadj, C07_code_eq_mw u hu s hp hn hneg hadj]

/-! ### The constructor discharges the sortedness hypotheses -/

theorem neighbourOn_make (u : Ulp) (pos neg : List ℚ) (ep en : ℕ) (cfg : Cfg)
    (hadj : u.NeighbourOn (pos ++ neg)) :
    u.NeighbourOn ((Scores.make pos neg ep en cfg false).pos ++
      (Scores.make pos neg ep en cfg false).neg) := by
  apply hadj.mono
  intro x hx
  rw [List.mem_append] at hx ⊢
  exact hx.imp (sortQ_perm pos).mem_iff.mp (sortQ_perm neg).mem_iff.mp

theorem make_neg_ne_nil (pos neg : List ℚ) (ep en : ℕ) (cfg : Cfg) (hneg : neg ≠ []) :
    (Scores.make pos neg ep en cfg false).neg ≠ [] :=
  fun h => hneg (List.length_eq_zero_iff.mp
    (by rw [← length_sortQ neg]; exact congrArg List.length h))

/-- **`C07_code_eq_mw` for constructed objects.** For arbitrary (unsorted) input lists the full
AUC of the constructed object is its Mann–Whitney statistic. -/
theorem C07_code_eq_mw_make (u : Ulp) (hu : u.Lawful) (pos neg : List ℚ) (ep en : ℕ) (cfg : Cfg)
    (hneg : neg ≠ []) (hadj : u.NeighbourOn (pos ++ neg)) :
    (Scores.make pos neg ep en cfg false).auc u 0 1 .fpr .tpr =
      mannWhitney (Scores.make pos neg ep en cfg false) :=
  C07_code_eq_mw u hu _ (sortQ_pairwise pos) (sortQ_pairwise neg)
    (make_neg_ne_nil pos neg ep en cfg hneg) (neighbourOn_make u pos neg ep en cfg hadj)

/-- `C07_partial_eq_step` for constructed objects -/
theorem C07_partial_eq_step_make (u : Ulp) (hu : u.Lawful) (pos neg : List ℚ) (ep en : ℕ)
    (cfg : Cfg) (hneg : neg ≠ []) (hadj : u.NeighbourOn (pos ++ neg))
    (hnt : noCrossTies (Scores.make pos neg ep en cfg false) = true)
    (lower upper : ℚ) (h0 : 0 ≤ lower) (hlu : lower ≤ upper) (h1 : upper ≤ 1) :
    (Scores.make pos neg ep en cfg false).auc u lower upper .fpr .tpr =
      stepArea (Scores.make pos neg ep en cfg false) lower upper :=
  C07_partial_eq_step u hu _ (sortQ_pairwise pos) (sortQ_pairwise neg)
    (make_neg_ne_nil pos neg ep en cfg hneg) (neighbourOn_make u pos neg ep en cfg hadj) hnt
    lower upper h0 hlu h1

/-- the Mann–Whitney statistic does not depend on the order of the input lists -/
theorem mannWhitney_make (pos neg : List ℚ) (ep en : ℕ) (cfg : Cfg) :
    mannWhitney (Scores.make pos neg ep en cfg false) = mannWhitney ⟨pos, neg, ep, en, cfg⟩ :=
  mwi_mw_congr ⟨pos, neg, ep, en, cfg⟩ (Scores.make pos neg ep en cfg false) (length_sortQ pos)
    (length_sortQ neg) rfl rfl (mwi_pairs_perm _ (sortQ_perm pos) (sortQ_perm neg))
    (mwi_pairs_perm _ (sortQ_perm pos) (sortQ_perm neg))

/-! ### The executable spec clauses hold of the model with `eps = 0` -/

theorem nearO_refl (a : Option ℚ) : Spec.C07.nearO 0 a a = true := by
  cases a with
  | none => rfl
  | some a => simp [Spec.C07.nearO, absR]

theorem C07_spec_mw (u : Ulp) (hu : u.Lawful) (s : Scores) (hp : s.pos.Pairwise (· ≤ ·))
    (hn : s.neg.Pairwise (· ≤ ·)) (hneg : s.neg ≠ [])
    (hadj : u.NeighbourOn (s.pos ++ s.neg)) :
    Spec.C07.mwOK 0 s (s.auc u 0 1 .fpr .tpr) = true := by
  rw [C07_code_eq_mw u hu s hp hn hneg hadj]
  exact nearO_refl _

theorem C07_spec_step (u : Ulp) (hu : u.Lawful) (s : Scores) (hp : s.pos.Pairwise (· ≤ ·))
    (hn : s.neg.Pairwise (· ≤ ·)) (hneg : s.neg ≠ [])
    (hadj : u.NeighbourOn (s.pos ++ s.neg))
    (lower upper : ℚ) (h0 : 0 ≤ lower) (hlu : lower ≤ upper) (h1 : upper ≤ 1) :
    Spec.C07.stepOK 0 s lower upper (s.auc u lower upper .fpr .tpr) = true := by
  unfold Spec.C07.stepOK
  by_cases hnt : noCrossTies s = true
  · rw [if_pos hnt, C07_partial_eq_step u hu s hp hn hneg hadj hnt lower upper h0 hlu h1]
    exact nearO_refl _
  · rw [if_neg hnt]

theorem C07_spec_bound (u : Ulp) (hu : u.Lawful) (s : Scores) (hp : s.pos.Pairwise (· ≤ ·))
    (hn : s.neg.Pairwise (· ≤ ·)) (hneg : s.neg ≠ [])
    (hadj : u.NeighbourOn (s.pos ++ s.neg)) (hnt : noCrossTies s = true)
    (lower upper : ℚ) (h0 : 0 ≤ lower) (hlu : lower ≤ upper) (h1 : upper ≤ 1) :
    Spec.C07.boundOK 0 lower upper (s.auc u lower upper .fpr .tpr) = true := by
  cases ha : s.auc u lower upper .fpr .tpr with
  | none => rfl
  | some a =>
    have := C07_code_le u hu s hp hn hneg hadj hnt lower upper h0 hlu h1 a ha
    simp only [Spec.C07.boundOK, Bool.and_eq_true, decide_eq_true_eq]
    constructor <;> linarith [this.1, this.2]

/-! ### Non-vacuity: the hypotheses are satisfiable -/

/-- ±1/2 steps are adjacent (hence neighbourly) on data whose distinct values are at least 1
apart -/
theorem half_adjacentOn (sc : List ℚ) (h : ∀ a ∈ sc, ∀ b ∈ sc, a < b → a + 1 ≤ b) :
    Ulp.half.AdjacentOn sc := by
  intro a ha b hb hab
  show a + 1 / 2 ≤ b - 1 / 2
  linarith [h a ha b hb hab]

example : Ulp.half.AdjacentOn ([1, 3, 3] ++ [2, 4]) := half_adjacentOn _ (by decide +kernel)

example : ∃ s : Scores, s.pos.Pairwise (· ≤ ·) ∧ s.neg.Pairwise (· ≤ ·) ∧ s.neg ≠ [] ∧
    Ulp.half.NeighbourOn (s.pos ++ s.neg) ∧ noCrossTies s = true :=
  ⟨⟨[1, 3, 3], [2, 4], 1, 2, ⟨.pos, .neg⟩⟩, by decide +kernel, by decide +kernel, by simp,
    (half_adjacentOn _ (by decide +kernel)).neighbour Ulp.half_lawful, by decide +kernel⟩

/-- the float64 `nextafter` of the driver is neighbourly on data containing two consecutive
doubles (where the stronger adjacency `up a ≤ down b` fails) -/
example : Ulp.float64.NeighbourOn [1, 1 + 1 / 4503599627370496, 3] := by
  intro a ha b hb hab
  simp only [List.mem_cons, List.not_mem_nil, or_false] at ha hb
  rcases ha with rfl | rfl | rfl <;> rcases hb with rfl | rfl | rfl <;>
    first | (exfalso; norm_num at hab; done) | (constructor <;> decide +kernel)

example : ¬ Ulp.float64.AdjacentOn [1, 1 + 1 / 4503599627370496] := by
  intro h
  have := h 1 (by simp) (1 + 1 / 4503599627370496) (by simp) (by norm_num)
  revert this
  decide +kernel

/-- a window satisfying the hypotheses of the reference theorems -/
example : (0 : ℚ) ≤ 1 / 4 ∧ (1 / 4 : ℚ) ≤ 1 / 2 ∧ (1 / 2 : ℚ) ≤ 1 := by norm_num

example : ∃ a, stepArea ⟨[1, 3, 3], [2, 4], 1, 2, ⟨.pos, .neg⟩⟩ (1 / 4) (1 / 2) = some a :=
  ⟨_, rfl⟩

example : ∃ a, mannWhitney ⟨[1, 3, 3], [2, 3], 1, 2, ⟨.pos, .neg⟩⟩ = some a := ⟨_, rfl⟩

end SA

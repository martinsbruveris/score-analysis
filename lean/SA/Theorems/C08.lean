/-
C08 — results are symmetric under class swap, direction reversal and rescaling.
-/
import SA.Spec.C08
import SA.Theorems.C01
import SA.Theorems.C02

namespace SA
open Spec.C08

/-! ### swap -/

theorem accept_swap (cfg : Cfg) (x : ℚ) (t : ERat) : accept cfg.swap x t = !accept cfg x t := by
  obtain ⟨sc, ec⟩ := cfg
  cases sc <;> cases ec <;> simp [accept, Cfg.swap, Label.flip]

/-- **C08 (swap).** At every threshold (incl. ±inf) the matrix of `swap()` is the original
matrix with rows and columns exchanged. -/
theorem C08_swap_cm (s : Scores) (hp : s.pos.Pairwise (· ≤ ·)) (hn : s.neg.Pairwise (· ≤ ·))
    (t : ERat) : swapOK (s.cm t) (s.swap.cm t) = true := by
  have h1 := cm_eq_countCM_of_sorted s hp hn t
  have h2 := cm_eq_countCM_of_sorted s.swap (by simpa [Scores.swap, Scores.make] using hn)
    (by simpa [Scores.swap, Scores.make] using hp) t
  rw [h1, h2]
  simp only [swapOK, Scores.swap, Scores.make, if_true, countCM, accept_swap, Bool.not_not,
    beq_self_eq_true]

/-- Consequently FPR/TPR/TOPR of the original are FNR/TNR/TONR of the swapped object and
vice versa (as exact counts and populations). -/
theorem C08_swap_rates (s : Scores) (hp : s.pos.Pairwise (· ≤ ·)) (hn : s.neg.Pairwise (· ≤ ·))
    (t : ERat) :
    (s.swap.cm t).fnr = (s.cm t).fpr ∧ (s.swap.cm t).fpr = (s.cm t).fnr ∧
    (s.swap.cm t).tnr = (s.cm t).tpr ∧ (s.swap.cm t).tpr = (s.cm t).tnr ∧
    (s.swap.cm t).tonr = (s.cm t).topr ∧ (s.swap.cm t).topr = (s.cm t).tonr := by
  have h := C08_swap_cm s hp hn t
  simp only [swapOK, beq_iff_eq] at h
  rw [h]
  simp only [CM.fnr, CM.fpr, CM.tnr, CM.tpr, CM.tonr, CM.topr, CM.p, CM.n, CM.top, CM.ton, CM.pop]
  refine ⟨?_, ?_, ?_, ?_, ?_, ?_⟩ <;> congr 1 <;> omega

/-! ### direction reversal -/

def ERat.neg : ERat → ERat
  | .negInf => .posInf
  | .posInf => .negInf
  | .fin q => .fin (-q)

theorem accept_negate (sc ec : Label) (x : ℚ) (t : ERat) :
    accept ⟨sc.flip, ec⟩ (-x) t.neg = accept ⟨sc, ec⟩ x t := by
  -- in each case `-x < -q ↔ q < x` (resp. `≤`) turns the flipped rule into the original one
  cases sc <;> cases ec <;> cases t <;>
    simp [accept, Label.flip, ERat.neg, ltE, leE] <;>
    (rw [Bool.eq_iff_iff]; simp only [decide_eq_true_eq, Bool.not_eq_true', decide_eq_false_iff_not,
      not_lt, not_le])

/-- **C08 (negation).** Negating all scores while flipping `score_class` leaves every
confusion matrix unchanged at the negated threshold. -/
theorem C08_negate_cm (pos neg : List ℚ) (ep en : ℕ) (sc ec : Label) (t : ERat) :
    sameOK ((Scores.make pos neg ep en ⟨sc, ec⟩ false).cm t)
      ((Scores.make (pos.map fun x => -x) (neg.map fun x => -x) ep en ⟨sc.flip, ec⟩ false).cm t.neg)
      = true := by
  rw [C01_cells, C01_cells]
  simp only [sameOK, countCM, List.countP_map, Function.comp_def, accept_negate, beq_self_eq_true]

/-! ### increasing affine maps -/

def ERat.affine (a b : ℚ) : ERat → ERat
  | .negInf => .negInf
  | .posInf => .posInf
  | .fin q => .fin (a * q + b)

theorem accept_affine (cfg : Cfg) (a b : ℚ) (ha : 0 < a) (x : ℚ) (t : ERat) :
    accept cfg (a * x + b) (t.affine a b) = accept cfg x t := by
  obtain ⟨sc, ec⟩ := cfg
  cases sc <;> cases ec <;> cases t <;>
    simp [accept, ERat.affine, ltE, leE, affine_lt_iff ha, affine_le_iff ha]

/-- **C08 (rescaling, matrices).** For `a > 0` the matrix of the scores `a·s + b` at `a·t + b`
is the matrix of the original at `t`. -/
theorem C08_affine_cm (pos neg : List ℚ) (ep en : ℕ) (cfg : Cfg) (a b : ℚ) (ha : 0 < a)
    (t : ERat) :
    sameOK ((Scores.make pos neg ep en cfg false).cm t)
      ((Scores.make (pos.map fun x => a * x + b) (neg.map fun x => a * x + b) ep en cfg false).cm
        (t.affine a b)) = true := by
  rw [C01_cells, C01_cells]
  simp only [sameOK, countCM, List.countP_map, Function.comp_def, accept_affine cfg a b ha,
    beq_self_eq_true]

/-! ### rescaling, thresholds -/

/-- the object with all scores mapped by `x ↦ a x + b` -/
def Scores.affine (s : Scores) (a b : ℚ) : Scores :=
  ⟨s.pos.map fun x => a * x + b, s.neg.map fun x => a * x + b, s.easyPos, s.easyNeg, s.cfg⟩

theorem metricArray_affine (s : Scores) (a b : ℚ) (ha : 0 < a) (metric : Metric) :
    (s.affine a b).metricArray metric = (s.metricArray metric).map fun x => a * x + b := by
  cases metric <;> simp only [Scores.metricArray, Scores.affine, Scores.concat] <;>
    first
    | rfl
    | (rw [← List.map_append, sortQ_map_affine _ a b ha])

theorem rescale_affine (s : Scores) (a b : ℚ) (metric : Metric) (r : ℚ) :
    (s.affine a b).rescale metric r = s.rescale metric r :=
  rescale_congr s (s.affine a b) (List.length_map _) (List.length_map _) rfl rfl metric r

/-- `_invert_increasing_function` commutes with an increasing affine map of the scores,
for an oracle pair related by the same map. -/
theorem invertIncreasing_affine (u u' : Ulp) (v : List ℚ) (hne : v.length ≠ 0) (a b : ℚ)
    (hd : ∀ x, u'.down (a * x + b) = a * u.down x + b)
    (hu : ∀ x, u'.up (a * x + b) = a * u.up x + b) (r : ℚ) (lc : Bool) (m : Method) :
    invertIncreasing u' (v.map fun x => a * x + b) r lc m =
      a * invertIncreasing u v r lc m + b := by
  simp only [invertIncreasing_eq, List.length_map]
  have g : ∀ i, i < v.length → (v.map fun x => a * x + b).getD i 0 = a * v.getD i 0 + b :=
    fun i hi => getD_map_affine v a b i hi
  by_cases h1 : 1 ≤ r
  · simp only [h1, if_true]
    rw [g _ (by omega), hu]
  · by_cases h0 : (if lc then r else r - 1 / (v.length : ℚ)) ≤ 0
    · simp only [h1, h0, if_true, if_false]
      rw [g _ (by omega), hd]
    · simp only [h1, h0, if_false]
      cases m <;> simp only [rawThr, interp, indexTarget, List.length_map]
      · rw [g _ (clampIdx_lt _ _ hne), g _ (clampIdx_lt _ _ hne)]; ring
      · rw [g _ (clampIdx_lt _ _ hne)]
      · rw [g _ (clampIdx_lt _ _ hne)]

/-- **C08 (rescaling, thresholds).** For `a > 0` every threshold returned by threshold setting
(all metrics, methods, targets, easy counts, configurations) is mapped by `t ↦ a t + b`;
for the two sentinel cases this is the sentinel of the mapped extreme (oracle hypothesis). -/
theorem C08_affine_threshold (u u' : Ulp) (s : Scores) (a b : ℚ) (ha : 0 < a)
    (hd : ∀ x, u'.down (a * x + b) = a * u.down x + b)
    (hu : ∀ x, u'.up (a * x + b) = a * u.up x + b)
    (metric : Metric) (r : ℚ) (m : Method) :
    (s.affine a b).thresholdAt u' metric r m =
      (s.thresholdAt u metric r m).map (fun t => a * t + b) := by
  unfold Scores.thresholdAt
  rw [metricArray_affine s a b ha, List.length_map, rescale_affine]
  by_cases hne : (s.metricArray metric).length = 0
  · simp only [hne, if_true]; rfl
  · simp only [hne, if_false, Except.map, thresholdAtRatio]
    have : (s.affine a b).cfg = s.cfg := rfl
    rw [this, invertIncreasing_affine u u' _ hne a b hd hu]

/-- Non-vacuity: the half-step oracle is compatible with every translation (a = 1). -/
example (b : ℚ) : ∀ x, Ulp.half.down (1 * x + b) = 1 * Ulp.half.down x + b := by
  intro x; simp only [Ulp.half]; ring

end SA

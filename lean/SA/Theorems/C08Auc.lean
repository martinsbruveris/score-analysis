/-
C08 — AUC clause: an increasing affine map of all scores, and negating all scores while flipping
`score_class`, leave the AUC (full and partial) unchanged.

1. The reference semantics (`mannWhitney`, `stepArea`) are invariant (all inputs, no hypotheses
besides `a > 0`).  2. The hypotheses of the C07 theorems transfer to the image.  3. Corollaries
on the code-shaped model `Scores.auc` via `C07_code_eq_mw`, `C07_partial_eq_step`.
-/
import SA.Proofs.MwInvariance
import SA.Theorems.C07
import SA.Theorems.C08
import SA.Theorems.C08Negate

namespace SA

/-! ## 1. Reference semantics -/

theorem mwi_wins_affine (s : Scores) (a b : ℚ) (ha : 0 < a) :
    mwWins (s.affine a b) = mwWins s :=
  mwi_pairs_map (fun x => a * x + b) _ _ s.pos s.neg
    (fun p q => mwi_ranksAbove_affine s.cfg.scoreClass a b ha p q)

theorem mwi_ties_affine (s : Scores) (a b : ℚ) (ha : 0 < a) :
    mwTies (s.affine a b) = mwTies s :=
  mwi_pairs_map (fun x => a * x + b) (fun p q => decide (p = q)) (fun p q => decide (p = q))
    s.pos s.neg (fun p q => by rw [decide_eq_decide]; exact affine_inj ha b p q)

/-- The Mann–Whitney statistic is invariant under an increasing affine map of all
scores (any lists, ties, easy counts, configuration). -/
theorem mwi_mw_affine (s : Scores) (a b : ℚ) (ha : 0 < a) :
    mannWhitney (s.affine a b) = mannWhitney s :=
  mwi_mw_congr s (s.affine a b) (List.length_map _) (List.length_map _) rfl rfl
    (mwi_wins_affine s a b ha) (mwi_ties_affine s a b ha)

theorem mwi_wins_negate (s : Scores) : mwWins s.negate = mwWins s := by
  unfold mwWins
  simp only [Scores.negate, c08n_mirror]
  rw [mwi_pairs_perm _ (List.reverse_perm _) (List.reverse_perm _)]
  exact mwi_pairs_map (fun x => -x) _ _ s.pos s.neg
    (fun p q => mwi_ranksAbove_negate s.cfg.scoreClass p q)

theorem mwi_ties_negate (s : Scores) : mwTies s.negate = mwTies s := by
  unfold mwTies
  simp only [Scores.negate, c08n_mirror]
  rw [mwi_pairs_perm (fun p q => decide (p = q)) (List.reverse_perm _) (List.reverse_perm _)]
  exact mwi_pairs_map (fun x => -x) (fun p q => decide (p = q)) (fun p q => decide (p = q))
    s.pos s.neg (fun p q => by rw [decide_eq_decide, neg_inj])

/-- The Mann–Whitney statistic is invariant under negating all scores while flipping
`score_class`. -/
theorem mwi_mw_negate (s : Scores) : mannWhitney s.negate = mannWhitney s :=
  mwi_mw_congr s s.negate (c08n_mirror_length _) (c08n_mirror_length _) rfl rfl
    (mwi_wins_negate s) (mwi_ties_negate s)

theorem mwi_winsOver_affine (s : Scores) (a b : ℚ) (ha : 0 < a) (q : ℚ) :
    winsOver (s.affine a b) (a * q + b) = winsOver s q := by
  unfold winsOver
  simp only [Scores.affine, List.countP_map, Function.comp_def, mwi_ranksAbove_affine _ a b ha]

theorem mwi_negsByRank_affine (s : Scores) (a b : ℚ) (ha : 0 < a) :
    negsByRank (s.affine a b) = (negsByRank s).map fun x => a * x + b := by
  unfold negsByRank
  simp only [Scores.affine, sortQ_map_affine _ a b ha]
  cases s.cfg.scoreClass
  · simp only [List.map_reverse]
  · rfl

/-- **Affine.** The step area over any window is invariant under an increasing affine map
of all scores. -/
theorem mwi_step_affine (s : Scores) (a b : ℚ) (ha : 0 < a) (lower upper : ℚ) :
    stepArea (s.affine a b) lower upper = stepArea s lower upper :=
  mwi_step_congr s (s.affine a b) (fun x => a * x + b) lower upper (List.length_map _) rfl
    (by simp only [Scores.affine, List.length_map])
    (mwi_negsByRank_affine s a b ha)
    (fun q _ => by rw [mwi_winsOver_affine s a b ha]; rfl)

theorem mwi_winsOver_negate (s : Scores) (q : ℚ) : winsOver s.negate (-q) = winsOver s q := by
  unfold winsOver
  simp only [Scores.negate, c08n_mirror, List.countP_reverse, List.countP_map, Function.comp_def,
    mwi_ranksAbove_negate]

theorem mwi_negsByRank_negate (s : Scores) :
    negsByRank s.negate = (negsByRank s).map fun x => -x := by
  have h : sortQ (c08n_mirror s.neg) = c08n_mirror (sortQ s.neg) := by
    rw [← c08n_sortQ_map_neg]
    exact sortQ_eq_of_perm _ _ (List.reverse_perm _)
  unfold negsByRank
  simp only [Scores.negate, h]
  cases s.cfg.scoreClass
  · simp only [Label.flip, c08n_mirror, List.map_reverse]
  · simp only [Label.flip, c08n_mirror, List.reverse_reverse]

/-- **Negation.** The step area over any window is invariant under negating all scores
while flipping `score_class`. -/
theorem mwi_step_negate (s : Scores) (lower upper : ℚ) :
    stepArea s.negate lower upper = stepArea s lower upper :=
  mwi_step_congr s s.negate (fun x => -x) lower upper (c08n_mirror_length _) rfl
    (by simp only [Scores.negate, c08n_mirror_length])
    (mwi_negsByRank_negate s)
    (fun q _ => by rw [mwi_winsOver_negate s]; rfl)

/-! ## 2. The hypotheses of C07 transfer to the image -/

theorem mwi_affine_sorted (l : List ℚ) (a b : ℚ) (ha : 0 < a) (h : l.Pairwise (· ≤ ·)) :
    (l.map fun x => a * x + b).Pairwise (· ≤ ·) :=
  List.pairwise_map.mpr (h.imp (affine_le_iff ha b _ _).mpr)

theorem mwi_noCrossTies_affine (s : Scores) (a b : ℚ) (ha : 0 < a)
    (h : noCrossTies s = true) : noCrossTies (s.affine a b) = true := by
  rw [noCrossTies_iff] at h ⊢
  intro p hp hq
  obtain ⟨p0, hp0, rfl⟩ := List.mem_map.mp hp
  obtain ⟨q0, hq0, e⟩ := List.mem_map.mp hq
  exact h p0 hp0 ((affine_inj ha b q0 p0).mp e ▸ hq0)

theorem mwi_noCrossTies_negate (s : Scores) (h : noCrossTies s = true) :
    noCrossTies s.negate = true := by
  rw [noCrossTies_iff] at h ⊢
  intro p hp hq
  exact h (-p) ((mwi_mem_mirror _ _).mp hp) ((mwi_mem_mirror _ _).mp hq)

theorem mwi_negate_neg_ne_nil (s : Scores) (hneg : s.neg ≠ []) : s.negate.neg ≠ [] :=
  fun h => hneg (List.length_eq_zero_iff.mp
    (by rw [← c08n_mirror_length s.neg]; exact congrArg List.length h))

/-- an oracle related to `u` by the affine map (as in `C08_affine_threshold`) is lawful -/
theorem mwi_lawful_affine (u u' : Ulp) (a b : ℚ) (ha : 0 < a)
    (hd : ∀ x, u'.down (a * x + b) = a * u.down x + b)
    (hup : ∀ x, u'.up (a * x + b) = a * u.up x + b) (hu : u.Lawful) : u'.Lawful := by
  have hsurj : ∀ y : ℚ, ∃ z, y = a * z + b := fun y => ⟨(y - b) / a, by field_simp; ring⟩
  constructor <;> intro y <;> obtain ⟨z, rfl⟩ := hsurj y
  · rw [hd]; exact (affine_lt_iff ha b _ _).mpr (hu.down_lt z)
  · rw [hup]; exact (affine_lt_iff ha b _ _).mpr (hu.lt_up z)

/-- ... and neighbourly on the image of the data -/
theorem mwi_neighbour_affine (u u' : Ulp) (a b : ℚ) (ha : 0 < a)
    (hd : ∀ x, u'.down (a * x + b) = a * u.down x + b)
    (hup : ∀ x, u'.up (a * x + b) = a * u.up x + b) (s : Scores)
    (hadj : u.NeighbourOn (s.pos ++ s.neg)) :
    u'.NeighbourOn ((s.affine a b).pos ++ (s.affine a b).neg) := by
  have hm : ∀ y, y ∈ (s.affine a b).pos ++ (s.affine a b).neg →
      ∃ x ∈ s.pos ++ s.neg, y = a * x + b := by
    intro y hy
    simp only [Scores.affine, List.mem_append, List.mem_map] at hy ⊢
    rcases hy with ⟨x, hx, rfl⟩ | ⟨x, hx, rfl⟩
    · exact ⟨x, Or.inl hx, rfl⟩
    · exact ⟨x, Or.inr hx, rfl⟩
  intro y1 h1 y2 h2 hlt
  obtain ⟨x1, hx1, rfl⟩ := hm y1 h1
  obtain ⟨x2, hx2, rfl⟩ := hm y2 h2
  obtain ⟨g1, g2⟩ := hadj x1 hx1 x2 hx2 ((affine_lt_iff ha b _ _).mp hlt)
  rw [hup, hd]
  exact ⟨(affine_le_iff ha b _ _).mpr g1, (affine_le_iff ha b _ _).mpr g2⟩

/-- an oracle related to `u` by negation (`c08n_NegCompat`) is lawful -/
theorem mwi_lawful_negate (u u' : Ulp) (hc : c08n_NegCompat u u') (hu : u.Lawful) :
    u'.Lawful := by
  constructor
  · intro y
    have := hc.down_neg (-y)
    rw [neg_neg] at this
    rw [this]
    have := hu.lt_up (-y)
    linarith
  · intro y
    have := hc.up_neg (-y)
    rw [neg_neg] at this
    rw [this]
    have := hu.down_lt (-y)
    linarith

/-- ... and neighbourly on the negated data -/
theorem mwi_neighbour_negate (u u' : Ulp) (hc : c08n_NegCompat u u') (s : Scores)
    (hadj : u.NeighbourOn (s.pos ++ s.neg)) :
    u'.NeighbourOn (s.negate.pos ++ s.negate.neg) := by
  have hm : ∀ y, y ∈ s.negate.pos ++ s.negate.neg → -y ∈ s.pos ++ s.neg := by
    intro y hy
    simp only [Scores.negate, List.mem_append, mwi_mem_mirror] at hy ⊢
    exact hy
  intro y1 h1 y2 h2 hlt
  obtain ⟨g1, g2⟩ := hadj (-y2) (hm y2 h2) (-y1) (hm y1 h1) (by linarith)
  have e1 := hc.up_neg (-y1)
  have e2 := hc.down_neg (-y2)
  rw [neg_neg] at e1 e2
  rw [e1, e2]
  constructor <;> linarith

/-! ## 3. The code-shaped model -/

/-- **Affine, full AUC.** Under the hypotheses of `C07_code_eq_mw` for `s` with the oracle
`u` and for the rescaled object with the oracle `u'` (sortedness and non-emptiness of the image
follow from those of `s`), the full AUC of the code-shaped model is unchanged by an increasing
affine map of all scores. -/
theorem C08_affine_auc (u u' : Ulp) (hu : u.Lawful) (hu' : u'.Lawful) (s : Scores) (a b : ℚ)
    (ha : 0 < a) (hp : s.pos.Pairwise (· ≤ ·)) (hn : s.neg.Pairwise (· ≤ ·)) (hneg : s.neg ≠ [])
    (hadj : u.NeighbourOn (s.pos ++ s.neg))
    (hadj' : u'.NeighbourOn ((s.affine a b).pos ++ (s.affine a b).neg)) :
    (s.affine a b).auc u' 0 1 .fpr .tpr = s.auc u 0 1 .fpr .tpr := by
  rw [C07_code_eq_mw u hu s hp hn hneg hadj,
    C07_code_eq_mw u' hu' (s.affine a b) (mwi_affine_sorted _ a b ha hp)
      (mwi_affine_sorted _ a b ha hn) (by simpa [Scores.affine] using hneg) hadj',
    mwi_mw_affine s a b ha]

/-- **Affine, partial AUC.** Without cross-class ties the partial AUC over any window
`[lower, upper] ⊆ [0, 1]` is unchanged by an increasing affine map of all scores. -/
theorem C08_affine_auc_partial (u u' : Ulp) (hu : u.Lawful) (hu' : u'.Lawful) (s : Scores)
    (a b : ℚ) (ha : 0 < a) (hp : s.pos.Pairwise (· ≤ ·)) (hn : s.neg.Pairwise (· ≤ ·))
    (hneg : s.neg ≠ []) (hadj : u.NeighbourOn (s.pos ++ s.neg))
    (hadj' : u'.NeighbourOn ((s.affine a b).pos ++ (s.affine a b).neg))
    (hnt : noCrossTies s = true)
    (lower upper : ℚ) (h0 : 0 ≤ lower) (hlu : lower ≤ upper) (h1 : upper ≤ 1) :
    (s.affine a b).auc u' lower upper .fpr .tpr = s.auc u lower upper .fpr .tpr := by
  rw [C07_partial_eq_step u hu s hp hn hneg hadj hnt lower upper h0 hlu h1,
    C07_partial_eq_step u' hu' (s.affine a b) (mwi_affine_sorted _ a b ha hp)
      (mwi_affine_sorted _ a b ha hn) (by simpa [Scores.affine] using hneg) hadj'
      (mwi_noCrossTies_affine s a b ha hnt) lower upper h0 hlu h1,
    mwi_step_affine s a b ha]

/-- **Affine, related oracles.** With the oracle pair of `C08_affine_threshold`
(`nextafter` commutes with the map) the hypotheses on `u'` follow from those on `u`. -/
theorem C08_affine_auc_compat (u u' : Ulp) (hu : u.Lawful) (s : Scores) (a b : ℚ) (ha : 0 < a)
    (hd : ∀ x, u'.down (a * x + b) = a * u.down x + b)
    (hup : ∀ x, u'.up (a * x + b) = a * u.up x + b)
    (hp : s.pos.Pairwise (· ≤ ·)) (hn : s.neg.Pairwise (· ≤ ·)) (hneg : s.neg ≠ [])
    (hadj : u.NeighbourOn (s.pos ++ s.neg)) :
    (s.affine a b).auc u' 0 1 .fpr .tpr = s.auc u 0 1 .fpr .tpr ∧
    (noCrossTies s = true → ∀ lower upper : ℚ, 0 ≤ lower → lower ≤ upper → upper ≤ 1 →
      (s.affine a b).auc u' lower upper .fpr .tpr = s.auc u lower upper .fpr .tpr) :=
  ⟨C08_affine_auc u u' hu (mwi_lawful_affine u u' a b ha hd hup hu) s a b ha hp hn hneg hadj
      (mwi_neighbour_affine u u' a b ha hd hup s hadj),
   fun hnt lower upper h0 hlu h1 =>
    C08_affine_auc_partial u u' hu (mwi_lawful_affine u u' a b ha hd hup hu) s a b ha hp hn hneg
      hadj (mwi_neighbour_affine u u' a b ha hd hup s hadj) hnt lower upper h0 hlu h1⟩

/-- **Negation, full AUC.** Under the hypotheses of `C07_code_eq_mw` for `s` with `u` and
for the negated object with `u'`, the full AUC of the code-shaped model is unchanged by negating
all scores while flipping `score_class`. -/
theorem C08_negate_auc (u u' : Ulp) (hu : u.Lawful) (hu' : u'.Lawful) (s : Scores)
    (hp : s.pos.Pairwise (· ≤ ·)) (hn : s.neg.Pairwise (· ≤ ·)) (hneg : s.neg ≠ [])
    (hadj : u.NeighbourOn (s.pos ++ s.neg))
    (hadj' : u'.NeighbourOn (s.negate.pos ++ s.negate.neg)) :
    s.negate.auc u' 0 1 .fpr .tpr = s.auc u 0 1 .fpr .tpr := by
  rw [C07_code_eq_mw u hu s hp hn hneg hadj,
    C07_code_eq_mw u' hu' s.negate (c08n_mirror_sorted _ hp) (c08n_mirror_sorted _ hn)
      (mwi_negate_neg_ne_nil s hneg) hadj',
    mwi_mw_negate s]

/-- **Negation, partial AUC.** Without cross-class ties the partial AUC over any window
`[lower, upper] ⊆ [0, 1]` is unchanged by negating all scores while flipping `score_class`. -/
theorem C08_negate_auc_partial (u u' : Ulp) (hu : u.Lawful) (hu' : u'.Lawful) (s : Scores)
    (hp : s.pos.Pairwise (· ≤ ·)) (hn : s.neg.Pairwise (· ≤ ·)) (hneg : s.neg ≠ [])
    (hadj : u.NeighbourOn (s.pos ++ s.neg))
    (hadj' : u'.NeighbourOn (s.negate.pos ++ s.negate.neg))
    (hnt : noCrossTies s = true)
    (lower upper : ℚ) (h0 : 0 ≤ lower) (hlu : lower ≤ upper) (h1 : upper ≤ 1) :
    s.negate.auc u' lower upper .fpr .tpr = s.auc u lower upper .fpr .tpr := by
  rw [C07_partial_eq_step u hu s hp hn hneg hadj hnt lower upper h0 hlu h1,
    C07_partial_eq_step u' hu' s.negate (c08n_mirror_sorted _ hp) (c08n_mirror_sorted _ hn)
      (mwi_negate_neg_ne_nil s hneg) hadj' (mwi_noCrossTies_negate s hnt) lower upper h0 hlu h1,
    mwi_step_negate s]

/-- **Negation, related oracles.** With a negation-compatible oracle pair
(`c08n_NegCompat`, e.g. float64 `nextafter` with itself) the hypotheses on `u'` follow from those
on `u`. -/
theorem C08_negate_auc_compat (u u' : Ulp) (hc : c08n_NegCompat u u') (hu : u.Lawful)
    (s : Scores) (hp : s.pos.Pairwise (· ≤ ·)) (hn : s.neg.Pairwise (· ≤ ·)) (hneg : s.neg ≠ [])
    (hadj : u.NeighbourOn (s.pos ++ s.neg)) :
    s.negate.auc u' 0 1 .fpr .tpr = s.auc u 0 1 .fpr .tpr ∧
    (noCrossTies s = true → ∀ lower upper : ℚ, 0 ≤ lower → lower ≤ upper → upper ≤ 1 →
      s.negate.auc u' lower upper .fpr .tpr = s.auc u lower upper .fpr .tpr) :=
  ⟨C08_negate_auc u u' hu (mwi_lawful_negate u u' hc hu) s hp hn hneg hadj
      (mwi_neighbour_negate u u' hc s hadj),
   fun hnt lower upper h0 hlu h1 =>
    C08_negate_auc_partial u u' hu (mwi_lawful_negate u u' hc hu) s hp hn hneg hadj
      (mwi_neighbour_negate u u' hc s hadj) hnt lower upper h0 hlu h1⟩

/-! ### non-vacuity -/

/-- Hypotheses of `C08_affine_auc(_partial/_compat)` are satisfiable: the half-step oracle, the
translation `x ↦ 1·x + 7`, sorted tie-free data with a scored negative. -/
example : Ulp.half.Lawful ∧ (0 : ℚ) < 1 ∧
    (∀ x, Ulp.half.down (1 * x + 7) = 1 * Ulp.half.down x + 7) ∧
    (∀ x, Ulp.half.up (1 * x + 7) = 1 * Ulp.half.up x + 7) ∧
    ([1, 3, 5] : List ℚ).Pairwise (· ≤ ·) ∧ ([2, 4] : List ℚ).Pairwise (· ≤ ·) ∧
    ([2, 4] : List ℚ) ≠ [] ∧ Ulp.half.NeighbourOn ([1, 3, 5] ++ [2, 4]) ∧
    noCrossTies ⟨[1, 3, 5], [2, 4], 1, 2, ⟨.pos, .neg⟩⟩ = true := by
  exact ⟨Ulp.half_lawful, by norm_num, fun x => by simp only [Ulp.half]; ring,
    fun x => by simp only [Ulp.half]; ring, by decide +kernel, by decide +kernel, by simp,
    (half_adjacentOn _ (by decide +kernel)).neighbour Ulp.half_lawful, by decide +kernel⟩

/-- ... and of `C08_negate_auc(_partial/_compat)`: the half-step oracle is compatible with
negation with itself. -/
example : c08n_NegCompat Ulp.half Ulp.half ∧ Ulp.half.Lawful := ⟨c08n_half_compat, Ulp.half_lawful⟩

end SA

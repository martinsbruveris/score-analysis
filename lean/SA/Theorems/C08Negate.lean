/-
C08 — thresholds under score negation + `score_class` flip.

Negating all scores and flipping `score_class` mirrors the normalised problem of
`_invert_increasing_function`: sorted array `s ↦ (s.map (-·)).reverse`, target `r ↦ 1 - r`,
continuity flag `lc ↦ !lc`, method `m ↦ m.reverse`.  The returned threshold is negated
EXCEPT on one stretch of targets of width `1/N` (`c08n_excluded`), where exactly one of the
two problems is in a sentinel special case: there the two thresholds differ by one oracle
step; the exact values are given by `c08n_invert_negate_excl_*`.
-/
import SA.Theorems.C08

namespace SA

/-! ### the mirrored array -/

/-- the sorted array of the negated scores: `s'[i] = -s[N-1-i]` -/
def c08n_mirror (s : List ℚ) : List ℚ := (s.map fun x => -x).reverse

theorem c08n_mirror_length (s : List ℚ) : (c08n_mirror s).length = s.length := by
  simp [c08n_mirror]

theorem c08n_mirror_getD (s : List ℚ) (i : ℕ) (hi : i < s.length) :
    (c08n_mirror s).getD i 0 = -(s.getD (s.length - 1 - i) 0) := by
  have h1 : i < (c08n_mirror s).length := by rw [c08n_mirror_length]; exact hi
  rw [getD_eq _ i h1, getD_eq s (s.length - 1 - i) (by omega)]
  simp [c08n_mirror, List.getElem_reverse]

theorem c08n_mirror_head (s : List ℚ) (hne : s.length ≠ 0) :
    (c08n_mirror s).getD 0 0 = -(s.getD (s.length - 1) 0) := by
  rw [c08n_mirror_getD s 0 (by omega), Nat.sub_zero]

theorem c08n_mirror_last (s : List ℚ) (hne : s.length ≠ 0) :
    (c08n_mirror s).getD ((c08n_mirror s).length - 1) 0 = -(s.getD 0 0) := by
  rw [c08n_mirror_length, c08n_mirror_getD s _ (by omega)]
  congr 2; omega

theorem mwi_mem_mirror (l : List ℚ) (x : ℚ) : x ∈ c08n_mirror l ↔ -x ∈ l := by
  unfold c08n_mirror
  rw [List.mem_reverse, List.mem_map]
  constructor
  · rintro ⟨y, hy, rfl⟩; rwa [neg_neg]
  · intro h; exact ⟨-x, h, neg_neg x⟩

theorem c08n_mirror_sorted (s : List ℚ) (hs : s.Pairwise (· ≤ ·)) :
    (c08n_mirror s).Pairwise (· ≤ ·) := by
  unfold c08n_mirror
  rw [List.pairwise_reverse, List.pairwise_map]
  exact hs.imp (fun {a b} hab => by linarith)

theorem c08n_sortQ_map_neg (l : List ℚ) :
    sortQ (l.map fun x => -x) = c08n_mirror (sortQ l) := by
  apply List.Perm.eq_of_pairwise' (r := (· ≤ ·)) (sortQ_pairwise _)
    (c08n_mirror_sorted _ (sortQ_pairwise l))
  unfold c08n_mirror
  exact (sortQ_perm _).trans (((sortQ_perm l).symm.map _).trans (List.reverse_perm _).symm)

theorem c08n_sortQ_mirror_append (a b : List ℚ) :
    sortQ (c08n_mirror a ++ c08n_mirror b) = c08n_mirror (sortQ (a ++ b)) := by
  rw [← c08n_sortQ_map_neg]
  apply sortQ_eq_of_perm
  unfold c08n_mirror
  rw [List.map_append]
  exact List.Perm.append (List.reverse_perm _) (List.reverse_perm _)

/-! ### floor / ceiling / clamp under `x ↦ N - 1 - x` -/

theorem c08n_floor_mirror (n : ℤ) (x : ℚ) : ((n : ℚ) - x).floor = n - ceilQ x := by
  rw [ceilQ_eq]
  show ⌊(n : ℚ) - x⌋ = n - ⌈x⌉
  rw [sub_eq_add_neg, Int.floor_intCast_add, Int.floor_neg, ← sub_eq_add_neg]

theorem c08n_ceil_mirror (n : ℤ) (x : ℚ) : ceilQ ((n : ℚ) - x) = n - x.floor := by
  rw [ceilQ_eq]
  show ⌈(n : ℚ) - x⌉ = n - ⌊x⌋
  rw [sub_eq_add_neg, Int.ceil_intCast_add, Int.ceil_neg, ← sub_eq_add_neg]

theorem c08n_clamp_mirror (i : ℤ) (n : ℕ) :
    clampIdx ((n : ℤ) - 1 - i) n = n - 1 - clampIdx i n := by
  rcases le_or_gt i 0 with h | h
  · rw [clampIdx_of_nonpos i n h, clampIdx_of_ge _ n (by omega), Nat.sub_zero]
  · rcases le_or_gt ((n : ℤ) - 1) i with h1 | h1
    · rw [clampIdx_of_ge i n h1, clampIdx_of_nonpos _ n (by omega), Nat.sub_self]
    · obtain ⟨j, rfl⟩ := Int.eq_ofNat_of_zero_le h.le
      rw [show (n : ℤ) - 1 - j = ((n - 1 - j : ℕ) : ℤ) by omega, clampIdx_natCast _ _ (by omega),
        clampIdx_natCast _ _ (by omega)]

theorem c08n_getD_clamp (s : List ℚ) (hne : s.length ≠ 0) (i : ℤ) :
    (c08n_mirror s).getD (clampIdx ((s.length : ℤ) - 1 - i) s.length) 0 =
      -(s.getD (clampIdx i s.length) 0) := by
  have hc := clampIdx_lt i s.length hne
  rw [c08n_clamp_mirror i s.length, c08n_mirror_getD s _ (by omega)]
  congr 2; omega

/-- **Mirror identity of the three raw branches**: at the mirrored index target `N - 1 - x`
the mirrored array gives the negated value, with `lower` and `higher` exchanged.  No range
condition on `x` (the clamps mirror too). -/
theorem c08n_rawThr_mirror (s : List ℚ) (hne : s.length ≠ 0) (x : ℚ) (m : Method) :
    rawThr (c08n_mirror s) ((s.length : ℚ) - 1 - x) m.reverse = -(rawThr s x m) := by
  have hN : ((s.length : ℚ) - 1 - x) = (((s.length : ℤ) - 1 : ℤ) : ℚ) - x := by push_cast; ring
  have hfl : ((s.length : ℚ) - 1 - x).floor = (s.length : ℤ) - 1 - ceilQ x := by
    rw [hN, c08n_floor_mirror]
  have hce : ceilQ ((s.length : ℚ) - 1 - x) = (s.length : ℤ) - 1 - x.floor := by
    rw [hN, c08n_ceil_mirror]
  cases m
  · -- linear
    simp only [Method.reverse, rawThr, interp, c08n_mirror_length]
    rw [hfl, hce, c08n_getD_clamp s hne, c08n_getD_clamp s hne]
    rcases ceilQ_cases x with ⟨hint, hc⟩ | hc
    · rw [hc]; push_cast; rw [hint]; ring
    · rw [hc]; push_cast; ring
  · -- lower ↦ higher
    simp only [Method.reverse, rawThr, c08n_mirror_length]
    rw [hce, c08n_getD_clamp s hne]
  · -- higher ↦ lower
    simp only [Method.reverse, rawThr, c08n_mirror_length]
    rw [hfl, c08n_getD_clamp s hne]

theorem c08n_interp_mirror (s : List ℚ) (hne : s.length ≠ 0) (x : ℚ) :
    interp (c08n_mirror s) ((s.length : ℚ) - 1 - x) = -(interp s x) :=
  c08n_rawThr_mirror s hne x .linear

/-! ### the excluded stretch -/

/-- The targets (of the normalised problem: array length `N`, normalised target `r`,
continuity flag `lc`) on which exactly one of the two mirrored problems is in a sentinel
special case.  `lc = true`: `1 - 1/N ≤ r < 1` (and `0 < r`, which only matters for `N = 1`);
`lc = false`: `0 < r ≤ 1/N` (and `r < 1`, which only matters for `N = 1`). -/
def c08n_excluded (N : ℕ) (r : ℚ) (lc : Bool) : Bool :=
  if lc then decide (0 < r ∧ 1 - 1 / (N : ℚ) ≤ r ∧ r < 1)
  else decide (0 < r ∧ r ≤ 1 / (N : ℚ) ∧ r < 1)

theorem c08n_excluded_mirror (N : ℕ) (r : ℚ) (lc : Bool) :
    c08n_excluded N (1 - r) (!lc) = c08n_excluded N r lc := by
  cases lc
  · simp only [c08n_excluded, Bool.not_false, if_true, Bool.false_eq_true, if_false,
      decide_eq_decide, sub_pos, sub_le_sub_iff_left, sub_lt_self_iff]
    exact ⟨fun ⟨a, b, c⟩ => ⟨c, b, a⟩, fun ⟨a, b, c⟩ => ⟨c, b, a⟩⟩
  · simp only [c08n_excluded, Bool.not_true, if_true, Bool.false_eq_true, if_false,
      decide_eq_decide, sub_pos, sub_le_comm (a := 1) (b := r), sub_lt_self_iff]
    exact ⟨fun ⟨a, b, c⟩ => ⟨c, b, a⟩, fun ⟨a, b, c⟩ => ⟨c, b, a⟩⟩

/-- oracle pair compatible with negation: `nextafter(-x, ∓inf) = -nextafter(x, ±inf)` -/
structure c08n_NegCompat (u u' : Ulp) : Prop where
  down_neg : ∀ x, u'.down (-x) = -(u.up x)
  up_neg : ∀ x, u'.up (-x) = -(u.down x)

theorem c08n_excluded_iff (s : List ℚ) (hne : s.length ≠ 0) (r : ℚ) (lc : Bool) :
    c08n_excluded s.length r lc = true ↔
      0 < r * (s.length : ℚ) ∧ r * (s.length : ℚ) < (s.length : ℚ) ∧
        (indexTarget s r lc ≤ 0 ∨ (s.length : ℚ) - 1 ≤ indexTarget s r lc) := by
  have hN : (0 : ℚ) < (s.length : ℚ) := Nat.cast_pos.mpr (Nat.pos_of_ne_zero hne)
  have e1 : 0 < r ↔ 0 < r * (s.length : ℚ) := (mul_pos_iff_of_pos_right hN).symm
  have e2 : r < 1 ↔ r * (s.length : ℚ) < (s.length : ℚ) := (mul_lt_iff_lt_one_left hN).symm
  rw [indexTarget_eq s hne]
  cases lc
  · simp only [c08n_excluded, Bool.false_eq_true, if_false, decide_eq_true_eq, e1, e2,
      le_div_iff₀ hN, sub_nonpos, sub_le_sub_iff_right]
    exact ⟨fun ⟨a, b, c⟩ => ⟨a, c, Or.inl b⟩,
        fun ⟨a, c, h⟩ => ⟨a, h.resolve_right (not_le.mpr c), c⟩⟩
  · have e3 : 1 - 1 / (s.length : ℚ) ≤ r ↔ (s.length : ℚ) - 1 ≤ r * (s.length : ℚ) := by
      rw [← mul_le_mul_iff_left₀ hN, sub_mul, one_mul, one_div, inv_mul_cancel₀ hN.ne']
    simp only [c08n_excluded, if_true, decide_eq_true_eq, e1, e2, e3, sub_zero]
    exact ⟨fun ⟨a, b, c⟩ => ⟨a, c, Or.inr b⟩,
        fun ⟨a, c, h⟩ => ⟨a, h.resolve_left (not_le.mpr a), c⟩⟩

/-- the mirrored problem in terms of the original one: its two sentinel conditions are the
original problem's "position `r·N` at or below 0" and "index target at or above `N - 1`", not the
original problem's own sentinel conditions; this is where the excluded stretch comes from -/
theorem c08n_invert_mirror (u' : Ulp) (s : List ℚ) (hne : s.length ≠ 0) (r : ℚ) (lc : Bool)
    (m : Method) :
    invertIncreasing u' (c08n_mirror s) (1 - r) (!lc) m.reverse =
      if r * (s.length : ℚ) ≤ 0 then u'.up (-(s.getD 0 0))
      else if (s.length : ℚ) - 1 ≤ indexTarget s r lc then u'.down (-(s.getD (s.length - 1) 0))
      else -(rawThr s (indexTarget s r lc) m) := by
  have hne' : (c08n_mirror s).length ≠ 0 := by rw [c08n_mirror_length]; exact hne
  have hx : indexTarget (c08n_mirror s) (1 - r) (!lc) =
      (s.length : ℚ) - 1 - indexTarget s r lc := by
    rw [indexTarget_eq _ hne', indexTarget_eq _ hne, c08n_mirror_length]
    cases lc <;> simp only [Bool.not_false, Bool.not_true, if_true, Bool.false_eq_true,
        if_false] <;>
      ring
  have hl := c08n_mirror_last s hne
  rw [c08n_mirror_length] at hl
  rw [invertIncreasing_index u' _ hne', hx, c08n_mirror_length, hl, c08n_mirror_head s hne,
    c08n_rawThr_mirror s hne]
  simp only [sub_mul, one_mul, le_sub_self_iff, sub_nonpos]

/-- **Negation of the normalised threshold** (every method, `lower`/`higher` exchanged):
outside the excluded stretch the mirrored problem returns the negated threshold. -/
theorem c08n_invert_negate_methods (u u' : Ulp) (hc : c08n_NegCompat u u') (s : List ℚ)
    (hne : s.length ≠ 0) (r : ℚ) (lc : Bool) (m : Method)
    (hex : c08n_excluded s.length r lc = false) :
    invertIncreasing u' (c08n_mirror s) (1 - r) (!lc) m.reverse =
      -(invertIncreasing u s r lc m) := by
  rw [← Bool.not_eq_true, c08n_excluded_iff s hne] at hex
  have hx := indexTarget_eq s hne r lc
  obtain ⟨hd0, hd1⟩ := delta_range lc
  have hN : (0 : ℚ) < (s.length : ℚ) := Nat.cast_pos.mpr (Nat.pos_of_ne_zero hne)
  rw [c08n_invert_mirror u' s hne, invertIncreasing_index u s hne, hc.up_neg, hc.down_neg]
  by_cases hq0 : r * (s.length : ℚ) ≤ 0
  · -- both in the lower special case of the original
    rw [if_pos hq0, if_neg (by linarith only [hq0, hN]), if_pos (by linarith only [hq0, hx, hd0])]
  · by_cases hqN : (s.length : ℚ) ≤ r * (s.length : ℚ)
    · -- both in the upper special case of the original
      rw [if_neg hq0, if_pos (by linarith only [hqN, hx, hd1]), if_pos hqN]
    · -- both interior
      rw [if_neg hq0, if_neg fun h => hex ⟨not_le.mp hq0, not_le.mp hqN, Or.inr h⟩, if_neg hqN,
        if_neg fun h => hex ⟨not_le.mp hq0, not_le.mp hqN, Or.inl h⟩]

/-- **Negation of the normalised threshold, method linear.** -/
theorem c08n_invert_negate (u u' : Ulp) (hc : c08n_NegCompat u u') (s : List ℚ)
    (hne : s.length ≠ 0) (r : ℚ) (lc : Bool) (hex : c08n_excluded s.length r lc = false) :
    invertIncreasing u' (c08n_mirror s) (1 - r) (!lc) .linear =
      -(invertIncreasing u s r lc .linear) :=
  c08n_invert_negate_methods u u' hc s hne r lc .linear hex

/-- **Excluded stretch, `lc = true`** (`0 < r`, `1 - 1/N ≤ r < 1`): the original problem is
interior and returns the last sample (every method), the mirrored problem is in its lower
special case: the two results differ by exactly one oracle step at the last sample. -/
theorem c08n_invert_negate_excl_true (u u' : Ulp) (hc : c08n_NegCompat u u') (s : List ℚ)
    (hne : s.length ≠ 0) (r : ℚ) (m : Method)
    (hex : c08n_excluded s.length r true = true) :
    invertIncreasing u s r true m = s.getD (s.length - 1) 0 ∧
    invertIncreasing u' (c08n_mirror s) (1 - r) false m.reverse =
      -(u.up (s.getD (s.length - 1) 0)) := by
  obtain ⟨h0, hN, h⟩ := (c08n_excluded_iff s hne r true).mp hex
  have hx : indexTarget s r true = r * (s.length : ℚ) := by
    rw [indexTarget_eq s hne, if_pos rfl, sub_zero]
  rw [hx] at h
  have htop := h.resolve_left (not_le.mpr h0)
  constructor
  · rw [invertIncreasing_index u s hne, hx, if_neg (not_le.mpr hN), if_neg (not_le.mpr h0),
      c08n_rawThr_top s _ htop]
  · rw [← Bool.not_true, c08n_invert_mirror u' s hne, hx, if_neg (not_le.mpr h0), if_pos htop,
      hc.down_neg]

/-- **Excluded stretch, `lc = false`** (`0 < r ≤ 1/N`, `r < 1`): the original problem is in
its lower special case, the mirrored problem is interior and returns its last sample
`-s[0]` (every method): the two results differ by exactly one oracle step at the first
sample. -/
theorem c08n_invert_negate_excl_false (u u' : Ulp) (s : List ℚ)
    (hne : s.length ≠ 0) (r : ℚ) (m : Method)
    (hex : c08n_excluded s.length r false = true) :
    invertIncreasing u s r false m = u.down (s.getD 0 0) ∧
    invertIncreasing u' (c08n_mirror s) (1 - r) true m.reverse = -(s.getD 0 0) := by
  obtain ⟨h0, hN, h⟩ := (c08n_excluded_iff s hne r false).mp hex
  have hx : indexTarget s r false = r * (s.length : ℚ) - 1 := by
    rw [indexTarget_eq s hne, if_neg Bool.false_ne_true]
  have hlow : indexTarget s r false ≤ 0 := h.resolve_right (by rw [hx]; linarith)
  constructor
  · rw [invertIncreasing_index u s hne, if_neg (not_le.mpr hN), if_pos hlow]
  · rw [← Bool.not_false, c08n_invert_mirror u' s hne, if_neg (not_le.mpr h0),
      if_neg (by rw [hx]; linarith only [hN]), c08n_rawThr_bottom s _ hlow]

/-! ### lift to `Scores.thresholdAt` -/

/-- The object holding the negated scores with `score_class` flipped (arrays sorted again:
negate and reverse; easy counts and `equal_class` unchanged). -/
def Scores.negate (s : Scores) : Scores :=
  ⟨c08n_mirror s.pos, c08n_mirror s.neg, s.easyPos, s.easyNeg,
    ⟨s.cfg.scoreClass.flip, s.cfg.equalClass⟩⟩

/-- `Scores.negate` is what the constructor builds from the negated arrays (it sorts). -/
theorem c08n_negate_eq_make (s : Scores) (hp : s.pos.Pairwise (· ≤ ·))
    (hn : s.neg.Pairwise (· ≤ ·)) :
    Scores.make (s.pos.map fun x => -x) (s.neg.map fun x => -x) s.easyPos s.easyNeg
      ⟨s.cfg.scoreClass.flip, s.cfg.equalClass⟩ false = s.negate := by
  simp only [Scores.make, Bool.false_eq_true, if_false, Scores.negate, c08n_sortQ_map_neg,
    sortQ_eq_self _ hp, sortQ_eq_self _ hn]

theorem c08n_metricArray_negate (s : Scores) (metric : Metric) :
    s.negate.metricArray metric = c08n_mirror (s.metricArray metric) := by
  cases metric <;> simp only [Scores.metricArray, Scores.negate, Scores.concat] <;>
    first
    | rfl
    | exact c08n_sortQ_mirror_append _ _

theorem c08n_rescale_negate (s : Scores) (metric : Metric) (r : ℚ) :
    s.negate.rescale metric r = s.rescale metric r :=
  rescale_congr s s.negate (c08n_mirror_length _) (c08n_mirror_length _) rfl rfl metric r

/-- threshold setting on the negated object is the mirrored normalised problem of the original -/
theorem c08n_thresholdAt_negate (u' : Ulp) (s : Scores) (metric : Metric) (r : ℚ) (m : Method)
    (hne : (s.metricArray metric).length ≠ 0) :
    s.negate.thresholdAt u' metric r m = .ok (invertIncreasing u'
      (c08n_mirror (s.metricArray metric)) (1 - normTarget s metric r)
      (!normLc s.cfg metric.increasing metric.ratioClass)
      (if evenFlips s.cfg metric.increasing then m else m.reverse).reverse) := by
  have he : evenFlips s.negate.cfg metric.increasing = !evenFlips s.cfg metric.increasing := by
    obtain ⟨p, n, ep, en, ⟨sc, ec⟩⟩ := s
    generalize metric.increasing = inc
    cases sc <;> cases inc <;> rfl
  have hl : normLc s.negate.cfg metric.increasing metric.ratioClass =
      !normLc s.cfg metric.increasing metric.ratioClass := by
    obtain ⟨p, n, ep, en, ⟨sc, ec⟩⟩ := s
    generalize metric.increasing = inc
    generalize metric.ratioClass = rc
    cases sc <;> cases ec <;> cases inc <;> cases rc <;> rfl
  rw [thresholdAt_eq u' s.negate metric r m
      (by rw [c08n_metricArray_negate, c08n_mirror_length]; exact hne),
    c08n_metricArray_negate, normTarget, normTarget, c08n_rescale_negate, he, hl]
  cases evenFlips s.cfg metric.increasing <;> cases m <;>
    simp only [Bool.not_false, Bool.not_true, if_true, Bool.false_eq_true, if_false, sub_sub_cancel,
      Method.reverse]

/-- The hypothesis of `C08_negate_threshold` as a decidable predicate of the object, the
metric and the target: the normalised problem is outside the excluded stretch. -/
def c08n_regular (s : Scores) (metric : Metric) (r : ℚ) : Bool :=
  !c08n_excluded (s.metricArray metric).length (normTarget s metric r)
    (normLc s.cfg metric.increasing metric.ratioClass)

/-- **C08 (negation, thresholds), every method.** Negating all scores while flipping
`score_class` negates every threshold returned by threshold setting — all six metrics, all
configurations, easy counts, all three methods — for every target whose normalised value is
outside the excluded stretch (`c08n_regular`), given a `nextafter` oracle pair compatible
with negation.  Errors (empty array) correspond. -/
theorem C08_negate_threshold_methods (u u' : Ulp) (hc : c08n_NegCompat u u') (s : Scores)
    (metric : Metric) (r : ℚ) (m : Method) (hreg : c08n_regular s metric r = true) :
    s.negate.thresholdAt u' metric r m = (s.thresholdAt u metric r m).map (fun t => -t) := by
  by_cases hne : (s.metricArray metric).length = 0
  · unfold Scores.thresholdAt
    rw [c08n_metricArray_negate, c08n_mirror_length]
    simp only [hne, if_true]; rfl
  · simp only [c08n_regular, Bool.not_eq_true'] at hreg
    rw [c08n_thresholdAt_negate u' s metric r m hne, thresholdAt_eq u s metric r m hne,
      c08n_invert_negate_methods u u' hc _ hne _ _ _ hreg]
    rfl

/-- **C08 (negation, thresholds), method linear.** -/
theorem C08_negate_threshold (u u' : Ulp) (hc : c08n_NegCompat u u') (s : Scores)
    (metric : Metric) (r : ℚ) (hreg : c08n_regular s metric r = true) :
    s.negate.thresholdAt u' metric r .linear =
      (s.thresholdAt u metric r .linear).map (fun t => -t) :=
  C08_negate_threshold_methods u u' hc s metric r .linear hreg

/-- The same for the object built by the constructor from the negated arrays. -/
theorem C08_negate_threshold_make (u u' : Ulp) (hc : c08n_NegCompat u u')
    (pos neg : List ℚ) (ep en : ℕ) (sc ec : Label) (metric : Metric) (r : ℚ) (m : Method)
    (hreg : c08n_regular (Scores.make pos neg ep en ⟨sc, ec⟩ false) metric r = true) :
    (Scores.make (pos.map fun x => -x) (neg.map fun x => -x) ep en ⟨sc.flip, ec⟩ false).thresholdAt
        u' metric r m =
      ((Scores.make pos neg ep en ⟨sc, ec⟩ false).thresholdAt u metric r m).map (fun t => -t) := by
  rw [← C08_negate_threshold_methods u u' hc _ metric r m hreg]
  congr 1
  simp only [Scores.make, Bool.false_eq_true, if_false, Scores.negate, c08n_sortQ_map_neg]

/-- **On the excluded stretch** the two thresholds are given exactly; they
differ by one oracle step at an extreme sample of the metric's array `a`
(`-up(a_last)` vs `-a_last`, or `-down(a_0)` vs `-a_0`). -/
theorem C08_negate_threshold_excluded (u u' : Ulp) (hc : c08n_NegCompat u u') (s : Scores)
    (metric : Metric) (r : ℚ) (m : Method) (hne : (s.metricArray metric).length ≠ 0)
    (hreg : c08n_regular s metric r = false) :
    if normLc s.cfg metric.increasing metric.ratioClass then
      s.thresholdAt u metric r m =
        .ok ((s.metricArray metric).getD ((s.metricArray metric).length - 1) 0) ∧
      s.negate.thresholdAt u' metric r m =
        .ok (-(u.up ((s.metricArray metric).getD ((s.metricArray metric).length - 1) 0)))
    else
      s.thresholdAt u metric r m = .ok (u.down ((s.metricArray metric).getD 0 0)) ∧
      s.negate.thresholdAt u' metric r m = .ok (-((s.metricArray metric).getD 0 0)) := by
  rw [c08n_thresholdAt_negate u' s metric r m hne, thresholdAt_eq u s metric r m hne]
  simp only [c08n_regular, Bool.not_eq_false'] at hreg
  cases hlc : normLc s.cfg metric.increasing metric.ratioClass
  · rw [hlc] at hreg
    obtain ⟨h1, h2⟩ := c08n_invert_negate_excl_false u u' _ hne _
      (if evenFlips s.cfg metric.increasing then m else m.reverse) hreg
    simp only [Bool.false_eq_true, if_false, Bool.not_false]
    rw [h1, h2]; exact ⟨rfl, rfl⟩
  · rw [hlc] at hreg
    obtain ⟨h1, h2⟩ := c08n_invert_negate_excl_true u u' hc _ hne _
      (if evenFlips s.cfg metric.increasing then m else m.reverse) hreg
    simp only [if_true, Bool.not_true]
    rw [h1, h2]; exact ⟨rfl, rfl⟩

/-! ### non-vacuity -/

theorem c08n_half_compat : c08n_NegCompat Ulp.half Ulp.half :=
  ⟨fun x => by simp only [Ulp.half]; ring, fun x => by simp only [Ulp.half]; ring⟩

/-- the float64 `nextafter` model used by the driver is compatible with negation -/
theorem c08n_float64_compat : c08n_NegCompat Ulp.float64 Ulp.float64 := by
  constructor
  · intro x
    show f64Down (-x) = -(f64Up x)
    unfold f64Down f64Up
    by_cases h : 0 ≤ x
    · have h' : ¬ (0 < -x) := by linarith
      simp only [h, h', if_true, if_false, neg_neg]
    · have h' : 0 < -x := by linarith
      simp only [h, h', if_true, if_false, neg_neg]
  · intro x
    show f64Up (-x) = -(f64Down x)
    unfold f64Down f64Up
    by_cases h : 0 < x
    · have h' : ¬ (0 ≤ -x) := by linarith
      simp only [h, h', if_true, if_false, neg_neg]
    · have h' : 0 ≤ -x := by linarith
      simp only [h, h', if_true, if_false, neg_neg]

/-- a target satisfying the hypothesis: FNR = 1/2 on four positives, `score_class = pos` -/
example : c08n_regular ⟨[1, 2, 3, 5], [0, 2], 0, 0, ⟨.pos, .pos⟩⟩ .fnr (1 / 2) = true := by
  decide +kernel

/-- ... and a target in the excluded stretch: FNR = 1/8 ≤ 1/N with `equal_class = neg` -/
example : c08n_regular ⟨[1, 2, 3, 5], [0, 2], 0, 0, ⟨.pos, .neg⟩⟩ .fnr (1 / 8) = false := by
  decide +kernel

end SA

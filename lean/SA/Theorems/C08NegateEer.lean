/-
C08 — `eer()` under score negation + `score_class` flip.

C08 says that negating all scores while flipping `score_class` negates every threshold returned
by threshold setting and by `eer()` and leaves the EER unchanged (for `eer()` it claims this for
tie-free scores).  For `eer()` this is FALSE in the model, with and without ties (and in the Python:
its return values are quoted at the counterexamples):

* `C08_negate_eer_statement_false`, `C08_negate_eer_value_statement_false`: with a score shared
  by the two classes (pos = [1], neg = [1, 1], float64 `nextafter`) `eer()` returns
  `(1, 1/4)` and the negated object `(-1, 2^-35)`: the EER VALUE changes from 0.25 to 3e-11.
* `C08_negate_eer_value_tiefree_statement_false`: without any tie (pos = [2], neg = [1, 3],
  float64) the results are `(2, 1/4)` and `(-(2 + 2^-33), 1/4 - 2^-35)`: the value moves by the
  resolution of the bisection, the threshold by much more than one `nextafter` step.
* `C08_negate_eer_threshold_tiefree_false`: without any tie (pos = [1], neg = [2], one easy
  negative, float64) the value and the path (a cap) agree, but the thresholds are `1` and
  `-nextafter(1, +inf)`: off by one step.

All come from the one asymmetry of threshold setting under negation: the excluded stretch of
`C08_negate_threshold` (targets whose rescaled value is within `1/N` of 1 for
`equal_class = pos`, of 0 for `equal_class = neg`, `c08e_regularAt_iff`), where the two
thresholds differ by one `nextafter` step.  A step is enough to turn a zero of the root-finder
objective into a non-zero, which moves an end of the flat stretch of roots.

What is TRUE, and proved here for every object, configuration, easy counts, fuel and every
`nextafter` oracle pair compatible with negation:

* `C08_negate_eer_objective`: the objective handed to `_find_root` is the same function at
  every regular target (always at 0).
* `C08_negate_eer_path` / `C08_negate_eer_value`: if the two objectives have the same SIGN at
  the targets that `s.eer` probes (`max_eer` and the bisection midpoints), the negated object
  takes the mirrored path and returns the same EER value (errors correspond).
* `C08_negate_eer_partial_signs`: if moreover the final threshold call is regular, the returned
  threshold is negated.
* `C08_negate_eer_partial`: the same under the decidable hypothesis `c08e_regularRun` (every
  threshold call of the run is regular).
* `C08_negate_eer_shortcut`: on the perfect-separation shortcuts, unconditionally.
-/
import SA.Proofs.EerNegate

namespace SA

/-! ### the objective of the root finder -/

/-- **C08 (negation, EER objective).** At every target `x` at which both threshold calls are
regular, the function handed to `_find_root` by the negated object has the same value as that
of the original (`sign` and the threshold difference both change sign). -/
theorem C08_negate_eer_objective (u u' : Ulp) (hc : c08n_NegCompat u u') (s : Scores)
    (hp : s.pos.length ≠ 0) (hn : s.neg.length ≠ 0) (x : ℚ)
    (hx : c08e_regularAt s x = true) :
    c08e_objective u' s.negate x = c08e_objective u s x :=
  c08e_objective_negate u u' hc s hp hn x hx

/-- ... in particular at 0, without any regularity hypothesis. -/
theorem C08_negate_eer_objective_zero (u u' : Ulp) (hc : c08n_NegCompat u u') (s : Scores)
    (hp : s.pos.length ≠ 0) (hn : s.neg.length ≠ 0) :
    c08e_objective u' s.negate 0 = c08e_objective u s 0 :=
  c08e_objective_negate u u' hc s hp hn 0 (by
    simp only [c08e_regularAt, c08e_regular_fpr_zero, c08e_regular_fnr_zero, Bool.and_self])

/-- `c08e_objective` is the `f` of `eer()`: `sign * (thr_fpr(x) - thr_fnr(x))`. -/
theorem c08e_objective_def (u : Ulp) (s : Scores) (x : ℚ) :
    c08e_objective u s x = -(thrVal u s .fpr 0 - thrVal u s .fnr 0) *
      (thrVal u s .fpr x - thrVal u s .fnr x) := rfl

/-! ### the path and the EER value -/

/-- **C08 (negation, EER path).** If the objective of the negated object agrees in sign with
that of `s` at every target that `s.eer` probes (`max_eer`, bisection midpoints), then the
negated object takes the mirrored path: the same error, the other perfect-separation shortcut,
the same cap, or the bisection with the same value. -/
theorem C08_negate_eer_path (u u' : Ulp) (hc : c08n_NegCompat u u') (s : Scores) (fuel : ℕ)
    (hs : ∀ x ∈ c08e_probes u s fuel,
      c08e_sameSign (c08e_objective u' s.negate x) (c08e_objective u s x)) :
    c08e_eerPath u' s.negate fuel = (c08e_eerPath u s fuel).mirror := by
  by_cases hE : s.pos.length = 0 ∨ s.neg.length = 0
  · have hE' : s.negate.pos.length = 0 ∨ s.negate.neg.length = 0 := by
      rw [c08e_pos_len_negate, c08e_neg_len_negate]; exact hE
    unfold c08e_eerPath c08e_corePath
    rw [if_pos hE, if_pos hE']; rfl
  · rw [not_or] at hE
    rw [c08e_eerPath_negate_core u' s fuel hE.1 hE.2]
    exact c08e_corePath_negate _ _ _ _ _ _ _ _ _ _ _ fuel
      (fun _ => c08e_sameSign_of_eq (C08_negate_eer_objective_zero u u' hc s hE.1 hE.2)) hs

/-- **C08 (negation, EER value).** Under the same sign hypothesis the EER value is unchanged
(and errors correspond) — whatever happens to the threshold. -/
theorem C08_negate_eer_value (u u' : Ulp) (hc : c08n_NegCompat u u') (s : Scores) (fuel : ℕ)
    (hs : ∀ x ∈ c08e_probes u s fuel,
      c08e_sameSign (c08e_objective u' s.negate x) (c08e_objective u s x)) :
    (s.negate.eer u' fuel).map Prod.snd = (s.eer u fuel).map Prod.snd := by
  rw [c08e_eer_eq, c08e_eer_eq, C08_negate_eer_path u u' hc s fuel hs]
  unfold c08e_finish
  rw [c08e_hardPos_negate, c08e_hardNeg_negate]
  exact c08e_coreFinish_rate _ _ _ _ _ _ _ _ _ _ _ _ _ _ _

/-! ### threshold and value -/

/-- **C08 (negation, EER), sign form.** Same signs of the two objectives at the probes of
`s.eer`, and the final threshold call(s) regular: `eer()` of the negated object returns the
negated threshold and the same EER value; errors correspond. -/
theorem C08_negate_eer_partial_signs (u u' : Ulp) (hc : c08n_NegCompat u u') (s : Scores)
    (fuel : ℕ)
    (hs : ∀ x ∈ c08e_probes u s fuel,
      c08e_sameSign (c08e_objective u' s.negate x) (c08e_objective u s x))
    (hf : c08e_finalRegular s (c08e_eerPath u s fuel) = true) :
    s.negate.eer u' fuel = (s.eer u fuel).map (fun (t, e) => (-t, e)) := by
  by_cases hE : s.pos.length = 0 ∨ s.neg.length = 0
  · have hE' : s.negate.pos.length = 0 ∨ s.negate.neg.length = 0 := by
      rw [c08e_pos_len_negate, c08e_neg_len_negate]; exact hE
    rw [c08e_eer_empty u s fuel hE, c08e_eer_empty u' s.negate fuel hE']; rfl
  · rw [not_or] at hE
    rw [c08e_eer_eq, c08e_eer_eq, C08_negate_eer_path u u' hc s fuel hs,
      c08e_finish_negate_core u' s _ hE.1 hE.2]
    exact c08e_coreFinish_negate _ _ _ _ _ _ _ _ _ _ _
      (c08e_finalNeg_of_regular u u' hc s hE.1 hE.2 _ hf)

/-- regular targets give equal objectives, hence equal signs -/
theorem c08e_signs_of_regular (u u' : Ulp) (hc : c08n_NegCompat u u') (s : Scores) (fuel : ℕ)
    (h : (c08e_probes u s fuel).all (c08e_regularAt s) = true) :
    ∀ x ∈ c08e_probes u s fuel,
      c08e_sameSign (c08e_objective u' s.negate x) (c08e_objective u s x) := by
  intro x hx
  by_cases hE : s.pos.length = 0 ∨ s.neg.length = 0
  · exfalso
    unfold c08e_probes c08e_coreProbes at hx
    rw [if_pos hE] at hx
    cases hx
  · rw [not_or] at hE
    exact c08e_sameSign_of_eq
      (c08e_objective_negate u u' hc s hE.1 hE.2 x (List.all_eq_true.mp h x hx))

/-- **C08 (negation, EER), partial.** If every threshold call made by `s.eer u fuel` is regular
(`c08e_regularRun`: the rescaled targets `min(x / hard_ratio, 1)` at `max_eer`, at the bisection
midpoints and at the final call are outside the excluded stretch, see `c08e_regularAt_iff`),
then `eer()` of the object with all scores negated and `score_class` flipped returns the negated
threshold and the same EER value; errors correspond.  All configurations, easy counts, ties,
fuel; any oracle pair compatible with negation. -/
theorem C08_negate_eer_partial (u u' : Ulp) (hc : c08n_NegCompat u u') (s : Scores) (fuel : ℕ)
    (hreg : c08e_regularRun u s fuel = true) :
    s.negate.eer u' fuel = (s.eer u fuel).map (fun (t, e) => (-t, e)) := by
  simp only [c08e_regularRun, Bool.and_eq_true] at hreg
  exact C08_negate_eer_partial_signs u u' hc s fuel
    (c08e_signs_of_regular u u' hc s fuel hreg.1) hreg.2

/-- The same in the `(t, e)` form. -/
theorem C08_negate_eer_partial_ok (u u' : Ulp) (hc : c08n_NegCompat u u') (s : Scores)
    (fuel : ℕ) (hreg : c08e_regularRun u s fuel = true) (t e : ℚ)
    (h : s.eer u fuel = .ok (t, e)) : s.negate.eer u' fuel = .ok (-t, e) := by
  rw [C08_negate_eer_partial u u' hc s fuel hreg, h]; rfl

/-- The same for the object that the constructor builds from the negated arrays. -/
theorem C08_negate_eer_partial_make (u u' : Ulp) (hc : c08n_NegCompat u u') (s : Scores)
    (hp : s.pos.Pairwise (· ≤ ·)) (hn : s.neg.Pairwise (· ≤ ·)) (fuel : ℕ)
    (hreg : c08e_regularRun u s fuel = true) :
    (Scores.make (s.pos.map fun x => -x) (s.neg.map fun x => -x) s.easyPos s.easyNeg
      ⟨s.cfg.scoreClass.flip, s.cfg.equalClass⟩ false).eer u' fuel =
      (s.eer u fuel).map (fun (t, e) => (-t, e)) := by
  rw [c08n_negate_eq_make s hp hn]
  exact C08_negate_eer_partial u u' hc s fuel hreg

/-- **C08 (negation, EER), perfect separation.** When `s.eer` returns through one of the two
perfect-separation shortcuts, the negated object returns through the other one with the negated
threshold and EER 0 — no hypothesis on the oracles, on ties or on regularity. -/
theorem C08_negate_eer_shortcut (u u' : Ulp) (s : Scores) (fuel : ℕ)
    (h : c08e_eerPath u s fuel = .sepPos ∨ c08e_eerPath u s fuel = .sepNeg) :
    s.negate.eer u' fuel = (s.eer u fuel).map (fun (t, e) => (-t, e)) ∧
      (s.eer u fuel).map Prod.snd = .ok 0 := by
  have hE : ¬ (s.pos.length = 0 ∨ s.neg.length = 0) := by
    intro hE
    unfold c08e_eerPath c08e_corePath at h
    rw [if_pos hE] at h
    rcases h with h | h <;> cases h
  have hE' := hE
  rw [not_or] at hE'
  have hprobes : c08e_probes u s fuel = [] := c08e_coreProbes_nil_of_sep _ _ _ _ _ _ _ _ _ _ fuel h
  have hpath : c08e_eerPath u' s.negate fuel = (c08e_eerPath u s fuel).mirror := by
    rw [c08e_eerPath_negate_core u' s fuel hE'.1 hE'.2]
    apply c08e_corePath_negate
    · intro hne; exact absurd hprobes hne
    · intro x hx
      have : x ∈ c08e_probes u s fuel := hx
      rw [hprobes] at this; cases this
  constructor
  · rw [c08e_eer_eq, c08e_eer_eq, hpath, c08e_finish_negate_core u' s _ hE'.1 hE'.2]
    apply c08e_coreFinish_negate
    rcases h with h | h <;> rw [h] <;> exact trivial
  · rw [c08e_eer_eq]
    rcases h with h | h <;> rw [h] <;> rfl

/-! ### non-vacuity of the hypotheses -/

/-- three positives interleaved with three negatives, `score_class = pos` -/
def c08e_ex : Scores := ⟨[1, 3, 5], [2, 4, 6], 0, 0, ⟨.pos, .pos⟩⟩

/-- The run on `c08e_ex` with the half-step oracle (compatible with negation: `c08n_half_compat`)
and the driver's fuel, evaluated once: the hypothesis of `C08_negate_eer_partial` holds, the run is
on the bisection path (69 probes) and returns `e = 5/12 + O(2^-35)`. -/
theorem c08e_ex_run : c08e_regularRun Ulp.half c08e_ex 64 = true ∧
    (c08e_probes Ulp.half c08e_ex 64).length = 69 ∧
    c08e_eerPath Ulp.half c08e_ex 64 = .root (14316557653 / 34359738368) := by decide +kernel

example : c08e_regularRun Ulp.half c08e_ex 64 = true := c08e_ex_run.1

example : (c08e_probes Ulp.half c08e_ex 64).length = 69 := c08e_ex_run.2.1

example : c08e_eerPath Ulp.half c08e_ex 64 = .root (14316557653 / 34359738368) := c08e_ex_run.2.2

/-- ... and with the float64 `nextafter` (compatible with negation: `c08n_float64_compat`). -/
example : c08e_regularRun Ulp.float64 c08e_ex 64 = true := by decide +kernel

/-- The hypotheses of `C08_negate_eer_path`, `C08_negate_eer_value`,
`C08_negate_eer_partial_signs` follow from `c08e_regularRun`, so they hold on `c08e_ex` too. -/
example : (∀ x ∈ c08e_probes Ulp.half c08e_ex 64,
      c08e_sameSign (c08e_objective Ulp.half c08e_ex.negate x) (c08e_objective Ulp.half c08e_ex x)) ∧
    c08e_finalRegular c08e_ex (c08e_eerPath Ulp.half c08e_ex 64) = true := by
  have h := c08e_ex_run.1
  simp only [c08e_regularRun, Bool.and_eq_true] at h
  exact ⟨c08e_signs_of_regular Ulp.half Ulp.half c08n_half_compat c08e_ex 64 h.1, h.2⟩

/-- The hypothesis of `C08_negate_eer_objective`: both calls regular at `x = 1/2`. -/
example : c08e_ex.pos.length ≠ 0 ∧ c08e_ex.neg.length ≠ 0 ∧
    c08e_regularAt c08e_ex (1 / 2) = true := by
  refine ⟨by decide, by decide, ?_⟩
  decide +kernel

/-- The hypothesis of `C08_negate_eer_shortcut`: a perfectly separated object. -/
example : c08e_eerPath Ulp.half ⟨[4, 5], [1, 2], 0, 0, ⟨.pos, .pos⟩⟩ 64 = .sepPos := by
  decide +kernel

/-- The hypotheses of `C08_negate_eer_partial_make`: `c08e_ex` is sorted. -/
example : c08e_ex.pos.Pairwise (· ≤ ·) ∧ c08e_ex.neg.Pairwise (· ≤ ·) := by decide +kernel

/-! ### the unconditional statement is false -/

/-- The clause of C08 for `eer()`: negated threshold, same value, for sorted arrays and an
oracle pair compatible with negation. -/
def C08_negate_eer_statement : Prop :=
  ∀ (u u' : Ulp) (s : Scores) (fuel : ℕ), c08n_NegCompat u u' →
    s.pos.Pairwise (· ≤ ·) → s.neg.Pairwise (· ≤ ·) →
    s.negate.eer u' fuel = (s.eer u fuel).map (fun (t, e) => (-t, e))

/-- The weaker clause: the EER value alone is unchanged. -/
def C08_negate_eer_value_statement : Prop :=
  ∀ (u u' : Ulp) (s : Scores) (fuel : ℕ), c08n_NegCompat u u' →
    s.pos.Pairwise (· ≤ ·) → s.neg.Pairwise (· ≤ ·) →
    (s.negate.eer u' fuel).map Prod.snd = (s.eer u fuel).map Prod.snd

/-- counterexample with a score shared by the two classes -/
def c08e_cexTies : Scores := ⟨[1], [1, 1], 0, 0, ⟨.pos, .pos⟩⟩

/-- `eer()` on `c08e_cexTies` (float64 `nextafter`, the driver's fuel): `(1, 1/4)`; on the
negated object: `(-1, 2^-35)`.  (The Python returns `(1.0, 0.25)` and `(-1.0, 2.9e-11)`.) -/
theorem c08e_cexTies_eer :
    c08e_cexTies.eer Ulp.float64 64 = .ok (1, 1 / 4) ∧
    c08e_cexTies.negate.eer Ulp.float64 64 = .ok (-1, 1 / 34359738368) := by decide +kernel

theorem c08e_cexTies_sorted :
    c08e_cexTies.pos.Pairwise (· ≤ ·) ∧ c08e_cexTies.neg.Pairwise (· ≤ ·) := by decide +kernel

/-- **`C08_negate_eer_value_statement` is false**: on `c08e_cexTies` with the float64
`nextafter`, the EER value is `1/4` before and `2^-35` after negation.  (On the flat stretch
`f = 0` of the original, `0 < x < 1/2`, the negated object's `threshold_at_fpr` is in its excluded
stretch `0 < x ≤ 1/2` and returns the sentinel one step away, so its objective is non-zero
there and its stretch of roots shrinks to a point.) -/
theorem C08_negate_eer_value_statement_false : ¬ C08_negate_eer_value_statement := by
  intro hst
  have h := hst Ulp.float64 Ulp.float64 c08e_cexTies 64 c08n_float64_compat
    c08e_cexTies_sorted.1 c08e_cexTies_sorted.2
  rw [c08e_cexTies_eer.1, c08e_cexTies_eer.2] at h
  simp only [Except.map, Except.ok.injEq] at h
  norm_num at h

/-- **`C08_negate_eer_statement` is false** (same counterexample). -/
theorem C08_negate_eer_statement_false : ¬ C08_negate_eer_statement := by
  intro hst
  apply C08_negate_eer_value_statement_false
  intro u u' s fuel hc hp hn
  rw [hst u u' s fuel hc hp hn]
  cases s.eer u fuel <;> rfl

/-- the hypothesis of `C08_negate_eer_partial` indeed fails on the counterexample -/
theorem c08e_cexTies_not_regular : c08e_regularRun Ulp.float64 c08e_cexTies 64 = false := by
  decide +kernel

/-- tie-free counterexample for the threshold: one positive, one negative, one easy negative -/
def c08e_cexStep : Scores := ⟨[1], [2], 0, 1, ⟨.pos, .pos⟩⟩

/-- **Without ties the threshold can still be off by one `nextafter` step.**  On `c08e_cexStep`
(float64, driver's fuel) both calls go through the cap at `hard_neg_ratio = 1/2` and return the
EER `1/2`; the thresholds are `1` and `-(1 + 2^-52) = -nextafter(1, +inf)` instead of `-1`.
(The Python returns `(1.0, 0.5)` and `(-1.0000000000000002, 0.5)`.) -/
theorem C08_negate_eer_threshold_tiefree_false :
    c08e_cexStep.eer Ulp.float64 64 = .ok (1, 1 / 2) ∧
    c08e_cexStep.negate.eer Ulp.float64 64 = .ok (-(1 + 1 / 4503599627370496), 1 / 2) ∧
    c08e_eerPath Ulp.float64 c08e_cexStep 64 = .capNeg ∧
    c08e_eerPath Ulp.float64 c08e_cexStep.negate 64 = .capNeg ∧
    c08e_finalRegular c08e_cexStep (c08e_eerPath Ulp.float64 c08e_cexStep 64) = false := by
  decide +kernel

/-- tie-free counterexample for the VALUE: one positive strictly between two negatives -/
def c08e_cexTieFree : Scores := ⟨[2], [1, 3], 0, 0, ⟨.pos, .pos⟩⟩

/-- no value is repeated within or across the classes of `s` -/
def c08e_tieFree (s : Scores) : Prop :=
  s.pos.Pairwise (· < ·) ∧ s.neg.Pairwise (· < ·) ∧ ∀ x ∈ s.pos, x ∉ s.neg

/-- The value clause restricted to tie-free objects. -/
def C08_negate_eer_value_tiefree_statement : Prop :=
  ∀ (u u' : Ulp) (s : Scores) (fuel : ℕ), c08n_NegCompat u u' → c08e_tieFree s →
    (s.negate.eer u' fuel).map Prod.snd = (s.eer u fuel).map Prod.snd

theorem c08e_cexTieFree_tieFree : c08e_tieFree c08e_cexTieFree := by
  unfold c08e_tieFree; decide +kernel

/-- `eer()` on `c08e_cexTieFree` (float64, driver's fuel): `(2, 1/4)`; on the negated object
`(-(2 + 2^-33), 1/4 - 2^-35)`.  (The Python returns `(2.0, 0.25)` and
`(-2.0000000001164153, 0.24999999997089617)`.)  The crossing `thr_fpr(x) = thr_fnr(x) = 2` of
the original is exact on `0 < x < 1/2` by interpolation, not by a tie. -/
theorem c08e_cexTieFree_eer :
    c08e_cexTieFree.eer Ulp.float64 64 = .ok (2, 1 / 4) ∧
    c08e_cexTieFree.negate.eer Ulp.float64 64 =
      .ok (-(2 + 1 / 8589934592), 1 / 4 - 1 / 34359738368) := by decide +kernel

/-- **Tie-freeness does not rescue the value clause**: on `c08e_cexTieFree` the EER value moves
by `2^-35` (the resolution of the bisection) and the threshold by `2^-33`, far more than one
`nextafter` step. -/
theorem C08_negate_eer_value_tiefree_statement_false :
    ¬ C08_negate_eer_value_tiefree_statement := by
  intro hst
  have h := hst Ulp.float64 Ulp.float64 c08e_cexTieFree 64 c08n_float64_compat
    c08e_cexTieFree_tieFree
  rw [c08e_cexTieFree_eer.1, c08e_cexTieFree_eer.2] at h
  simp only [Except.map, Except.ok.injEq] at h
  norm_num at h

end SA

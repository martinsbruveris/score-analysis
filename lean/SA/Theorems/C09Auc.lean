/-
C09 — AUC clause: the object declaring `k` easy positives and `m` easy negatives (`c09_easy`) and
the object in which they are materialised as `k` copies of `Mp` and `m` copies of `Mn`
(`c09_mat`) have the same full and partial AUC, when `Mp`, `Mn` lie STRICTLY beyond all scores
(with weak inequalities a tie between a scored sample and a materialised one would change the tie
term of the Mann–Whitney statistic).

1. Reference semantics (`mannWhitney`, `stepArea`).  2. The code-shaped model `Scores.auc`
via C07.
-/
import SA.Proofs.MwInvariance
import SA.Theorems.C07
import SA.Theorems.C09

namespace SA

/-- `Mp`, `Mn` lie strictly beyond all scores of both classes, each on its own class's side, and
on the correct side of each other (the last conjunct follows from the first whenever there is a
scored sample, see `c09_beyond_strict_of_mem`). -/
def c09_beyond_strict (sc : Label) (pos neg : List ℚ) (Mp Mn : ℚ) : Prop :=
  (∀ x ∈ pos ++ neg, match sc with
    | .pos => Mn < x ∧ x < Mp
    | .neg => Mp < x ∧ x < Mn) ∧
  match sc with
    | .pos => Mn < Mp
    | .neg => Mp < Mn

theorem c09_beyond_of_strict (sc : Label) (pos neg : List ℚ) (Mp Mn : ℚ)
    (h : c09_beyond_strict sc pos neg Mp Mn) : c09_beyond sc pos neg Mp Mn := by
  intro x hx
  have := h.1 x hx
  cases sc
  · exact ⟨le_of_lt this.1, le_of_lt this.2⟩
  · exact ⟨le_of_lt this.1, le_of_lt this.2⟩

/-- with at least one scored sample the mutual order of `Mp`, `Mn` is implied -/
theorem c09_beyond_strict_of_mem (sc : Label) (pos neg : List ℚ) (Mp Mn : ℚ)
    (hne : pos ++ neg ≠ [])
    (h : ∀ x ∈ pos ++ neg, match sc with
      | .pos => Mn < x ∧ x < Mp
      | .neg => Mp < x ∧ x < Mn) : c09_beyond_strict sc pos neg Mp Mn := by
  refine ⟨h, ?_⟩
  obtain ⟨x, hx⟩ := List.exists_mem_of_ne_nil _ hne
  have := h x hx
  cases sc
  · exact lt_trans this.1 this.2
  · exact lt_trans this.1 this.2

/-- what strict beyond-ness means for the comparisons of the reference semantics -/
theorem mwi_beyond_ranks (sc : Label) (pos neg : List ℚ) (Mp Mn : ℚ)
    (h : c09_beyond_strict sc pos neg Mp Mn) :
    (∀ x ∈ pos ++ neg, ranksAbove sc Mp x = true ∧ ranksAbove sc x Mn = true ∧
      x ≠ Mp ∧ x ≠ Mn) ∧ ranksAbove sc Mp Mn = true ∧ Mp ≠ Mn := by
  obtain ⟨h1, h2⟩ := h
  cases sc
  · refine ⟨fun x hx => ?_, ?_, ?_⟩
    · have := h1 x hx
      simp only [ranksAbove, decide_eq_true_eq]
      exact ⟨this.2, this.1, ne_of_lt this.2, ne_of_gt this.1⟩
    · simp only [ranksAbove, decide_eq_true_eq]; exact h2
    · exact ne_of_gt h2
  · refine ⟨fun x hx => ?_, ?_, ?_⟩
    · have := h1 x hx
      simp only [ranksAbove, decide_eq_true_eq]
      exact ⟨this.1, this.2, ne_of_gt this.1, ne_of_lt this.2⟩
    · simp only [ranksAbove, decide_eq_true_eq]; exact h2
    · exact ne_of_lt h2

/-! ## 1. Reference semantics -/

/-- Under strict beyond-ness the Mann–Whitney statistic of the materialised object is
that of the easy-sample object: a materialised positive beats every negative (scored or
materialised), a materialised negative loses to every positive — exactly the `easyWins` term —
and no new ties arise.  Any lists (unsorted, ties among the scored samples), all four
configurations. -/
theorem mwi_mw_easy (pos neg : List ℚ) (k m : ℕ) (cfg : Cfg) (Mp Mn : ℚ)
    (hB : c09_beyond_strict cfg.scoreClass pos neg Mp Mn) :
    mannWhitney (c09_mat pos neg k m cfg Mp Mn) = mannWhitney (c09_easy pos neg k m cfg) := by
  obtain ⟨hx, hMM, hne⟩ := mwi_beyond_ranks _ _ _ _ _ hB
  unfold c09_mat c09_easy
  rw [mannWhitney_make, mannWhitney_make, mannWhitney_eq, mannWhitney_eq, mwValue, mwValue]
  have hw : mwWins ⟨pos ++ List.replicate k Mp, neg ++ List.replicate m Mn, 0, 0, cfg⟩ =
      mwWins ⟨pos, neg, k, m, cfg⟩ + pos.length * m + k * (neg.length + m) :=
    mwi_pairs_append_true (fun p q => ranksAbove cfg.scoreClass p q) pos neg k m Mp Mn
      (fun p hp => (hx p (List.mem_append_left _ hp)).2.1)
      (fun q hq => (hx q (List.mem_append_right _ hq)).1) hMM
  have ht : mwTies ⟨pos ++ List.replicate k Mp, neg ++ List.replicate m Mn, 0, 0, cfg⟩ =
      mwTies ⟨pos, neg, k, m, cfg⟩ :=
    mwi_pairs_append_false (fun p q => decide (p = q)) pos neg k m Mp Mn
      (fun p hp => decide_eq_false (hx p (List.mem_append_left _ hp)).2.2.2)
      (fun q hq => decide_eq_false (fun e => (hx q (List.mem_append_right _ hq)).2.2.1 e.symm))
      (decide_eq_false hne)
  rw [hw, ht]
  simp only [List.length_append, List.length_replicate, Nat.add_zero, Nat.zero_mul, Nat.mul_zero]
  have e : mwWins ⟨pos, neg, k, m, cfg⟩ + pos.length * m + k * (neg.length + m) =
      mwWins ⟨pos, neg, k, m, cfg⟩ + (k * (neg.length + m) + pos.length * m) := by ring
  rw [e]

/-- the rank order of the negatives of the materialised object: the scored negatives in rank
order, then the materialised easy negatives -/
theorem mwi_negsByRank_mat (pos neg : List ℚ) (k m : ℕ) (cfg : Cfg) (Mp Mn : ℚ)
    (hB : c09_beyond_strict cfg.scoreClass pos neg Mp Mn) :
    negsByRank (c09_mat pos neg k m cfg Mp Mn) =
      negsByRank (c09_easy pos neg k m cfg) ++ List.replicate m Mn := by
  have hw := c09_beyond_of_strict _ _ _ _ _ hB
  unfold negsByRank
  simp only [c09_mat, c09_easy, Scores.make, Bool.false_eq_true, if_false,
    sortQ_eq_self _ (sortQ_pairwise _)]
  obtain ⟨sc, ec⟩ := cfg
  cases sc
  · -- score_class = pos: Mn is the smallest negative
    have hs : sortQ (neg ++ List.replicate m Mn) = List.replicate m Mn ++ sortQ neg ++ [] := by
      apply c09_sort_block _ _ neg _
      · rw [List.append_nil]; exact List.perm_append_comm
      · rw [List.pairwise_replicate]; right; exact le_refl _
      · exact List.Pairwise.nil
      · intro a ha b hb
        rw [List.eq_of_mem_replicate ha]
        exact (hw b (List.mem_append_right _ hb)).1
      · intro a _ b hb; exact absurd hb List.not_mem_nil
      · intro a _ b hb; exact absurd hb List.not_mem_nil
    simp only [hs, List.append_nil, List.reverse_append, List.reverse_replicate]
  · -- score_class = neg: Mn is the largest negative
    have hs : sortQ (neg ++ List.replicate m Mn) = [] ++ sortQ neg ++ List.replicate m Mn := by
      apply c09_sort_block _ _ neg _
      · rw [List.nil_append]
      · exact List.Pairwise.nil
      · rw [List.pairwise_replicate]; right; exact le_refl _
      · intro a ha; exact absurd ha List.not_mem_nil
      · intro a ha b hb
        rw [List.eq_of_mem_replicate hb]
        exact (hw a (List.mem_append_right _ ha)).2
      · intro a ha; exact absurd ha List.not_mem_nil
    simp only [hs, List.nil_append]

/-- Under strict beyond-ness the step area over any window `lower ≤ upper` of the
materialised object is that of the easy-sample object: the levels over the scored negatives are
unchanged (the materialised positives rank above every scored negative, as the easy positives
do), and the materialised negatives occupy the final stretch at level 1.  Holds for any lists,
with or without cross-class ties among the scored samples. -/
theorem mwi_step_easy (pos neg : List ℚ) (k m : ℕ) (cfg : Cfg) (Mp Mn : ℚ)
    (hB : c09_beyond_strict cfg.scoreClass pos neg Mp Mn)
    (lower upper : ℚ) (hlu : lower ≤ upper) :
    stepArea (c09_mat pos neg k m cfg Mp Mn) lower upper =
      stepArea (c09_easy pos neg k m cfg) lower upper := by
  obtain ⟨hx, hMM, _⟩ := mwi_beyond_ranks _ _ _ _ _ hB
  apply mwi_step_materialise (c09_easy pos neg k m cfg) (c09_mat pos neg k m cfg Mp Mn)
    lower upper hlu Mn
  · simp only [c09_mat, Scores.make, Bool.false_eq_true, if_false]
  · simp only [c09_mat, Scores.make, Bool.false_eq_true, if_false]
  · simp only [c09_mat, c09_easy, Scores.make, Bool.false_eq_true, if_false, length_sortQ,
      List.length_append, List.length_replicate]
  · simp only [c09_mat, c09_easy, Scores.make, Bool.false_eq_true, if_false, length_sortQ,
      List.length_append, List.length_replicate]
  · have := mwi_negsByRank_mat pos neg k m cfg Mp Mn hB
    simpa only [c09_easy, Scores.make, Bool.false_eq_true, if_false] using this
  · intro q hq
    have hq' : q ∈ neg := by
      have := (negsByRank_perm (c09_easy pos neg k m cfg)).mem_iff.mp hq
      simp only [c09_easy, Scores.make, Bool.false_eq_true, if_false] at this
      exact (sortQ_perm neg).mem_iff.mp this
    unfold winsOver
    simp only [c09_mat, c09_easy, Scores.make, Bool.false_eq_true, if_false, countP_sortQ,
      List.countP_append, List.countP_replicate, (hx q (List.mem_append_right _ hq')).1, if_true]
    omega
  · intro _
    unfold winsOver
    rw [List.countP_eq_length]
    intro p hp
    simp only [c09_mat, Scores.make, Bool.false_eq_true, if_false] at hp ⊢
    have hp' := (sortQ_perm _).mem_iff.mp hp
    rw [List.mem_append] at hp'
    rcases hp' with h | h
    · exact (hx p (List.mem_append_left _ h)).2.1
    · rw [List.eq_of_mem_replicate h]; exact hMM

/-! ## 2. The code-shaped model -/

theorem mwi_noCrossTies_make (pos neg : List ℚ) (ep en : ℕ) (cfg : Cfg) :
    noCrossTies (Scores.make pos neg ep en cfg false) = true ↔ ∀ p ∈ pos, p ∉ neg := by
  rw [noCrossTies_iff]
  show (∀ p ∈ sortQ pos, p ∉ sortQ neg) ↔ _
  constructor
  · intro h p hp hq
    exact h p ((sortQ_perm pos).mem_iff.mpr hp) ((sortQ_perm neg).mem_iff.mpr hq)
  · intro h p hp hq
    exact h p ((sortQ_perm pos).mem_iff.mp hp) ((sortQ_perm neg).mem_iff.mp hq)

/-- no cross-class ties among the scored samples + strict beyond-ness: no cross-class ties in
the materialised object -/
theorem mwi_noCrossTies_mat (pos neg : List ℚ) (k m : ℕ) (cfg : Cfg) (Mp Mn : ℚ)
    (hB : c09_beyond_strict cfg.scoreClass pos neg Mp Mn)
    (hnt : noCrossTies (c09_easy pos neg k m cfg) = true) :
    noCrossTies (c09_mat pos neg k m cfg Mp Mn) = true := by
  obtain ⟨hx, _, hne⟩ := mwi_beyond_ranks _ _ _ _ _ hB
  unfold c09_easy at hnt
  unfold c09_mat
  rw [mwi_noCrossTies_make] at hnt ⊢
  intro p hp hq
  rw [List.mem_append] at hp hq
  rcases hp with hp | hp <;> rcases hq with hq | hq
  · exact hnt p hp hq
  · exact (hx p (List.mem_append_left _ hp)).2.2.2 (List.eq_of_mem_replicate hq)
  · rw [List.eq_of_mem_replicate hp] at hq
    exact (hx Mp (List.mem_append_right _ hq)).2.2.1 rfl
  · rw [List.eq_of_mem_replicate hp] at hq
    exact hne (List.eq_of_mem_replicate hq)

/-- the oracle hypothesis on the materialised data implies the one on the scored data -/
theorem mwi_neighbour_sub (u : Ulp) (pos neg : List ℚ) (k m : ℕ) (Mp Mn : ℚ)
    (hadj : u.NeighbourOn ((pos ++ List.replicate k Mp) ++ (neg ++ List.replicate m Mn))) :
    u.NeighbourOn (pos ++ neg) := by
  apply hadj.mono
  intro x hx
  simp only [List.mem_append] at hx ⊢
  exact hx.imp Or.inl Or.inl

/-- **Full AUC.** For a lawful `nextafter` oracle that is neighbourly on the materialised
data (hence on the scored data), at least one scored negative and strictly-beyond materialised
values, the full AUC of the code-shaped model is the same for the materialised and the
easy-sample object (any unsorted lists, ties, all four configurations). -/
theorem C09_auc_full (u : Ulp) (hu : u.Lawful) (pos neg : List ℚ) (k m : ℕ) (cfg : Cfg)
    (Mp Mn : ℚ) (hB : c09_beyond_strict cfg.scoreClass pos neg Mp Mn) (hneg : neg ≠ [])
    (hadj : u.NeighbourOn ((pos ++ List.replicate k Mp) ++ (neg ++ List.replicate m Mn))) :
    (c09_mat pos neg k m cfg Mp Mn).auc u 0 1 .fpr .tpr =
      (c09_easy pos neg k m cfg).auc u 0 1 .fpr .tpr := by
  have hneg' : neg ++ List.replicate m Mn ≠ [] := by
    intro h; exact hneg (List.append_eq_nil_iff.mp h).1
  have h1 : (c09_mat pos neg k m cfg Mp Mn).auc u 0 1 .fpr .tpr =
      mannWhitney (c09_mat pos neg k m cfg Mp Mn) :=
    C07_code_eq_mw_make u hu _ _ 0 0 cfg hneg' hadj
  have h2 : (c09_easy pos neg k m cfg).auc u 0 1 .fpr .tpr =
      mannWhitney (c09_easy pos neg k m cfg) :=
    C07_code_eq_mw_make u hu pos neg k m cfg hneg (mwi_neighbour_sub u pos neg k m Mp Mn hadj)
  rw [h1, h2, mwi_mw_easy pos neg k m cfg Mp Mn hB]

/-- **Partial AUC.** If moreover no value is shared between the scored positives and the
scored negatives, the partial AUC over every window `[lower, upper] ⊆ [0, 1]` is the same. -/
theorem C09_auc_partial (u : Ulp) (hu : u.Lawful) (pos neg : List ℚ) (k m : ℕ) (cfg : Cfg)
    (Mp Mn : ℚ) (hB : c09_beyond_strict cfg.scoreClass pos neg Mp Mn) (hneg : neg ≠ [])
    (hadj : u.NeighbourOn ((pos ++ List.replicate k Mp) ++ (neg ++ List.replicate m Mn)))
    (hnt : noCrossTies (c09_easy pos neg k m cfg) = true)
    (lower upper : ℚ) (h0 : 0 ≤ lower) (hlu : lower ≤ upper) (h1 : upper ≤ 1) :
    (c09_mat pos neg k m cfg Mp Mn).auc u lower upper .fpr .tpr =
      (c09_easy pos neg k m cfg).auc u lower upper .fpr .tpr := by
  have hneg' : neg ++ List.replicate m Mn ≠ [] := by
    intro h; exact hneg (List.append_eq_nil_iff.mp h).1
  have e1 : (c09_mat pos neg k m cfg Mp Mn).auc u lower upper .fpr .tpr =
      stepArea (c09_mat pos neg k m cfg Mp Mn) lower upper :=
    C07_partial_eq_step_make u hu _ _ 0 0 cfg hneg' hadj
      (mwi_noCrossTies_mat pos neg k m cfg Mp Mn hB hnt) lower upper h0 hlu h1
  have e2 : (c09_easy pos neg k m cfg).auc u lower upper .fpr .tpr =
      stepArea (c09_easy pos neg k m cfg) lower upper :=
    C07_partial_eq_step_make u hu pos neg k m cfg hneg (mwi_neighbour_sub u pos neg k m Mp Mn hadj)
      hnt lower upper h0 hlu h1
  rw [e1, e2, mwi_step_easy pos neg k m cfg Mp Mn hB lower upper hlu]

/-! ### non-vacuity -/

theorem mwi_ex_beyond : c09_beyond_strict Label.pos [1, 3, 5] [2, 4] 10 (-10) := by
  refine ⟨?_, by norm_num⟩
  intro x hx
  simp only [List.cons_append, List.nil_append, List.mem_cons, List.not_mem_nil, or_false] at hx
  rcases hx with rfl | rfl | rfl | rfl | rfl <;> norm_num

/-- Hypotheses of `mwi_mw_easy`, `mwi_step_easy`, `C09_auc_full`, `C09_auc_partial` are
satisfiable (half-step oracle, integer data, `Mp = 10`, `Mn = -10`, two easy positives, one easy
negative). -/
example : Ulp.half.Lawful ∧
    c09_beyond_strict (Cfg.mk .pos .neg).scoreClass [1, 3, 5] [2, 4] 10 (-10) ∧
    ([2, 4] : List ℚ) ≠ [] ∧
    Ulp.half.NeighbourOn (([1, 3, 5] ++ List.replicate 2 10) ++
        ([2, 4] ++ List.replicate 1 (-10))) ∧
    noCrossTies (c09_easy [1, 3, 5] [2, 4] 2 1 ⟨.pos, .neg⟩) = true ∧
    (0 : ℚ) ≤ 1 / 4 ∧ (1 / 4 : ℚ) ≤ 1 / 2 ∧ (1 / 2 : ℚ) ≤ 1 := by
  exact ⟨Ulp.half_lawful, mwi_ex_beyond, by simp,
    (half_adjacentOn _ (by decide +kernel)).neighbour Ulp.half_lawful,
    (mwi_noCrossTies_make [1, 3, 5] [2, 4] 2 1 ⟨.pos, .neg⟩).mpr (by decide),
    by norm_num, by norm_num, by norm_num⟩

end SA

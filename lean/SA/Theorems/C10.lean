/-
C10 — queries are vectorised elementwise, shape-preserving and side-effect free.

The model is a pure functional program: `step` returns the state it was given
and the vectorised queries are `List.map` of the scalar ones.  Every theorem below is
therefore true *by construction of the model* — the proofs are inductions over the history
and `List.getElem_map`.  They say that the model has the C10 shape, so that the scalar
theorems of C01–C04 transfer to every element of every array call at every point of every
history.  They do NOT establish the runtime claims of C10: NumPy aliasing, in-place writes
(`tp += …`, `threshold[mask] = …`, `scores[0] = …`), dtype and scalar-vs-0-d-array behaviour
cannot even be exhibited in a pure model over lists of rationals.  The no-mutation clause is the
subject of `SA/Theorems/C10Effects.lean` (an effect checker over the regenerated bodies, sound for
a heap semantics); in addition harness/props/c10.py compares byte-for-byte snapshots of the object
and of every caller-supplied array around every call of sampled histories.  Dtype and
scalar-vs-0-d-array behaviour are decided on the implementation only ("statements_only" in
obligations.json).
-/
import SA.Spec.C10
import SA.Proofs.ListGetD

namespace SA
open Spec.C10

/-! ### purity -/

theorem step_state (u : Ulp) (st : QState) (q : Query) : (step u st q).1 = st := by
  cases q <;> rfl

/-- **C10 (pure).** For every history — any sequence of queries of any length on any object —
the state after the history is the state before it. -/
theorem C10_pure (u : Ulp) (st : QState) (qs : List Query) : (runHistory u st qs).1 = st := by
  induction qs generalizing st with
  | nil => rfl
  | cons q qs ih =>
    show (runHistory u (step u st q).1 qs).1 = st
    rw [ih, step_state]

/-- … and so is the state after every prefix of the history. -/
theorem C10_pure_prefix (u : Ulp) (st : QState) (qs : List Query) (k : Nat) :
    (runHistory u st (qs.take k)).1 = st := C10_pure u st _

/-- The outputs of a history are the outputs of its queries put one by one to the initial
object: nothing an earlier call did is visible to a later one. -/
theorem runHistory_outs (u : Ulp) (st : QState) (qs : List Query) :
    (runHistory u st qs).2 = qs.map fun q => (step u st q).2 := by
  induction qs generalizing st with
  | nil => rfl
  | cons q qs ih =>
    show (step u st q).2 :: (runHistory u (step u st q).1 qs).2 = _
    rw [step_state, ih, List.map_cons]

theorem runHistory_length (u : Ulp) (st : QState) (qs : List Query) :
    (runHistory u st qs).2.length = qs.length := by
  rw [runHistory_outs, List.length_map]

/-- aliases are resolved before the object is consulted -/
theorem step_norm (u : Ulp) (st : QState) (q : Query) :
    (step u st q.norm).2 = (step u st q).2 := by
  cases q with
  | cm t => rfl
  | rate n t => cases n <;> rfl
  | thresholdAt n r m => cases n <;> rfl
  | swap => rfl

theorem step_congr_norm (u : Ulp) (st : QState) (q q' : Query) (h : q.norm = q'.norm) :
    (step u st q).2 = (step u st q').2 := by
  rw [← step_norm u st q, ← step_norm u st q', h]

/-- **C10 (output depends on the query only).** The output at position `i` of any history on
an object is the output of asking `qs[i]` of the fresh object. -/
theorem C10_output_at (u : Ulp) (st : QState) (qs : List Query) (i : Nat) (hi : i < qs.length) :
    (runHistory u st qs).2[i]'(by rw [runHistory_length]; exact hi) = (step u st qs[i]).2 := by
  simp only [runHistory_outs, List.getElem_map]

/-- Two calls that ask the same question (same query, or the same query through an alias name) of
the same object return the same output, wherever they occur in whichever histories. -/
theorem C10_repeat_across (u : Ulp) (st : QState) (qs qs' : List Query) (i j : Nat)
    (hi : i < qs.length) (hj : j < qs'.length) (h : qs[i].norm = qs'[j].norm) :
    (runHistory u st qs).2[i]'(by rw [runHistory_length]; exact hi)
      = (runHistory u st qs').2[j]'(by rw [runHistory_length]; exact hj) := by
  rw [C10_output_at u st qs i hi, C10_output_at u st qs' j hj]
  exact step_congr_norm u st _ _ h

/-- **C10 (repeat).** In any history, two calls that ask the same question (same query, or
the same query through an alias name) return the same output, wherever they occur. -/
theorem C10_repeat (u : Ulp) (st : QState) (qs : List Query) (i j : Nat)
    (hi : i < qs.length) (hj : j < qs.length) (h : qs[i].norm = qs[j].norm) :
    (runHistory u st qs).2[i]'(by rw [runHistory_length]; exact hi)
      = (runHistory u st qs).2[j]'(by rw [runHistory_length]; exact hj) :=
  C10_repeat_across u st qs qs i j hi hj h

/-- hypotheses of `C10_repeat` are satisfiable (an alias and its metric at two positions) -/
example : ∃ (qs : List Query) (i j : Nat) (hi : i < qs.length) (hj : j < qs.length),
    i ≠ j ∧ qs[i].norm = qs[j].norm :=
  ⟨[.rate .far (.fin 0), .swap, .rate .fpr (.fin 0)], 0, 2, by decide, by decide, by decide, rfl⟩

/-! ### shapes and elementwise -/

theorem numel_append (a b : List Nat) : numel (a ++ b) = numel a * numel b := by
  induction a with
  | nil => simp [numel]
  | cons d ds ih => simp [numel, ih, Nat.mul_assoc]

/-- **C10 (elementwise, cm).** For a threshold array of shape `X`: the array of matrices has
shape `X`, as many entries as thresholds, and entry `i` is the scalar call on threshold `i`. -/
theorem C10_elementwise_cm (s : Scores) (ts : Arr ERat) :
    (s.cmV ts).shape = ts.shape ∧ (s.cmV ts).data.length = ts.data.length ∧
    ∀ (i : Nat) (h : i < ts.data.length),
      (s.cmV ts).data[i]'(by simpa [Scores.cmV, Arr.map] using h) = s.cm ts.data[i] := by
  refine ⟨rfl, by simp [Scores.cmV, Arr.map], ?_⟩
  intro i h
  simp [Scores.cmV, Arr.map]

/-- **C10 (shape, cm).** The integer array has shape `X ++ [2, 2]`; it is well-formed when
the threshold array is; and cell `k` of block `i` is cell `k` of the scalar matrix at
threshold `i` (row-major, the `(2, 2)` axes last). -/
theorem C10_shape_cm (s : Scores) (ts : Arr ERat) :
    (s.cmMatrix ts).shape = ts.shape ++ [2, 2] ∧
    (ts.WF → (s.cmMatrix ts).WF) ∧
    ∀ (i k : Nat), k < 4 →
      (s.cmMatrix ts).data[4 * i + k]? = (ts.data[i]?).bind fun t => (s.cm t).cells[k]? := by
  refine ⟨rfl, ?_, ?_⟩
  · intro h
    unfold Arr.WF at *
    simp only [Scores.cmMatrix, Scores.cmV, Arr.map, numel_append]
    rw [List.length_flatMap_const CM.cells 4 _ (fun _ _ => rfl), List.length_map, ← h]
    simp [numel]
  · intro i k hk
    simp only [Scores.cmMatrix, Scores.cmV, Arr.map]
    rw [List.getElem?_flatMap_const CM.cells 4 _ (fun _ _ => rfl) i k hk, List.getElem?_map]
    cases ts.data[i]? <;> rfl

/-- **C10 (elementwise, rates and aliases).** Shape `X`, same length, entry `i` = scalar call. -/
theorem C10_elementwise_rate (s : Scores) (n : RateName) (ts : Arr ERat) :
    (s.rateV n ts).shape = ts.shape ∧ (s.rateV n ts).data.length = ts.data.length ∧
    ∀ (i : Nat) (h : i < ts.data.length),
      (s.rateV n ts).data[i]'(by simpa [Scores.rateV, Arr.map] using h)
        = s.rateByName n ts.data[i] := by
  refine ⟨rfl, by simp [Scores.rateV, Arr.map], ?_⟩
  intro i h
  simp [Scores.rateV, Arr.map]

/-- **C10 (elementwise, thresholds).** If the array call returns, the result has shape `X`,
as many entries as targets, and entry `i` is what the scalar call returns on target `i`. -/
theorem C10_elementwise_threshold (u : Ulp) (s : Scores) (n : RateName) (m : Method)
    (rs a : Arr Rat) (h : s.thresholdAtV u n m rs = .ok a) :
    a.shape = rs.shape ∧ ∃ hl : a.data.length = rs.data.length,
    ∀ (i : Nat) (hi : i < rs.data.length),
      s.thresholdAtByName u n rs.data[i] m = .ok (a.data[i]'(by rw [hl]; exact hi)) := by
  unfold Scores.thresholdAtV at h
  split at h
  · cases h
  · rename_i h0
    cases h
    refine ⟨rfl, by simp [Arr.map], fun i hi => ?_⟩
    simp [Scores.thresholdAtByName, Scores.thresholdAt, h0, Arr.map]

/-- The array call raises exactly when the scalar call raises, with the same error, whatever
the targets are (also for an empty target array: the check does not look at the targets). -/
theorem C10_threshold_error (u : Ulp) (s : Scores) (n : RateName) (m : Method) (rs : Arr Rat)
    (r : Rat) (e : Err) :
    s.thresholdAtV u n m rs = .error e ↔ s.thresholdAtByName u n r m = .error e := by
  unfold Scores.thresholdAtV Scores.thresholdAtByName Scores.thresholdAt
  by_cases h0 : (s.metricArray n.metric).length = 0 <;> simp [h0]

/-- hypothesis of `C10_elementwise_threshold` is satisfiable -/
example : ∃ a, (Scores.make [1, 2] [0] 0 0 ⟨.pos, .pos⟩ true).thresholdAtV Ulp.float64 .frr
    .lower ⟨[2, 0], []⟩ = .ok a := ⟨_, rfl⟩

/-- **C10 (pointwise shape).** `pointwise_cm` on samples of shape `A` and thresholds of shape
`X` has shape `A ++ X ++ [2, 2]`, and the number of entries is consistent with that shape
(in particular `0` as soon as any axis has size 0). -/
theorem C10_pointwise_shape (cfg : Cfg) (samples : Arr (Bool × Rat)) (ts : Arr ERat) :
    (pointwiseV cfg samples ts).shape = samples.shape ++ ts.shape ++ [2, 2] ∧
    (samples.WF → ts.WF → (pointwiseV cfg samples ts).WF) := by
  refine ⟨rfl, ?_⟩
  intro hs ht
  unfold Arr.WF at *
  simp only [pointwiseV, numel_append]
  rw [List.length_flatMap_const _ (ts.data.length * 4) _
    (fun smp _ => List.length_flatMap_const _ 4 ts.data (fun _ _ => rfl)), ← hs, ← ht]
  simp [numel, Nat.mul_assoc]

/-- entry `(i, j, k)` of the pointwise array is cell `k` of sample `i` at threshold `j` -/
theorem C10_pointwise_elementwise (cfg : Cfg) (samples : Arr (Bool × Rat)) (ts : Arr ERat)
    (i j k : Nat) (hj : j < ts.data.length) (hk : k < 4) :
    (pointwiseV cfg samples ts).data[(ts.data.length * 4) * i + (4 * j + k)]? =
      (samples.data[i]?).bind fun smp => (ts.data[j]?).bind fun t =>
        (pointwiseCell cfg smp.1 smp.2 t).cells[k]? := by
  simp only [pointwiseV]
  rw [List.getElem?_flatMap_const _ (ts.data.length * 4) _
    (fun smp _ => List.length_flatMap_const _ 4 ts.data (fun _ _ => rfl)) i (4 * j + k)
    (Nat.lt_of_lt_of_le (Nat.add_lt_add_left hk _) (Nat.mul_comm 4 _ ▸ Nat.mul_le_mul_left 4 hj))]
  cases samples.data[i]? with
  | none => rfl
  | some smp =>
    simp only [Option.bind_some]
    rw [List.getElem?_flatMap_const _ 4 _ (fun _ _ => rfl) j k hk]

/-- well-formedness hypotheses are satisfiable, including size-0 axes -/
example : (⟨[2, 0], []⟩ : Arr ERat).WF ∧ (⟨[], [.fin 0]⟩ : Arr ERat).WF ∧
    (⟨[2, 1, 2], [.fin 0, .posInf, .negInf, .fin 1]⟩ : Arr ERat).WF := ⟨rfl, rfl, rfl⟩

/-! ### aliases -/

/-- **C10 (alias).** The alias table: for every object, threshold, target, method and array,
`tar`, `frr`, `trr`, `far`, `acceptance_rate`, `rejection_rate` (and the corresponding
`threshold_at_*`) denote `tpr`, `fnr`, `tnr`, `fpr`, `topr`, `tonr`. -/
theorem C10_alias (u : Ulp) (s : Scores) :
    (∀ t, s.rateByName .tar t = s.rateByName .tpr t ∧ s.rateByName .frr t = s.rateByName .fnr t ∧
      s.rateByName .trr t = s.rateByName .tnr t ∧ s.rateByName .far t = s.rateByName .fpr t ∧
      s.rateByName .acceptanceRate t = s.rateByName .topr t ∧
      s.rateByName .rejectionRate t = s.rateByName .tonr t) ∧
    (∀ r m, s.thresholdAtByName u .tar r m = s.thresholdAtByName u .tpr r m ∧
      s.thresholdAtByName u .frr r m = s.thresholdAtByName u .fnr r m ∧
      s.thresholdAtByName u .trr r m = s.thresholdAtByName u .tnr r m ∧
      s.thresholdAtByName u .far r m = s.thresholdAtByName u .fpr r m ∧
      s.thresholdAtByName u .acceptanceRate r m = s.thresholdAtByName u .topr r m ∧
      s.thresholdAtByName u .rejectionRate r m = s.thresholdAtByName u .tonr r m) ∧
    (∀ (n : RateName) ts, s.rateV n ts = s.rateV n.base ts) ∧
    (∀ (n : RateName) m rs, s.thresholdAtV u n m rs = s.thresholdAtV u n.base m rs) :=
  ⟨fun _ => ⟨rfl, rfl, rfl, rfl, rfl, rfl⟩, fun _ _ => ⟨rfl, rfl, rfl, rfl, rfl, rfl⟩,
   fun n _ => by cases n <;> rfl, fun n _ _ => by cases n <;> rfl⟩

/-- every name's defining metric is the documented one -/
theorem C10_alias_table :
    RateName.tar.metric = .tpr ∧ RateName.frr.metric = .fnr ∧ RateName.trr.metric = .tnr ∧
    RateName.far.metric = .fpr ∧ RateName.acceptanceRate.metric = .topr ∧
    RateName.rejectionRate.metric = .tonr := ⟨rfl, rfl, rfl, rfl, rfl, rfl⟩

/-! ### the model's outputs satisfy the executable predicates -/

theorem mem_zip_map {α β : Type} (g : α → β) (l : List α) (a : α × β)
    (h : a ∈ l.zip (l.map g)) : a.2 = g a.1 := by
  induction l with
  | nil => simp at h
  | cons x l ih =>
    simp only [List.map_cons, List.zip_cons_cons, List.mem_cons] at h
    rcases h with h | h
    · subst h; rfl
    · exact ih h

/-- **C10 (spec, repeat).** Whatever is recorded of the outputs (`f`), the model's history
satisfies the repeat/alias predicate that the driver evaluates on the implementation's
observations. -/
theorem C10_spec_repeat {β : Type} [DecidableEq β] (u : Ulp) (st : QState) (qs : List Query)
    (f : Out → β) :
    repeatOK qs ((runHistory u st qs).2.map f) = true ∧
    lengthOK qs ((runHistory u st qs).2.map f) = true := by
  refine ⟨?_, by simp [lengthOK, runHistory_length]⟩
  rw [runHistory_outs, List.map_map]
  simp only [repeatOK, repeatFlags, List.all_map, List.all_eq_true, Function.comp, id]
  intro a ha b hb
  rw [sameAnswer, mem_zip_map _ qs a ha, mem_zip_map _ qs b hb]
  by_cases hn : a.1.norm = b.1.norm
  · simp [hn, step_congr_norm u st _ _ hn]
  · simp [hn]

/-- **C10 (spec, shapes).** The model's vectorised results satisfy the shape predicates. -/
theorem C10_spec_shape (u : Ulp) (cfg : Cfg) (s : Scores) (n : RateName) (m : Method)
    (ts : Arr ERat) (rs a : Arr Rat) (samples : Arr (Bool × Rat))
    (h : s.thresholdAtV u n m rs = .ok a) :
    matrixShapeOK ts.shape (s.cmMatrix ts).shape = true ∧
    sameShapeOK ts.shape (s.rateV n ts).shape = true ∧
    sameShapeOK rs.shape a.shape = true ∧
    pointwiseShapeOK samples.shape ts.shape (pointwiseV cfg samples ts).shape = true := by
  have h3 := (C10_elementwise_threshold u s n m rs a h).1
  simp [matrixShapeOK, sameShapeOK, pointwiseShapeOK, Scores.cmMatrix, Scores.rateV, Arr.map,
    pointwiseV, h3]

end SA

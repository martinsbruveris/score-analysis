/-
C10 — soundness of the effect checker (`SA/Model/Effects.lean`) for the heap semantics of the effect IR.

The bodies the theorems are applied to are regenerated from the Python source on every `./check C10` run
by `harness/effects.py`, with a certificate (one abstract environment per body, one table of callee
summaries); the generated file states `analysis table bodies = ⟨true, violators, ids⟩` about them.  Proved
here for ALL bodies, certificates, tables, oracles (= resolutions of the nondeterminism: branch taken,
iteration counts, provenance of a may-alias set, bytes written, cell behind an `unknown`) and heaps:
an accepted statement keeps the invariant `Good` (`exec_sound`); an accepted body leaves every cell
allocated at entry and `self`'s field table unchanged (`C10_effects_no_mutation`); a body accepted against
a write set `W` does what `stepCall` performs for the summary `⟨W, false, rets⟩`, calls being executed by
summary (`summary_conformance`); the generated statement gives the hypotheses of these for the covered
bodies and for every summary without an effect on `self` (`analysis_sound`, `tableChecked_sound`).

Trusted, not proved: the translator (Python `ast` → IR, the NumPy classification table in the header of
`harness/effects.py`), the reading of the IR semantics as a model of CPython + NumPy memory, and the
`writes` / `ret` of a summary with an effect on `self` (`tableChecked` does not compare those with a
body).  NOT trusted: the environments and the other summaries — a wrong one fails `closed` / `tableChecked`.
-/
import SA.Model.Effects
import Mathlib.Tactic.Ring

namespace SA.Effects

/-! ### small facts: lists, association lists, the heap update -/

theorem mem_dedup {r : Root} : ∀ {l : List Root}, r ∈ dedup l ↔ r ∈ l
  | [] => Iff.rfl
  | a :: t => by
    have ih := @mem_dedup r t
    simp only [dedup]
    split_ifs with h
    · rw [List.mem_cons]
      exact ⟨fun h1 => Or.inr (ih.1 h1), fun h1 => h1.elim (fun e => e ▸ h) ih.2⟩
    · rw [List.mem_cons, List.mem_cons, ih]

theorem Root.beq_eq {a b : Root} (h : Root.beq a b = true) : a = b := by
  -- different constructors: `h` is `false = true`; the same one: its arguments are equal by `h`
  cases a <;> cases b <;> first | rfl | cases h | exact congrArg _ (Nat.eq_of_beq_eq_true h)

theorem memRoot_sound {r : Root} : ∀ {l : List Root}, memRoot r l = true → r ∈ l
  | [], h => nomatch h
  | a :: t, h => by
    rw [memRoot, Bool.or_eq_true] at h
    exact h.elim (fun h => Root.beq_eq h ▸ List.mem_cons_self) fun h => List.mem_cons_of_mem _
      (memRoot_sound h)

theorem memNat_sound {i : Nat} : ∀ {l : List Nat}, memNat i l = true → i ∈ l
  | [], h => nomatch h
  | a :: t, h => by
    rw [memNat, Bool.or_eq_true] at h
    exact h.elim (fun h => Nat.eq_of_beq_eq_true h ▸ List.mem_cons_self) fun h =>
      List.mem_cons_of_mem _ (memNat_sound h)

theorem subset_sound {a b : List Root} (h : subset a b = true) {r : Root} (hr : r ∈ a) : r ∈ b :=
  memRoot_sound (List.all_eq_true.1 h r hr)

theorem assoc_cons (k v : Nat) (t : List (Nat × Nat)) (x : Nat) :
    assoc ((k, v) :: t) x = if k = x then some v else assoc t x := rfl

theorem upd_other {h : Nat → List UInt8} {c d : Nat} {v : List UInt8} (hd : d ≠ c)
    : upd h c v d = h d :=
  if_neg hd

/-! ### lookups in the trie -/

theorem Tree.get?_node_zero {α : Type} {l r : Tree α} {v : Option α}
    : (Tree.node l v r).get? 0 = v := rfl

theorem Tree.get?_node_odd {α : Type} {l r : Tree α} {v : Option α} (k : Nat) :
    (Tree.node l v r).get? (2 * k + 1) = l.get? k := by
  have h1 : (2 * k + 1) % 2 = 1 := Nat.mul_add_mod 2 k 1
  have h2 : (2 * k + 1) / 2 = k := Nat.mul_add_div Nat.two_pos k 1
  rw [Tree.get?, h1, h2]
  rfl

theorem Tree.get?_node_even {α : Type} {l r : Tree α} {v : Option α} (k : Nat) :
    (Tree.node l v r).get? (2 * (k + 1)) = r.get? k := by
  have h1 : 2 * (k + 1) % 2 = 0 := Nat.mul_mod_right 2 _
  have h2 : 2 * (k + 1) / 2 - 1 = k := congrArg (· - 1)
    (Nat.mul_div_cancel_left (k + 1) Nat.two_pos)
  rw [Tree.get?, h1, h2]
  rfl

/-- a binding found by `get?` is visited by `allFrom` under its key -/
theorem Tree.allFrom_get {α : Type} (p : Nat → α → Bool) : ∀ (t : Tree α) (a b m : Nat) (e : α),
    t.get? m = some e → t.allFrom p a b = true → p (a + b * m) e = true
  | .leaf, _, _, _, _, h, _ => nomatch h
  | .node l v r, a, b, m, e, h, hall => by
    simp only [Tree.allFrom, Bool.and_eq_true] at hall
    obtain ⟨⟨hv, hl⟩, hr⟩ := hall
    obtain ⟨k, rfl | rfl⟩ := m.even_or_odd'
    · cases k with
      | zero =>
        cases Tree.get?_node_zero.symm.trans h
        exact hv
      | succ k =>
        rw [Tree.get?_node_even] at h
        have := Tree.allFrom_get p r (a + 2 * b) (2 * b) k e h hr
        rwa [show a + 2 * b + 2 * b * k = a + b * (2 * (k + 1)) by ring] at this
    · rw [Tree.get?_node_odd] at h
      have := Tree.allFrom_get p l (a + b) (2 * b) k e h hl
      rwa [show a + b + 2 * b * k = a + b * (2 * k + 1) by ring] at this

theorem Tree.all_get {α : Type} {t : Tree α} {p : Nat → α → Bool} {k : Nat} {e : α}
    (h : t.get? k = some e) (hall : t.all p = true) : p k e = true := by
  have := Tree.allFrom_get p t 0 1 k e h hall
  rwa [Nat.zero_add, Nat.one_mul] at this

/-! ### the invariant -/

section Sound

variable (cx : Ctx) (next0 : Nat) (self0 : List (Nat × Nat)) (heap0 : Nat → List UInt8)
    (W : List Nat)

/-- a cell has a root: `fresh` = allocated after the body started -/
def Sat : Root → Nat → Prop
  | .fresh, c => next0 ≤ c
  | .param i, c => cx.params[i]? = some c
  | .selfField f, c => assoc self0 f = some c
  | .unknown, _ => True

/-- every bound name points to a cell that has one of the name's abstract roots -/
def EnvOk (σ : State) (E : AbsEnv) : Prop :=
  ∀ x c, assoc σ.env x = some c → ∃ r ∈ roots E x, Sat cx next0 self0 r c

/-- the cells the body must not touch: allocated at entry and not a parameter it is allowed to
write -/
def Protected (c : Nat) : Prop :=
  c < next0 ∧ ∀ i ∈ W, cx.params[i]? ≠ some c

/-- the invariant of a run from `(heap0, next0, self0)`; `env` is a disjunction because after a halt no
variable is read again, so `E` need not describe the state -/
structure Good (σ : State) (E : AbsEnv) (R : List Root) : Prop where
  next_ge : next0 ≤ σ.next
  self_eq : σ.self = self0
  frame : ∀ c, Protected cx next0 W c → σ.heap c = heap0 c
  env : σ.halted = true ∨ EnvOk cx next0 self0 σ E
  ret : ∀ c, σ.ret = some c → ∃ r ∈ R, Sat cx next0 self0 r c

variable {cx next0 self0 heap0 W}

theorem Good.retMono {σ : State} {E : AbsEnv} {R R' : List Root} (hR : R ⊆ R')
    (g : Good cx next0 self0 heap0 W σ E R) : Good cx next0 self0 heap0 W σ E R' :=
  { g with ret := fun c hc => (g.ret c hc).imp fun _ hr => ⟨hR hr.1, hr.2⟩ }

/-- a halted state satisfies the invariant for any abstract environment -/
theorem Good.ofHalted {σ : State} {E E' : AbsEnv} {R : List Root} (hh : σ.halted = true)
    (g : Good cx next0 self0 heap0 W σ E R) : Good cx next0 self0 heap0 W σ E' R :=
  { g with env := Or.inl hh }

/-! ### the steps -/

section Steps

variable {σ : State} {E : AbsEnv} {R : List Root}

theorem Good.halt {E' : AbsEnv} (g : Good cx next0 self0 heap0 W σ E R) :
    Good cx next0 self0 heap0 W σ.halt E' R :=
  { g with env := Or.inl rfl }

theorem Good.tick (t : Nat) (g : Good cx next0 self0 heap0 W σ E R) :
    Good cx next0 self0 heap0 W { σ with tick := t } E R :=
  ⟨g.next_ge, g.self_eq, g.frame, g.env, g.ret⟩

theorem evalSrc_good {σ' : State} {s : Src} {c : Nat}
    (h : evalSrc cx σ s = some (c, σ')) (g : Good cx next0 self0 heap0 W σ E R)
    (ho : EnvOk cx next0 self0 σ E) :
    Good cx next0 self0 heap0 W σ' E R ∧ σ'.env = σ.env
      ∧ ∃ r ∈ srcRoots E s, Sat cx next0 self0 r c := by
  cases s with
  | fresh =>
    cases h
    refine ⟨{ g with next_ge := Nat.le_succ_of_le g.next_ge, frame := fun d hd => ?_ }, rfl,
      .fresh, List.mem_singleton_self _, g.next_ge⟩
    exact (upd_other (Nat.ne_of_lt (Nat.lt_of_lt_of_le hd.1 g.next_ge))).trans (g.frame d hd)
  | unknown =>
    cases h
    exact ⟨g.tick _, rfl, .unknown, List.mem_singleton_self _, trivial⟩
  | param i =>
    obtain ⟨a, ha, h⟩ := Option.map_eq_some_iff.1 h
    cases h
    exact ⟨g, rfl, .param i, List.mem_singleton_self _, ha⟩
  | selfField f =>
    obtain ⟨a, ha, h⟩ := Option.map_eq_some_iff.1 h
    cases h
    exact ⟨g, rfl, .selfField f, List.mem_singleton_self _, g.self_eq ▸ ha⟩
  | viewOf y | aliasOf y =>
    obtain ⟨a, ha, h⟩ := Option.map_eq_some_iff.1 h
    cases h
    exact ⟨g, rfl, ho y _ ha⟩
  | maybeViewOf y =>
    obtain ⟨a, ha, h⟩ := Option.map_eq_some_iff.1 h
    cases h
    obtain ⟨r, hr, hs⟩ := ho y _ ha
    refine ⟨g, rfl, weaken r, List.mem_map.2 ⟨r, hr, rfl⟩, ?_⟩
    cases r with
    | fresh => exact hs
    | _ => trivial

theorem pickSrc_good {σ' : State} {srcs : List Src} {c : Nat}
    (h : pickSrc cx σ srcs = some (c, σ')) (g : Good cx next0 self0 heap0 W σ E R)
    (ho : EnvOk cx next0 self0 σ E) :
    Good cx next0 self0 heap0 W σ' E R ∧ σ'.env = σ.env
      ∧ ∃ r ∈ srcsRoots E srcs, Sat cx next0 self0 r c := by
  unfold pickSrc at h
  split at h
  · cases h
  · rename_i s hs
    obtain ⟨g', he, r, hr, hsat⟩ := evalSrc_good h (g.tick _) ho
    exact ⟨g', he, r, List.mem_flatMap.2 ⟨s, List.mem_of_getElem? hs, hr⟩, hsat⟩

/-- binding under a closed certificate keeps the certificate valid -/
theorem stepBind_closed (x : Nat) (srcs : List Src)
    (hc : subset (srcsRoots E srcs) (roots E x) = true)
    (g : Good cx next0 self0 heap0 W σ E R) :
    Good cx next0 self0 heap0 W (stepBind cx x srcs σ) E R := by
  unfold stepBind
  split_ifs with hh
  · exact g
  have ho := g.env.resolve_left hh
  split
  · exact g.halt
  · rename_i c σ' hp
    obtain ⟨g', he, r, hr, hsat⟩ := pickSrc_good hp g ho
    refine { g' with env := Or.inr fun y d hy => ?_ }
    rw [assoc_cons] at hy
    split_ifs at hy with hxy
    · cases hy
      exact ⟨r, hxy ▸ subset_sound hc hr, hsat⟩
    · exact ho y d (he ▸ hy)

theorem sat_allowed_not_protected {r : Root} {c : Nat} (ha : rootAllowed W r = true)
    (hs : Sat cx next0 self0 r c) : ¬ Protected cx next0 W c := fun hp =>
  match r, ha, hs with
  | .fresh, _, hs => Nat.not_lt.2 hs hp.1
  | .param i, ha, hs => hp.2 i (memNat_sound ha) hs

theorem stepWrite_good (x : Nat)
    (ha : (roots E x).all (rootAllowed W) = true)
    (g : Good cx next0 self0 heap0 W σ E R) :
    Good cx next0 self0 heap0 W (stepWrite cx x σ) E R := by
  unfold stepWrite
  split_ifs with hh
  · exact g
  split
  · exact g.halt
  · rename_i c hx
    obtain ⟨r, hr, hsat⟩ := g.env.resolve_left hh x c hx
    have hnp := sat_allowed_not_protected (List.all_eq_true.1 ha r hr) hsat
    exact { g with frame := fun d hd => (upd_other fun (e : d = c) => hnp (e ▸ hd)).trans (g.frame d hd) }

theorem stepWrites_good : ∀ (xs : List Nat) {σ : State},
    (∀ x ∈ xs, (roots E x).all (rootAllowed W) = true) →
    Good cx next0 self0 heap0 W σ E R → Good cx next0 self0 heap0 W (stepWrites cx xs σ) E R
  | [], _, _, g => g
  | x :: t, _, ha, g =>
    stepWrites_good t (fun y hy => ha y (List.mem_cons_of_mem _ hy))
      (stepWrite_good x (ha x List.mem_cons_self) g)

theorem stepRet_good (srcs : List Src)
    (g : Good cx next0 self0 heap0 W σ E R) :
    Good cx next0 self0 heap0 W (stepRet cx srcs σ) E (R ++ srcsRoots E srcs) := by
  have g0 := g.retMono (List.subset_append_left R (srcsRoots E srcs))
  unfold stepRet
  split_ifs with hh
  · exact g0
  split
  · exact g0.halt
  · rename_i c σ' hp
    obtain ⟨g', -, r, hr, hsat⟩ := pickSrc_good hp g (g.env.resolve_left hh)
    exact { g' with
      env := Or.inl rfl
      ret := fun d hd => by cases hd; exact ⟨r, List.mem_append_right _ hr, hsat⟩ }

/-! ### calls -/

/-- either list of findings reported for the receiver will do: the callee has a summary with an
effect on `self`, or none at all -/
theorem stepSelfEffect_good {recv : Recv} {site gname : Nat}
    (h : (∀ f ∈ selfEffectFindings E site gname recv, Finding.allowed W f = true)
      ∨ ∀ f ∈ unknownRecvFindings E site gname recv, Finding.allowed W f = true)
    (g : Good cx next0 self0 heap0 W σ E R) :
    Good cx next0 self0 heap0 W (stepSelfEffect cx recv σ) E R := by
  cases recv with
  | none => exact g
  | self =>
    rcases h with h | h
    · exact nomatch h _ (List.mem_singleton_self _)
    · exact nomatch h _ (List.mem_singleton_self _)
  | obj x =>
    refine stepWrite_good x ?_ g
    rcases h with h | h
    · exact h _ (List.mem_singleton_self _)
    · exact h _ (List.mem_singleton_self _)

theorem stepCall_good {T : Table} (hT : cx.table = T) (dst : Option Nat) (gname : Nat)
    (recv : Recv) (args : List Nat) (site : Nat)
    (hclosed : closed T E (.call dst gname recv args site) = true)
    (hsafe : ∀ f ∈ callFindings T E site gname recv args, Finding.allowed W f = true)
    (g : Good cx next0 self0 heap0 W σ E R) :
    Good cx next0 self0 heap0 W (stepCall cx dst gname recv args σ) E R := by
  have hbind : ∀ {σ : State} (srcs : List Src), srcsRoots E srcs = callRet T E gname recv args →
      Good cx next0 self0 heap0 W σ E R → Good cx next0 self0 heap0 W (stepBindOpt cx dst srcs σ) E
        R := by
    intro σ srcs hs g
    cases dst with
    | none => exact g
    -- `hs` turns `hclosed` (about `callRet`) into the statement about `srcsRoots E srcs`
    | some x => exact stepBind_closed x srcs (hs ▸ hclosed) g
  unfold stepCall
  unfold callFindings at hsafe
  rw [hT]
  cases hf : T.find gname with
  | some s =>
    simp only [hf, List.mem_append, List.mem_map] at hsafe ⊢
    have g1 := stepWrites_good (writtenArgs args s.writes)
      (fun a ha => hsafe _ (Or.inl ⟨a, ha, rfl⟩)) g
    refine hbind _ (by rw [callRet, hf]) ?_
    split_ifs with he
    · exact stepSelfEffect_good (Or.inl fun f hf => hsafe f (Or.inr (by rwa [if_pos he]))) g1
    · exact g1
  | none =>
    simp only [hf, List.mem_append, List.mem_map] at hsafe ⊢
    have g1 := stepWrites_good args (fun a ha => hsafe _ (Or.inl ⟨a, ha, rfl⟩)) g
    exact hbind _ (by rw [callRet, hf]; rfl)
      (stepSelfEffect_good (Or.inr fun f hf => hsafe f (Or.inr hf)) g1)

end Steps

/-! ### halted states -/

theorem stepWrites_halted : ∀ (xs : List Nat) {σ : State}, σ.halted = true → stepWrites cx xs σ = σ
  | [], _, _ => rfl
  | x :: t, σ, h => by
    show stepWrites cx t (stepWrite cx x σ) = σ
    rw [show stepWrite cx x σ = σ from if_pos h]
    exact stepWrites_halted t h

theorem stepSelfEffect_halted {recv : Recv} {σ : State} (h : σ.halted = true)
    : stepSelfEffect cx recv σ = σ := by
  cases recv with
  | none => rfl
  | self | obj x => exact if_pos h

theorem stepBindOpt_halted {dst : Option Nat} {srcs : List Src} {σ : State} (h : σ.halted = true) :
    stepBindOpt cx dst srcs σ = σ := by
  cases dst with
  | none => rfl
  | some x => exact if_pos h

theorem exec_halted : ∀ (s : Stmt) {σ : State}, σ.halted = true → exec cx s σ = σ
  | .skip, _, _ => rfl
  | .bind .., _, h | .writeInPlace .., _, h | .setSelfField .., _, h | .ret .., _, h
  | .branch .., _, h | .loop .., _, h => if_pos h
  | .call dst g recv args _, σ, h => by
    simp only [exec, stepCall]
    split <;> simp only [stepWrites_halted _ h, stepSelfEffect_halted h, stepBindOpt_halted h, ite_self]
  | .seq a b, σ, h => by
    show exec cx b (exec cx a σ) = σ
    rw [exec_halted a h, exec_halted b h]

/-! ### the statement-level soundness theorem -/

theorem iter_good {f : State → State} {I : AbsEnv} {R : List Root}
    (hf : ∀ σ, Good cx next0 self0 heap0 W σ I R → Good cx next0 self0 heap0 W (f σ) I R) :
    ∀ (n : Nat) (σ : State), Good cx next0 self0 heap0 W σ I R → Good cx next0 self0 heap0 W
    (iter f n σ) I R
  | 0, _, g => g
  | n + 1, σ, g => iter_good hf n (f σ) (hf σ g)

theorem safe_iff {T : Table} {E : AbsEnv} {s : Stmt} :
    safe T W E s = true ↔ closed T E s = true ∧ ∀ f ∈ findings T E s, Finding.allowed W f = true :=
      by
  rw [safe, Bool.and_eq_true, List.all_eq_true]

/-- `seq` and `branch` are checked alike: both parts must be safe -/
theorem safe_seq {T : Table} {a b : Stmt} {E : AbsEnv} (h : safe T W E (.seq a b) = true) :
    safe T W E a = true ∧ safe T W E b = true := by
  simp only [safe_iff, closed, findings, Bool.and_eq_true, List.mem_append] at h ⊢
  exact ⟨⟨h.1.1, fun f hf => h.2 f (Or.inl hf)⟩, ⟨h.1.2, fun f hf => h.2 f (Or.inr hf)⟩⟩

/-- `exec_sound` with the result roots weakened to any superset: the form the induction needs -/
theorem exec_good {T : Table} (hT : cx.table = T) (E : AbsEnv)
    : ∀ (s : Stmt) {R R' : List Root} {σ : State},
    safe T W E s = true → R ⊆ R' → rets E s ⊆ R' → Good cx next0 self0 heap0 W σ E R →
    Good cx next0 self0 heap0 W (exec cx s σ) E R'
  | .skip, _, _, _, _, hR, _, g => g.retMono hR
  | .bind x srcs, _, _, _, h, hR, _, g => (stepBind_closed x srcs (safe_iff.1 h).1 g).retMono hR
  | .writeInPlace x _ _, _, _, _, h, hR, _, g =>
    (stepWrite_good x ((safe_iff.1 h).2 _ (List.mem_singleton_self _)) g).retMono hR
  | .setSelfField .., _, _, _, h, _, _, _ => nomatch (safe_iff.1 h).2 _ (List.mem_singleton_self _)
  | .ret srcs, _, _, _, _, hR, hr, g =>
    (stepRet_good srcs g).retMono (List.append_subset.2 ⟨hR, hr⟩)
  | .call dst gname recv args st, _, _, _, h, hR, _, g =>
    (stepCall_good hT dst gname recv args st (safe_iff.1 h).1 (safe_iff.1 h).2 g).retMono hR
  | .seq a b, _, _, _, h, hR, hr, g => by
    obtain ⟨ha, hb⟩ := safe_seq h
    obtain ⟨hra, hrb⟩ := List.append_subset.1 hr
    exact exec_good hT E b hb (List.Subset.refl _) hrb (exec_good hT E a ha hR hra g)
  | .branch a b, _, _, σ, h, hR, hr, g => by
    obtain ⟨ha, hb⟩ := safe_seq (a := a) (b := b) h
    obtain ⟨hra, hrb⟩ := List.append_subset.1 hr
    by_cases hh : σ.halted = true
    · rw [exec_halted _ hh]
      exact g.retMono hR
    · rw [exec, if_neg hh]
      split_ifs
      · exact exec_good hT E a ha hR hra (g.tick _)
      · exact exec_good hT E b hb hR hrb (g.tick _)
  | .loop b, _, _, σ, h, hR, hr, g => by
    by_cases hh : σ.halted = true
    · rw [exec_halted _ hh]
      exact g.retMono hR
    · rw [exec, if_neg hh]
      -- `safe` and `rets` of `loop b` are those of `b` by definition
      exact iter_good (fun τ gτ => exec_good hT E b h (List.Subset.refl _) hr gτ) _ _
        ((g.tick _).retMono hR)

/-- **Soundness of the certificate checker, one statement.** -/
theorem exec_sound {T : Table} (hT : cx.table = T) (E : AbsEnv) : ∀ (s : Stmt) (R : List Root) (σ : State),
    safe T W E s = true → Good cx next0 self0 heap0 W σ E R →
    Good cx next0 self0 heap0 W (exec cx s σ) E (R ++ rets E s) :=
  fun s _ _ h g => exec_good hT E s h (List.subset_append_left _ _) (List.subset_append_right _ _) g

end Sound

/-! ### bodies -/

/-- at entry nothing is bound, so any certificate describes the state -/
theorem initState_good (cx : Ctx) (heap : Nat → List UInt8) (next : Nat) (self : List (Nat × Nat))
    (W : List Nat)
    (E : AbsEnv) : Good cx next self heap W (initState heap next self) E [] :=
  { next_ge := Nat.le_refl _, self_eq := rfl, frame := fun _ _ => rfl,
    env := Or.inr fun _ _ h => (nomatch h), ret := fun _ h => (nomatch h) }

/-- the two named checkers together are the checker `safe` with an empty write set -/
theorem safe_nil_iff {T : Table} {b : Body} :
    safe T [] b.cert b.code = true ↔ b.writesOnlyFresh T = true ∧ b.noSelfStore T = true := by
  simp only [safe, Body.writesOnlyFresh, Body.noSelfStore, Body.certClosed, Bool.and_eq_true,
    List.all_eq_true, and_assoc, ← forall₂_and]
  refine and_congr_right fun _ => forall₂_congr fun f _ => ?_
  cases f <;> simp only [Finding.allowed, and_true, true_and, and_self]

/-- **Summary conformance.**  A body accepted against the write set `W`, run from any heap with any
oracle: every cell allocated at entry other than the cells of the parameters in `W` keeps its bytes,
the field table of `self` is unchanged, and the returned cell (if any) has one of the roots
`rets`. -/
theorem summary_conformance (T : Table) (W : List Nat) (b : Body) (hs : safe T W b.cert b.code = true)
    (o : Oracle) (params : List Nat) (heap : Nat → List UInt8) (next : Nat) (self : List (Nat × Nat)) :
    let cx : Ctx := ⟨o, params, T⟩
    let σ' := b.run cx heap next self
    (∀ c, c < next → (∀ i ∈ W, params[i]? ≠ some c) → σ'.heap c = heap c)
      ∧ σ'.self = self
      ∧ ∀ c, σ'.ret = some c → ∃ r ∈ rets b.cert b.code, Sat cx next self r c := by
  intro cx σ'
  have g := exec_good (cx := cx) (heap0 := heap) rfl b.cert b.code hs (List.nil_subset _)
    (List.Subset.refl _)
    (initState_good cx heap next self W b.cert)
  exact ⟨fun c hc hw => g.frame c ⟨hc, hw⟩, g.self_eq, g.ret⟩

/-- **C10, effect clause.**  If the checker accepts a body (`writesOnlyFresh ∧ noSelfStore`, w.r.t.
the summaries `T` of the callees it uses), then executing it from ANY heap, with the parameters and
`self`'s fields bound to ANY cells and ANY resolution of the nondeterminism, leaves every cell that
was allocated at entry unchanged, and leaves `self`'s field table unchanged. -/
theorem C10_effects_no_mutation (T : Table) (b : Body)
    (h1 : b.writesOnlyFresh T = true) (h2 : b.noSelfStore T = true)
    (o : Oracle) (params : List Nat) (heap : Nat → List UInt8) (next : Nat) (self : List (Nat × Nat)) :
    let σ' := b.run ⟨o, params, T⟩ heap next self
    (∀ c, c < next → σ'.heap c = heap c) ∧ σ'.self = self := by
  intro σ'
  obtain ⟨hf, hself, _⟩ := summary_conformance T [] b (safe_nil_iff.2 ⟨h1, h2⟩) o params heap next
    self
  exact ⟨fun c hc => hf c hc fun _ hi => (nomatch hi), hself⟩

/-- every cell reachable from a parameter (in this model: the parameter's cell) keeps its bytes -/
theorem C10_effects_params_unchanged (T : Table) (b : Body)
    (h1 : b.writesOnlyFresh T = true) (h2 : b.noSelfStore T = true)
    (o : Oracle) (params : List Nat) (heap : Nat → List UInt8) (next : Nat) (self : List (Nat × Nat))
    (hp : ∀ c ∈ params, c < next) :
    ∀ c ∈ params, (b.run ⟨o, params, T⟩ heap next self).heap c = heap c :=
  fun c hc => (C10_effects_no_mutation T b h1 h2 o params heap next self).1 c (hp c hc)

/-- every field of `self` is bound to the same cell as before and that cell keeps its bytes -/
theorem C10_effects_self_unchanged (T : Table) (b : Body)
    (h1 : b.writesOnlyFresh T = true) (h2 : b.noSelfStore T = true)
    (o : Oracle) (params : List Nat) (heap : Nat → List UInt8) (next : Nat) (self : List (Nat × Nat))
    (hp : ∀ p ∈ self, p.2 < next) :
    (b.run ⟨o, params, T⟩ heap next self).self = self
      ∧ ∀ p ∈ self, (b.run ⟨o, params, T⟩ heap next self).heap p.2 = heap p.2 :=
  ⟨(C10_effects_no_mutation T b h1 h2 o params heap next self).2,
   fun p hpm => (C10_effects_no_mutation T b h1 h2 o params heap next self).1 p.2 (hp p hpm)⟩

theorem allBodiesOk_sound (T : Table) (all bs : List Body) (h : allBodiesOk T all bs = true) :
    ∀ b ∈ bs, b.writesOnlyFresh T = true ∧ b.noSelfStore T = true := by
  intro b hb
  unfold allBodiesOk at h
  simp only [Bool.and_eq_true, List.all_eq_true] at h
  exact ⟨(h.2 b hb).1.2, (h.2 b hb).2⟩

/-- the summaries in use were checked: every table entry without an effect on `self` belongs to a
body that the checker accepts against the entry's write set and whose results have the entry's roots
— so `summary_conformance` applies to it -/
theorem tableChecked_sound (T : Table) (bs : List Body) (h : tableChecked T bs = true) :
    ∀ k e, T.find k = some e → e.effSelf = false →
      ∃ b ∈ bs, b.name = k ∧ safe T e.writes b.cert b.code = true
        ∧ ∀ r ∈ rets b.cert b.code, r ∈ e.ret := by
  intro k e he hs
  unfold tableChecked at h
  have h1 := Tree.all_get (p := fun k e => e.effSelf || bs.any fun b => Nat.beq b.name k
      && safe T e.writes b.cert b.code && subset (rets b.cert b.code) e.ret) he h
  simp only [hs, Bool.false_or, List.any_eq_true, Bool.and_eq_true] at h1
  obtain ⟨b, hb, ⟨hn, hsafe⟩, hr⟩ := h1
  exact ⟨b, hb, Nat.eq_of_beq_eq_true hn, hsafe, fun r hrr => subset_sound hr hrr⟩

theorem verdict_ok {T : Table} {b : Body} (h : verdict T b = .ok) :
    b.writesOnlyFresh T = true ∧ b.noSelfStore T = true := by
  refine safe_nil_iff.1 ?_
  unfold verdict at h
  dsimp only at h
  split_ifs at h with hv hk
  exact hk

/-- **What the generated theorem `analysis table bodies = ⟨true, [], ids⟩` gives**: the summaries in
use were checked against their bodies, `ids` are exactly the names of the entry bodies with verdict
`ok`, each of them satisfies the hypotheses of `C10_effects_no_mutation`, and no entry body has a
definite violation.  (With a non-empty second component the generated statement names the entry
bodies that do have one.) -/
theorem analysis_sound (T : Table) (bs : List Body) (ids : List Nat) (h : analysis T bs = ⟨true, [], ids⟩) :
    tableChecked T bs = true
      ∧ ids = (coveredBodies T bs).map Body.name
      ∧ (∀ b ∈ coveredBodies T bs, b.writesOnlyFresh T = true ∧ b.noSelfStore T = true)
      ∧ ∀ b ∈ bs, b.entry = true → verdict T b ≠ .violation := by
  unfold analysis at h
  have h1 : tableChecked T bs = true := congrArg Outcome.tableOk h
  have h2 : (violatingBodies T bs).map Body.name = [] := congrArg Outcome.violators h
  have h3 : (coveredBodies T bs).map Body.name = ids := congrArg Outcome.covered h
  refine ⟨h1, h3.symm, fun b hb => ?_, fun b hb he hv => ?_⟩
  · unfold coveredBodies at hb
    have := (List.mem_filter.1 hb).2
    rw [Bool.and_eq_true] at this
    exact verdict_ok (by simpa using this.2)
  · have hm : b ∈ violatingBodies T bs := by
      unfold violatingBodies
      exact List.mem_filter.2 ⟨hb, by simp [he, hv]⟩
    have : b.name ∈ (violatingBodies T bs).map Body.name := List.mem_map.2 ⟨b, hm, rfl⟩
    rw [h2] at this
    exact absurd this (by simp)

/-! ### examples: satisfiable hypotheses, rejected bodies that do mutate -/

namespace Examples

/-- `def f(t): a = np.zeros(..); for ..: a[j] = ..; v = a[1:]; v += 1; return a`  (names: 0 = t, 1 =
a, 2 = v) -/
def okBody : Body :=
  ⟨1, true, .seq (.bind 0 [.param 0]) (.seq (.bind 1 [.fresh])
    (.seq (.loop (.writeInPlace 1 true 0))
      (.seq (.bind 2 [.viewOf 1]) (.seq (.writeInPlace 2 true 1) (.ret [.aliasOf 1]))))),
   .ofList [(0, [.param 0]), (1, [.fresh]), (2, [.fresh])]⟩

/-- the same body with a certificate that hides the view: rejected (not closed), not trusted -/
def okBodyBadCert : Body := { okBody with cert := .ofList [(0, [.param 0]), (1, [.fresh]), (2, [])] }

/-- `def g(fnr): fnr1 = np.asarray(fnr); fnr1 /= h; return fnr1`  — the shape of seeded C02_8 -/
def aliasWrite : Body :=
  ⟨2, true, .seq (.bind 0 [.param 0])
    (.seq (.bind 1 [.aliasOf 0]) (.seq (.writeInPlace 1 true 2) (.ret [.aliasOf 1]))),
   .ofList [(0, [.param 0]), (1, [.param 0])]⟩

/-- `def cm(self, t): ...; self._last = m; return m` — the shape of the seeded caches -/
def selfCache : Body :=
  ⟨3, true, .seq (.bind 0 [.param 0])
    (.seq (.bind 1 [.fresh]) (.seq (.setSelfField 7 1 3) (.ret [.aliasOf 1]))),
   .ofList [(0, [.param 0]), (1, [.fresh])]⟩

/-- a helper that sorts its argument in place, and an entry that hands it its own parameter -/
def sortHelper : Body := ⟨4, false, .seq (.bind 0 [.param 0]) (.writeInPlace 0 true 4), .ofList [(0, [.param 0])]⟩
def callsHelperOnParam : Body :=
  ⟨5, true, .seq (.bind 0 [.param 0]) (.call none 4 .none [0] 5), .ofList [(0, [.param 0])]⟩
/-- ... and one that hands it a copy -/
def callsHelperOnCopy : Body :=
  ⟨6, true, .seq (.bind 0 [.param 0])
    (.seq (.bind 1 [.fresh]) (.seq (.call none 4 .none [1] 6) (.ret [.aliasOf 1]))),
   .ofList [(0, [.param 0]), (1, [.fresh])]⟩

def all : List Body := [okBody, aliasWrite, selfCache, sortHelper, callsHelperOnParam, callsHelperOnCopy]

/-- summaries: the helper writes its parameter 0; okBody / callsHelperOnCopy write nothing and
return a fresh array -/
def table : Table := .ofList [(4, ⟨[0], false, []⟩), (1, ⟨[], false, [.fresh]⟩), (6, ⟨[], false, [.fresh]⟩)]

/-- the hypotheses of `C10_effects_no_mutation` are satisfiable by a body with loops, views and
in-place writes -/
example : okBody.writesOnlyFresh .leaf = true ∧ okBody.noSelfStore .leaf = true := by decide +kernel

example : allBodiesOk table all (coveredBodies table all) = true := by decide +kernel
example : (coveredBodies table all).map Body.name = [1, 6] := by decide +kernel
example : noDefiniteViolation table all = false := by decide +kernel
example : analysis table all = ⟨true, [2, 3, 5], [1, 6]⟩ := by decide +kernel
example : analysis table [okBody, sortHelper, callsHelperOnCopy] = ⟨true, [], [1, 6]⟩ := by decide +kernel
example : noDefiniteViolation table [okBody, sortHelper, callsHelperOnCopy] = true := by decide +kernel

/-- a certificate that is not closed is rejected -/
example : okBodyBadCert.writesOnlyFresh .leaf = false := by decide +kernel
/-- a summary that claims too little is rejected by the table check -/
example : tableChecked (.ofList [(4, ⟨[], false, []⟩)]) all = false := by decide +kernel

/-- the write through an alias of a parameter is rejected ... -/
example : aliasWrite.writesOnlyFresh .leaf = false := by decide +kernel
example : verdict table aliasWrite = .violation := by decide +kernel
example : verdict table callsHelperOnParam = .violation := by decide +kernel
example : verdict table callsHelperOnCopy = .ok := by decide +kernel
example : selfCache.noSelfStore .leaf = false := by decide +kernel

def o1 : Oracle := ⟨fun _ => true, fun _ => 0, fun _ => [1, 2, 3]⟩
def heap1 : Nat → List UInt8 := fun _ => [9]

/-- ... and does change the caller's array: parameter cell 5 held `[9]`, after the run it holds
`[1,2,3]` -/
example : (aliasWrite.run ⟨o1, [5], .leaf⟩ heap1 10 []).heap 5 = [1, 2, 3] ∧ heap1 5 = [9] := by decide +kernel

/-- the accepted body leaves it alone (an instance of the theorem, evaluated) -/
example : (okBody.run ⟨o1, [5], .leaf⟩ heap1 10 []).heap 5 = [9] := by decide +kernel

/-- the cache store changes the object's field table -/
example : (selfCache.run ⟨o1, [5], .leaf⟩ heap1 10 [(1, 3)]).self = [(7, 10), (1, 3)] := by decide +kernel

/-- the helper's summary says "writes parameter 0"; the entry that passes its own parameter changes
cell 5 -/
example : (callsHelperOnParam.run ⟨o1, [5], table⟩ heap1 10 []).heap 5 = [1, 2, 3] := by
  decide +kernel

end Examples

end SA.Effects

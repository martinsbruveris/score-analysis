/-
C11 — bootstrap samples are well-formed resamples of their source.

The theorems about samples are about `runSample s c script`, the model of
`Scores.bootstrap_sample(config)` (SA/Model/Sampling.lean) run on a script of RNG answers
(SA/Model/Rng.lean), and hold for EVERY script on which the run is `ok`: each request found an
answer and the answer lies in the support of the requested distribution (`Req.inRange`).
Helper lemmas are in SA/Proofs/Sampling.lean.
-/
import SA.Proofs.Sampling
import SA.Spec.C11
import SA.Theorems.C01

namespace SA

/-- The run on `script` returned the sample `out` and was `ok`. -/
def Run (s : Scores) (c : BootCfg) (script : List (List Nat)) (out : Scores) : Prop :=
  (runSample s c script).1 = .ok out ∧ (runSample s c script).2.ok = true

/-- the source object satisfies the constructor invariant -/
def Inv (s : Scores) : Prop := s.pos.Pairwise (· ≤ ·) ∧ s.neg.Pairwise (· ≤ ·)

theorem ne_nil_of_perm_gather {a : List Rat} {idx : List Nat} {l : List Rat}
    (hp : l.Perm (gather a idx)) (h : idx ≠ []) : l ≠ [] := by
  intro hl
  have := hp.length_eq
  rw [hl, gather_length] at this
  exact h (List.length_eq_zero_iff.mp this.symm)

theorem bootstrapSample_gathered (s : Scores) (c : BootCfg) (st : RngState) (out : Scores)
    (h : (bootstrapSample s c st).1 = .ok out) (hok : (bootstrapSample s c st).2.ok = true) :
    ∃ (ip ineg : List Nat) (ep en : Nat) (b : Bool),
      out = Scores.make (gather s.pos ip) (gather s.neg ineg) ep en s.cfg b ∧
      (∀ i ∈ ip, i < s.pos.length) ∧ (∀ i ∈ ineg, i < s.neg.length) ∧
      (s.pos.length > 0 → ip ≠ []) ∧ (s.neg.length > 0 → ineg ≠ []) ∧
      (b = true → ip.Pairwise (· ≤ ·) ∧ ineg.Pairwise (· ≤ ·)) := by
  rcases bootstrapSample_cases s c st out h hok with
    ⟨_, r, f, rfl⟩ | ⟨_, _, r, f, rfl⟩ | ⟨_, ratio, ip, ineg, _, l1, g1, _, l2, g2, _, rfl⟩
  · exact ⟨_, _, _, _, _, rfl, f.posRange, f.negRange, f.posOne, f.negOne, nofun⟩
  · exact ⟨_, _, _, _, _, rfl, f.posRange, f.negRange, f.posOne, f.negOne, f.sortedIdx⟩
  · have hsz := c11p_proportionSize_pos c ratio
    refine ⟨_, _, _, _, _, rfl, g1, g2, fun _ hh => ?_, fun _ hh => ?_, nofun⟩
    · rw [hh] at l1; exact absurd l1 (Nat.ne_of_lt (hsz _))
    · rw [hh] at l2; exact absurd l2 (Nat.ne_of_lt (hsz _))

theorem bootstrapSample_wellformed (s : Scores) (c : BootCfg) (st : RngState) (out : Scores)
    (h : (bootstrapSample s c st).1 = .ok out) (hok : (bootstrapSample s c st).2.ok = true) :
    out.cfg = s.cfg ∧ (Inv s → Inv out) ∧
    ((∀ v ∈ out.pos, v ∈ s.pos) ∧ (∀ v ∈ out.neg, v ∈ s.neg)) ∧
    (s.pos ≠ [] → out.pos ≠ []) ∧ (s.neg ≠ [] → out.neg ≠ []) := by
  obtain ⟨ip, ineg, ep, en, b, rfl, g1, g2, n1, n2, hb⟩ := bootstrapSample_gathered s c st out h hok
  have hp := make_perm (gather s.pos ip) (gather s.neg ineg) ep en s.cfg b
  exact ⟨make_cfg _ _ _ _ _ _,
    fun hs => make_sorted _ _ _ _ _ _ fun e =>
      ⟨gather_sorted _ _ hs.1 (hb e).1 g1, gather_sorted _ _ hs.2 (hb e).2 g2⟩,
    ⟨fun v hv => gather_mem _ _ g1 v (hp.1.mem_iff.mp hv),
      fun v hv => gather_mem _ _ g2 v (hp.2.mem_iff.mp hv)⟩,
    fun h' => ne_nil_of_perm_gather hp.1 (n1 (List.length_pos_iff.mpr h')),
    fun h' => ne_nil_of_perm_gather hp.2 (n2 (List.length_pos_iff.mpr h'))⟩

/-- **C11 (flags).** The sample keeps `score_class` and `equal_class`. -/
theorem C11_flags (s : Scores) (c : BootCfg) (script : List (List Nat)) (out : Scores)
    (h : Run s c script out) : out.cfg = s.cfg :=
  (bootstrapSample_wellformed s c _ out h.1 h.2).1

/-- **C11 (subset).** Smoothing off: every sampled score is a score of the source's same class
(all methods; the hypothesis is not used: the model does not add the noise). -/
theorem C11_subset (s : Scores) (c : BootCfg) (script : List (List Nat)) (out : Scores)
    (_hsm : c.smoothing = false) (h : Run s c script out) :
    (∀ v ∈ out.pos, v ∈ s.pos) ∧ (∀ v ∈ out.neg, v ∈ s.neg) :=
  (bootstrapSample_wellformed s c _ out h.1 h.2).2.2.1

/-- **C11 (invariant).** The sample's arrays are sorted: on the replacement and proportion paths
because the constructor sorts; on the single-pass path, which passes `is_sorted=True`, because
gathering the (sorted) source by the non-decreasing index list `repeat(arange(k), counts)` is
sorted. -/
theorem C11_inv (s : Scores) (c : BootCfg) (script : List (List Nat)) (out : Scores)
    (hs : Inv s) (h : Run s c script out) : Inv out :=
  (bootstrapSample_wellformed s c _ out h.1 h.2).2.1 hs

/-- **C11 (metrics = counting).** Hence every confusion matrix of the sample is the count by the
documented decision rule over the sample's own scores (C01). -/
theorem C11_metrics (s : Scores) (c : BootCfg) (script : List (List Nat)) (out : Scores)
    (hs : Inv s) (h : Run s c script out) (t : ERat) :
    out.cm t = countCM out.pos out.neg out.easyPos out.easyNeg out.cfg t :=
  cm_eq_countCM_of_sorted out (C11_inv s c script out hs h).1 (C11_inv s c script out hs h).2 t

theorem make_nbAll (p n : List Rat) (ep en : Nat) (cfg : Cfg) (b : Bool) :
    (Scores.make p n ep en cfg b).nbAll = ep + en + (p.length + n.length) := by
  have hp := (make_perm p n ep en cfg b).1.length_eq
  have hn := (make_perm p n ep en cfg b).2.length_eq
  have he := make_easy p n ep en cfg b
  simp only [Scores.nbAll, Scores.nbEasy, Scores.nbHard, hp, hn, he.1, he.2]

/-- **C11 (total).** Replacement sampling (explicit, or chosen by "dynamic") preserves the total
number of samples, scored + easy. -/
theorem C11_total (s : Scores) (c : BootCfg) (script : List (List Nat)) (out : Scores)
    (hm : samplingMethod s c = .replacement) (h : Run s c script out) : out.nbAll = s.nbAll := by
  rcases bootstrapSample_cases s c (RngState.init script) out h.1 h.2 with
    ⟨_, r, f, rfl⟩ | ⟨hm', _⟩ | ⟨hm', _⟩
  · rw [make_nbAll, gather_length, gather_length]
    have := f.total rfl
    omega
  · exact nomatch hm.symm.trans hm'
  · exact nomatch hm.symm.trans hm'

/-- **C11 (strata).** Stratified by label: replacement sampling preserves each of the four strata
exactly; single-pass sampling preserves the two easy strata exactly. -/
theorem C11_strata (s : Scores) (c : BootCfg) (script : List (List Nat)) (out : Scores)
    (hb : c.byLabel = true) (h : Run s c script out) :
    (samplingMethod s c = .replacement →
      out.pos.length = s.pos.length ∧ out.neg.length = s.neg.length ∧
      out.easyPos = s.easyPos ∧ out.easyNeg = s.easyNeg) ∧
    (samplingMethod s c = .singlePass → out.easyPos = s.easyPos ∧ out.easyNeg = s.easyNeg) := by
  rcases bootstrapSample_cases s c (RngState.init script) out h.1 h.2 with
    ⟨hm, r, f, rfl⟩ | ⟨hm, _, r, f, rfl⟩ | ⟨hm, _⟩
  · refine ⟨fun _ => ?_, fun h' => (nomatch hm.symm.trans h')⟩
    have hp := make_perm (gather s.pos r.idxPos) (gather s.neg r.idxNeg) r.easyPos r.easyNeg
      s.cfg false
    have he := make_easy (gather s.pos r.idxPos) (gather s.neg r.idxNeg) r.easyPos r.easyNeg
      s.cfg false
    rw [hp.1.length_eq, hp.2.length_eq, gather_length, gather_length, he.1, he.2]
    exact ⟨(f.hard hb rfl).1, (f.hard hb rfl).2, (f.easy hb).1, (f.easy hb).2⟩
  · refine ⟨fun h' => (nomatch hm.symm.trans h'), fun _ => ?_⟩
    have he := make_easy (gather s.pos r.idxPos) (gather s.neg r.idxNeg) r.easyPos r.easyNeg
      s.cfg true
    rw [he.1, he.2]
    exact f.easy hb
  · exact ⟨fun h' => (nomatch hm.symm.trans h'), fun h' => (nomatch hm.symm.trans h')⟩

/-- **C11 (at least one).** Whenever the source has a scored positive (negative), so has the
sample — for replacement sampling through the class-size and hard-sample corrections (a source with
both classes present has `nb_all_samples ≥ 2`, so both corrections fit), for single-pass
sampling through the forced index, for proportion sampling because `max(·, 1)` is drawn. -/
theorem C11_at_least_one (s : Scores) (c : BootCfg) (script : List (List Nat)) (out : Scores)
    (h : Run s c script out) :
    (s.pos ≠ [] → out.pos ≠ []) ∧ (s.neg ≠ [] → out.neg ≠ []) :=
  (bootstrapSample_wellformed s c _ out h.1 h.2).2.2.2

/-- **C11 (proportion).** Proportion sampling draws `max(⌊ratio·n⌋, 1)` scored samples of each
class (`ratio·n` the float product) without replacement — no score more often than the source
holds it — and keeps `⌊ratio·easy⌋` easy samples. -/
theorem C11_proportion (s : Scores) (c : BootCfg) (script : List (List Nat)) (out : Scores)
    (ratio : Rat) (hm : c.method = .proportion) (hr : c.ratio = some ratio)
    (h : Run s c script out) :
    out.pos.length = max (truncNat (c.fmul ratio s.pos.length)) 1 ∧
    out.neg.length = max (truncNat (c.fmul ratio s.neg.length)) 1 ∧
    out.easyPos = truncNat (c.fmul ratio s.easyPos) ∧
    out.easyNeg = truncNat (c.fmul ratio s.easyNeg) ∧
    (∀ v, out.pos.count v ≤ s.pos.count v) ∧ (∀ v, out.neg.count v ≤ s.neg.count v) := by
  have hsm : samplingMethod s c = .proportion := by simp [samplingMethod, hm]
  rcases bootstrapSample_cases s c (RngState.init script) out h.1 h.2 with
    ⟨hm', _⟩ | ⟨hm', _⟩ | ⟨_, ratio', ip, ineg, hr', l1, g1, n1, l2, g2, n2, rfl⟩
  · exact nomatch hsm.symm.trans hm'
  · exact nomatch hsm.symm.trans hm'
  · obtain rfl : ratio = ratio' := Option.some.inj (hr.symm.trans hr')
    have hp := make_perm (gather s.pos ip) (gather s.neg ineg) (truncNat (c.fmul ratio s.easyPos))
      (truncNat (c.fmul ratio s.easyNeg)) s.cfg false
    have he := make_easy (gather s.pos ip) (gather s.neg ineg) (truncNat (c.fmul ratio s.easyPos))
      (truncNat (c.fmul ratio s.easyNeg)) s.cfg false
    refine ⟨?_, ?_, he.1, he.2, fun v => ?_, fun v => ?_⟩
    · rw [hp.1.length_eq, gather_length, l1]; rfl
    · rw [hp.2.length_eq, gather_length, l2]; rfl
    · rw [hp.1.count_eq]; exact gather_count_le _ _ n1 g1 v
    · rw [hp.2.count_eq]; exact gather_count_le _ _ n2 g2 v

/-- `1 ≤ size ≤ n` for a non-empty class whenever the float product `ratio·n` does not exceed `n`
(true of a faithful product when `ratio ≤ 1`), so the draw without replacement exists. -/
theorem C11_proportion_feasible (c : BootCfg) (ratio : Rat) (n : Nat) (hn : n ≥ 1)
    (hle : c.fmul ratio n ≤ n) :
    1 ≤ proportionSize c ratio n ∧ proportionSize c ratio n ≤ n := by
  refine ⟨c11p_proportionSize_pos c ratio n, ?_⟩
  unfold proportionSize truncNat
  apply Nat.max_le.mpr
  refine ⟨?_, hn⟩
  have h1 : (c.fmul ratio n).floor ≤ (n : Int) := by
    have := Rat.floor_le (c.fmul ratio n)
    have h2 : (((c.fmul ratio n).floor : Int) : Rat) ≤ ((n : Int) : Rat) := by
      exact le_trans this (by exact_mod_cast hle)
    exact_mod_cast h2
  omega

/-- **C11 (dynamic).** "dynamic" resolves to single-pass sampling exactly when both classes hold
at least 100 scored samples and smoothing is off, and to replacement sampling otherwise; every
other method is taken as given. -/
theorem C11_dynamic (s : Scores) (c : BootCfg) :
    (c.method = .dynamic →
      (samplingMethod s c = .singlePass ↔
        100 ≤ s.pos.length ∧ 100 ≤ s.neg.length ∧ c.smoothing = false) ∧
      (samplingMethod s c = .replacement ↔
        s.pos.length < 100 ∨ s.neg.length < 100 ∨ c.smoothing = true)) ∧
    (c.method ≠ .dynamic → samplingMethod s c = c.method) := by
  refine ⟨fun hd => ?_, fun hd => by simp [samplingMethod, hd]⟩
  -- the two conditions are negations of each other
  rw [show (100 ≤ s.pos.length ∧ 100 ≤ s.neg.length ∧ c.smoothing = false) ↔
    ¬ (s.pos.length < 100 ∨ s.neg.length < 100 ∨ c.smoothing = true) by
      simp only [not_or, not_lt, Bool.not_eq_true]]
  simp only [samplingMethod, hd, ne_eq, not_true_eq_false, if_false, singlePassSampleThreshold]
  by_cases hc : s.pos.length < 100 ∨ s.neg.length < 100 ∨ c.smoothing = true <;> simp [hc]

/-- **C11 (reachable).** For replacement and single-pass sampling (stratified or not) there is a
script with all answers in the supports under which the sample is the source itself: every source
score of both classes is selected (exactly once) and the easy counts are the source's. -/
theorem C11_reachable (s : Scores) (c : BootCfg) (hsm : c.smoothing = false)
    (hm : samplingMethod s c = .replacement ∨ samplingMethod s c = .singlePass) :
    ∃ script out, Run s c script out ∧ out.pos.Perm s.pos ∧ out.neg.Perm s.neg ∧
      out.easyPos = s.easyPos ∧ out.easyNeg = s.easyNeg := by
  obtain ⟨sp, hsp⟩ : ∃ sp : Bool, samplingMethod s c = bif sp then .singlePass else .replacement :=
    hm.elim (fun h => ⟨false, h⟩) (fun h => ⟨true, h⟩)
  obtain ⟨e1, e2⟩ := sampleIndices_identity s c.byLabel sp
    (RngState.init (identityScript s c.byLabel sp)) rfl rfl
  refine ⟨identityScript s c.byLabel sp, Scores.make s.pos s.neg s.easyPos s.easyNeg s.cfg sp,
    ?_, (make_perm _ _ _ _ _ _).1, (make_perm _ _ _ _ _ _).2, (make_easy _ _ _ _ _ _).1,
    (make_easy _ _ _ _ _ _).2⟩
  unfold Run runSample bootstrapSample
  cases sp <;> simp only [hsp, cond_true, cond_false, hsm, Bool.false_eq_true, if_false, e1, e2,
    gather_range, and_self]

/-- every single source score is reachable -/
theorem C11_reachable_each (s : Scores) (c : BootCfg) (hsm : c.smoothing = false)
    (hm : samplingMethod s c = .replacement ∨ samplingMethod s c = .singlePass) :
    (∀ v ∈ s.pos, ∃ script out, Run s c script out ∧ v ∈ out.pos) ∧
    (∀ v ∈ s.neg, ∃ script out, Run s c script out ∧ v ∈ out.neg) := by
  obtain ⟨script, out, hr, hp, hn, _, _⟩ := C11_reachable s c hsm hm
  exact ⟨fun v hv => ⟨script, out, hr, hp.mem_iff.mpr hv⟩,
    fun v hv => ⟨script, out, hr, hn.mem_iff.mpr hv⟩⟩

/-- **C11 (mean).** On every `ok` run the requests the model issues satisfy the unbiasedness
relations of `Spec.C11.unbiasedOK` exactly (tolerance 0): the class split is `Bin(N, nb_all_pos/N)`
with `N = nb_all_samples`; the easy splits are `Bin(class size, easy ratio of the class)` with the
class sizes adding up to `N`; the multiplicities of a class with `k` scored samples of which `n`
are drawn are `k` draws of `Bin(n, p)` with `p·k = 1` or of `Poisson(lam)` with `lam·k = n`;
replacement draws `n` uniform indices from `range(k)`; a forced index is drawn uniformly from the
class exactly when all its multiplicities are zero. -/
theorem C11_mean (s : Scores) (c : BootCfg) (script : List (List Nat))
    (hm : samplingMethod s c = .replacement ∨ samplingMethod s c = .singlePass)
    (hok : (runSample s c script).2.ok = true) :
    Spec.C11.unbiasedOK 0 s c.byLabel (samplingMethod s c == .singlePass)
      (runSample s c script).2.paired = true := by
  obtain ⟨hok', tail, htail, htr⟩ := bootstrapSample_requests s c _ hm hok
  rw [runSample, RngState.paired, htr]
  refine sampleIndices_unbiased s c.byLabel _ _ rfl hok' tail (List.filter_eq_nil_iff.mpr ?_)
  intro x hx
  obtain ⟨n, e⟩ := htail x hx
  rw [e]; simp [Spec.C11.isNormal]

/-- The means behind `C11_mean`, as rational identities on the source's parameters: the expected
number of positives `N·p` is the source's, the expected number of easy positives (negatives) in a
class of the source's size is the source's, and `k` multiplicities with mean `n·(1/k)` each add up
to `n` in expectation — every score is selected `n/k` times on average, once when `n = k`
(stratified sampling). -/
theorem C11_mean_identities (s : Scores) :
    (s.nbAll : Rat) * s.posNegRatio = s.nbAllPos ∧
    (s.nbAllPos : Rat) * s.easyPosRatio = s.easyPos ∧
    (s.nbAllNeg : Rat) * s.easyNegRatio = s.easyNeg ∧
    ∀ k n : Nat, k > 0 →
      (n : Rat) * (1 / ((max k 1 : Nat) : Rat)) = (n : Rat) / (k : Rat) ∧
      (k : Rat) * ((n : Rat) * (1 / ((max k 1 : Nat) : Rat))) = n ∧
      (k : Rat) * (1 / ((max k 1 : Nat) : Rat)) = 1 := by
  have hN : (s.nbAll : Rat) = (s.nbAllPos : Rat) + (s.nbAllNeg : Rat) := by
    rw [nbAll_split, Nat.cast_add]
  refine ⟨?_, ?_, ?_, ?_⟩
  · rw [posNegRatio_eq, hN]; exact mul_frac _ _
  · rw [easyPosRatio_eq, Scores.nbAllPos, Nat.cast_add]; exact mul_frac _ _
  · rw [easyNegRatio_eq, Scores.nbAllNeg, Nat.cast_add]; exact mul_frac _ _
  · intro k n hk
    have h0 : (k : Rat) ≠ 0 := Nat.cast_ne_zero.mpr (Nat.ne_of_gt hk)
    rw [Nat.max_eq_left hk]
    exact ⟨mul_one_div _ _, by rw [mul_one_div, mul_div_cancel₀ _ h0], mul_one_div_cancel h0⟩

/-- **C11 (dynamic, requests).** On every `ok` run with `sampling_method="dynamic"` the kind of
requests issued shows the resolution `Spec.C11.dynamicOK` expects. -/
theorem C11_dynamic_requests (s : Scores) (c : BootCfg) (script : List (List Nat))
    (hd : c.method = .dynamic) (hok : (runSample s c script).2.ok = true) :
    Spec.C11.dynamicOK s c.smoothing (runSample s c script).2.requests = true := by
  obtain ⟨hsp, hrp⟩ := (C11_dynamic s c).1 hd
  have hm : samplingMethod s c = .replacement ∨ samplingMethod s c = .singlePass := by
    by_cases hc : s.pos.length < 100 ∨ s.neg.length < 100 ∨ c.smoothing = true
    · exact Or.inl (hrp.mpr hc)
    · simp only [not_or, not_lt, Bool.not_eq_true] at hc
      exact Or.inr (hsp.mpr hc)
  obtain ⟨hok', tail, htail, htr⟩ := bootstrapSample_requests s c _ hm hok
  obtain ⟨k1, k2⟩ := sampleIndices_kinds s c.byLabel _ _ rfl hok'
  obtain ⟨t1, t2⟩ := any_sized_false (l := tail) fun x hx => by
    obtain ⟨n, e⟩ := htail x hx; rw [e]; exact ⟨rfl, rfl⟩
  rw [← List.any_reverse] at k1 k2
  simp only [runSample, RngState.requests, RngState.paired, Spec.C11.dynamicOK, List.any_map,
    Function.comp_def, htr, List.any_append, k1, k2, t1, t2, Bool.or_false]
  rcases hm with hm | hm
  · have hc :
        (decide (s.pos.length < 100) || decide (s.neg.length < 100) || c.smoothing) = true := by
      simpa only [Bool.or_eq_true, decide_eq_true_eq, or_assoc] using hrp.mp hm
    simp [hm, hc]
  · obtain ⟨h1, h2, h3⟩ := hsp.mp hm
    have hc :
        (decide (s.pos.length < 100) || decide (s.neg.length < 100) || c.smoothing) = false := by
      simp only [h3, Bool.or_false, Bool.or_eq_false_iff, decide_eq_false_iff_not, not_lt]
      exact ⟨h1, h2⟩
    simp [hm, hc]

/-! ### The executable spec clauses hold of the model

What the driver evaluates on the implementation's observed samples is proved of the model's
samples, for every `ok` run. -/

theorem C11_spec (s : Scores) (c : BootCfg) (script : List (List Nat)) (out : Scores)
    (hs : Inv s) (h : Run s c script out) :
    Spec.C11.flagsOK s out = true ∧ Spec.C11.sortedOK out = true ∧
    Spec.C11.atLeastOneOK s out = true ∧
    (c.smoothing = false → Spec.C11.subsetOK s out = true) ∧
    (samplingMethod s c = .replacement → Spec.C11.totalOK s out = true) ∧
    (c.byLabel = true → samplingMethod s c = .replacement →
      Spec.C11.strataOK s false out = true) ∧
    (c.byLabel = true → samplingMethod s c = .singlePass →
      Spec.C11.strataOK s true out = true) ∧
    (∀ ratio, c.method = .proportion → c.ratio = some ratio →
      Spec.C11.proportionOK c ratio s out = true) := by
  have h1 := C11_at_least_one s c script out h
  simp only [Spec.C11.flagsOK, Spec.C11.sortedOK, Spec.C11.atLeastOneOK, Spec.C11.subsetOK,
    Spec.C11.totalOK, Spec.C11.strataOK, Spec.C11.proportionOK, Spec.C11.multisetOK, proportionSize,
    beq_iff_eq, Bool.and_eq_true, Bool.or_eq_true, decide_eq_true_eq, List.isEmpty_iff,
    Bool.not_eq_true', List.isEmpty_eq_false_iff, List.all_eq_true, List.contains_iff_mem,
    Bool.false_or, Bool.true_or, and_true]
  refine ⟨C11_flags s c script out h, C11_inv s c script out hs h,
    ⟨or_iff_not_imp_left.mpr h1.1, or_iff_not_imp_left.mpr h1.2⟩,
    fun hsm => C11_subset s c script out hsm h, fun hm => C11_total s c script out hm h,
    fun hb hm => ?_, fun hb hm => (C11_strata s c script out hb h).2 hm, fun ratio hm hr => ?_⟩
  · obtain ⟨p, n, ep, en⟩ := (C11_strata s c script out hb h).1 hm
    exact ⟨⟨ep, en⟩, p, n⟩
  · obtain ⟨p, n, ep, en, cp, cn⟩ := C11_proportion s c script out ratio hm hr h
    exact ⟨⟨⟨⟨p, n⟩, ep⟩, en⟩, fun v _ => cp v, fun v _ => cn v⟩

/-! ### Non-vacuity -/

theorem Run.exists_of_isOk {s : Scores} {c : BootCfg} {script : List (List Nat)}
    (h1 : (runSample s c script).1.isOk = true) (h2 : (runSample s c script).2.ok = true) :
    ∃ out, Run s c script out := by
  cases h : (runSample s c script).1 with
  | ok out => exact ⟨out, h, h2⟩
  | error e => rw [h] at h1; exact absurd h1 (by simp [Except.isOk, Except.toBool])

/-- The hypotheses `Run` (+ `Inv`, method, stratification) of C11_flags / _subset / _inv / _total /
_strata / _at_least_one are satisfiable for EVERY source and every replacement or
single-pass configuration without smoothing: the identity script. -/
example (s : Scores) (c : BootCfg) (hsm : c.smoothing = false)
    (hm : samplingMethod s c = .replacement ∨ samplingMethod s c = .singlePass) :
    ∃ script out, Run s c script out :=
  let ⟨script, out, h, _⟩ := C11_reachable s c hsm hm
  ⟨script, out, h⟩

/-- A concrete adversarial run: stratified single-pass sampling in which every multiplicity is
answered 0 (inside the support of `Bin(n, 1/k)`), so both at-least-one corrections fire. -/
example : ∃ out, Run ⟨[1, 2, 3], [0, 1], 4, 0, ⟨.pos, .neg⟩⟩
    ⟨.singlePass, true, false, none, fun r n => r * n⟩ [[0, 0, 0], [0, 0], [1], [0]] out :=
  Run.exists_of_isOk (by decide +kernel) (by decide +kernel)

/-- non-stratified replacement sampling with easy samples, class split answered at its extreme
`0` (the class-size correction fires) -/
example : ∃ out, Run ⟨[1, 2, 3], [0, 1], 2, 1, ⟨.neg, .pos⟩⟩
    ⟨.dynamic, false, false, none, fun r n => r * n⟩ [[0], [0], [2], [2], [1, 1, 0, 0, 1]] out :=
  Run.exists_of_isOk (by decide +kernel) (by decide +kernel)

/-- proportion sampling, ratio 1/2 of 4 positives and 3 negatives -/
example : ∃ out, Run ⟨[1, 2, 2, 5], [0, 1, 7], 3, 0, ⟨.pos, .pos⟩⟩
    ⟨.proportion, false, false, some (1 / 2), fun r n => r * n⟩ [[3, 1], [2]] out :=
  Run.exists_of_isOk (by decide +kernel) (by decide +kernel)

/-- `Inv` of a source and the hypotheses of `C11_proportion_feasible` are satisfiable -/
example : Inv ⟨[1, 2, 2, 5], [0, 1, 7], 3, 0, ⟨.pos, .pos⟩⟩ := by
  constructor <;> decide +kernel

example : (⟨.proportion, false, false, some (1 / 2), fun r n => r * n⟩ : BootCfg).fmul (1 / 2) 4
    ≤ ((4 : Nat) : Rat) := by decide +kernel

/-- both sides of the dynamic switch occur -/
example : samplingMethod ⟨List.replicate 100 0, List.replicate 100 1, 0, 0, ⟨.pos, .pos⟩⟩
    ⟨.dynamic, false, false, none, fun r n => r * n⟩ = .singlePass := by decide +kernel

example : samplingMethod ⟨List.replicate 99 0, List.replicate 100 1, 0, 0, ⟨.pos, .pos⟩⟩
    ⟨.dynamic, false, false, none, fun r n => r * n⟩ = .replacement := by decide +kernel

end SA

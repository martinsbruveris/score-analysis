/-
C11 — progress and totality of the sampling model.

`runSample s c script` (SA/Model/Sampling.lean) models `Scores.bootstrap_sample(config)` on a
scripted RNG (SA/Model/Rng.lean).  The C11 theorems (SA/Theorems/C11.lean) hold "for every script
on which the run is `ok`".  Two things that phrasing leaves open are settled here:

* **progress** (`C11_progress`, `C11_progress_prefix`, `C11_progress_ok`): the model never issues
  a request NumPy would reject (`Req.WF`) as long as the answers received so far lie in the
  supports — so a run can only stop being `ok` because the script ran out or gave an
  out-of-support answer, never because `np.random.*` raised;
* **totality** (`C11_totality`, `C11_totality_ok`): there is an in-support script on which the run
  succeeds, for exactly the configurations that do not raise by design.

Replacement and single-pass sampling need NO precondition on the source (empty classes included).
Proportion sampling needs the two draws without replacement to be feasible (`c11p_Pre`); where
they are not, the first or the second request is ill-formed (`C11_progress_proportion_fails`,
`c11p_proportion_fails_neg`).

The state records every request with its answer (`RngState.trace`, most recent first;
`RngState.paired` in call order), also on runs that are not `ok`.
-/
import SA.Theorems.C11

namespace SA

/-! ## Definitions -/

/-- NumPy accepts the request instead of raising `ValueError`:
* `binomial(n, p, size)`: `0 ≤ p ≤ 1` (`n ≥ 0` holds by typing, `n : Nat`);
* `poisson(lam, size)`: `lam ≥ 0`;
* `choice(n | array of length n, size, replace)`: a non-empty population unless nothing is drawn
  (`n > 0 ∨ size = 0`; the scalar form `size=None` draws one), and no more draws than elements
  when drawing without replacement;
* `normal(loc, scale, size)`: the scale is not part of the model (SA/Model/Sampling.lean), nothing
  to check.
This is the model's `Req.feasible` (`c11p_WF_eq_feasible`), for which the lemmas are stated. -/
def Req.WF : Req → Bool
  | .binomial _ p _ => decide (0 ≤ p) && decide (p ≤ 1)
  | .poisson lam _ => decide (0 ≤ lam)
  | .choice n size repl =>
    (decide (0 < n) || sizeLen size == 0) && (repl || decide (sizeLen size ≤ n))
  | .choiceFrom n size repl =>
    (decide (0 < n) || sizeLen size == 0) && (repl || decide (sizeLen size ≤ n))
  | .normal _ => true

/-- Progress over a list of (request, answer) pairs in call order: the first request is
well-formed, and if its answer lies in the support the same holds of the rest.  Nothing is
claimed after the first out-of-support (or missing) answer. -/
def c11p_progressOK : List (Req × List Nat) → Bool
  | [] => true
  | q :: rest => q.1.WF && (!(q.1.inRange q.2) || c11p_progressOK rest)

/-- Precondition of progress: proportion sampling with a ratio draws `max(int(ratio·n), 1)` of
the `n` scored samples of each class without replacement; that many must exist.  (No condition
for any other method.) -/
def c11p_Pre (s : Scores) (c : BootCfg) : Prop :=
  samplingMethod s c = .proportion → ∀ ratio, c.ratio = some ratio →
    proportionSize c ratio s.pos.length ≤ s.pos.length ∧
    proportionSize c ratio s.neg.length ≤ s.neg.length

/-- The configurations that do not raise by design: replacement sampling (smoothing or not),
single-pass sampling without smoothing, proportion sampling with a ratio and feasible sizes. -/
def c11p_Runnable (s : Scores) (c : BootCfg) : Prop :=
  samplingMethod s c = .replacement ∨
  (samplingMethod s c = .singlePass ∧ c.smoothing = false) ∨
  (samplingMethod s c = .proportion ∧ ∃ ratio, c.ratio = some ratio ∧
    proportionSize c ratio s.pos.length ≤ s.pos.length ∧
    proportionSize c ratio s.neg.length ≤ s.neg.length)

/-! ## Helpers: lists of (request, answer) pairs -/

theorem c11p_WF_eq_feasible (r : Req) : r.WF = r.feasible := by cases r <;> rfl

/-- every answer lies in the support of its request (order irrelevant) -/
def c11p_inSupport (tr : List (Req × List Nat)) : Bool := tr.all (fun q => q.1.inRange q.2)

/-- `c11p_progressOK` on a list stored most recent first -/
def c11p_safeRev : List (Req × List Nat) → Bool
  | [] => true
  | q :: older => c11p_safeRev older && (!c11p_inSupport older || q.1.WF)

theorem c11p_progressOK_snoc (l : List (Req × List Nat)) (q : Req × List Nat) :
    c11p_progressOK (l ++ [q]) = (c11p_progressOK l && (!c11p_inSupport l || q.1.WF)) := by
  induction l with
  | nil => simp [c11p_progressOK, c11p_inSupport]
  | cons a l ih =>
    simp only [List.cons_append, c11p_progressOK, ih, c11p_inSupport, List.all_cons]
    -- `b1 && (!b2 || (b3 && (!b4 || b5))) = (b1 && (!b2 || b3)) && (!(b2 && b4) || b5)`
    generalize a.1.WF = b1
    generalize a.1.inRange a.2 = b2
    generalize c11p_progressOK l = b3
    generalize (l.all fun q => q.1.inRange q.2) = b4
    generalize q.1.WF = b5
    revert b1 b2 b3 b4 b5
    decide

theorem c11p_safeRev_eq (tr : List (Req × List Nat)) :
    c11p_safeRev tr = c11p_progressOK tr.reverse := by
  induction tr with
  | nil => rfl
  | cons q older ih =>
    rw [List.reverse_cons, c11p_progressOK_snoc, ← ih]
    simp only [c11p_safeRev, c11p_inSupport, List.all_reverse]

/-- `c11p_progressOK` says: whenever all answers before a request lie in the supports, the
request is well-formed. -/
theorem c11p_progressOK_iff (l : List (Req × List Nat)) :
    c11p_progressOK l = true ↔
    ∀ pre q post, l = pre ++ q :: post → (∀ a ∈ pre, a.1.inRange a.2 = true) →
      q.1.WF = true := by
  induction l with
  | nil =>
    refine ⟨fun _ pre q post h => ?_, fun _ => rfl⟩
    exact absurd h (by simp)
  | cons a l ih =>
    simp only [c11p_progressOK, Bool.and_eq_true, Bool.or_eq_true, Bool.not_eq_true']
    constructor
    · rintro ⟨hw, hrest⟩ pre q post hsplit hpre
      cases pre with
      | nil =>
        simp only [List.nil_append, List.cons.injEq] at hsplit
        rw [← hsplit.1]; exact hw
      | cons a' pre' =>
        simp only [List.cons_append, List.cons.injEq] at hsplit
        obtain ⟨rfl, hl⟩ := hsplit
        have ha := hpre a (by simp)
        rcases hrest with hrest | hrest
        · rw [ha] at hrest; exact absurd hrest (by simp)
        · exact (ih.mp hrest) pre' q post hl (fun x hx => hpre x (by simp [hx]))
    · intro h
      refine ⟨h [] a l rfl (by simp), ?_⟩
      by_cases ha : a.1.inRange a.2 = true
      · right
        apply ih.mpr
        intro pre q post hl hpre
        apply h (a :: pre) q post (by rw [hl]; rfl)
        intro x hx
        simp only [List.mem_cons] at hx
        rcases hx with rfl | hx
        · exact ha
        · exact hpre x hx
      · left; simpa using ha

/-- if moreover every answer lies in its support, every request is well-formed -/
theorem c11p_progressOK_all (l : List (Req × List Nat)) (h : c11p_progressOK l = true)
    (hl : ∀ a ∈ l, a.1.inRange a.2 = true) : ∀ a ∈ l, a.1.WF = true := by
  intro a ha
  obtain ⟨pre, post, rfl⟩ := List.append_of_mem ha
  exact (c11p_progressOK_iff _).mp h pre a post rfl (fun x hx => hl x (by simp [hx]))

/-! ## Helpers: states -/

/-- the state's trace satisfies progress, and the `ok` flag implies that every answer so far lies
in its support -/
structure c11p_Good (st : RngState) : Prop where
  safe : c11p_safeRev st.trace = true
  live : st.ok = true → c11p_inSupport st.trace = true

/-- every answer so far lies in its support (weaker than `ok`, which also asks that the script
was not exhausted) -/
def c11p_Live (st : RngState) : Prop := c11p_inSupport st.trace = true

theorem c11p_init_good (script : List (List Nat)) : c11p_Good (RngState.init script) :=
  ⟨rfl, fun _ => rfl⟩

theorem c11p_draw_good {r : Req} {st : RngState} (hg : c11p_Good st)
    (hw : c11p_Live st → r.feasible = true) : c11p_Good (draw r st).2 := by
  constructor
  · rw [draw_trace]
    simp only [c11p_safeRev, hg.safe, Bool.true_and, Bool.or_eq_true, Bool.not_eq_true',
      c11p_WF_eq_feasible]
    by_cases hl : c11p_inSupport st.trace = true
    · right; exact hw hl
    · left; simpa using hl
  · intro hok
    obtain ⟨h1, h2⟩ := draw_ok hok
    rw [draw_trace]
    simp only [c11p_inSupport, List.all_cons, h2, Bool.true_and]
    exact hg.live h1

theorem c11p_draw_live {r : Req} {st : RngState} (h : c11p_Live (draw r st).2) :
    c11p_Live st ∧ r.inRange (draw r st).1 = true := by
  unfold c11p_Live at h
  rw [draw_trace] at h
  simp only [c11p_inSupport, List.all_cons, Bool.and_eq_true] at h
  exact ⟨h.2, h.1⟩

/-! ## Helpers: the probabilities and rates the model requests are valid -/

theorem c11p_binomial_feasible {n : Nat} {p : Rat} {size : Option Nat} (h : 0 ≤ p ∧ p ≤ 1) :
    (Req.binomial n p size).feasible = true := by
  simp only [Req.feasible, Bool.and_eq_true, decide_eq_true_eq]
  exact h

/-- the multiplicity request of single-pass sampling is well-formed whatever `size` and `n`
(`p = 1/max(size,1) ∈ (0,1]`, `lam = n·p ≥ 0`; `size = 0` asks for an empty array) -/
theorem c11p_singlePassReq_feasible (size n : Nat) :
    (singlePassReq size n).feasible = true := by
  unfold singlePassReq
  have hm : (1 : Rat) ≤ ((max size 1 : Nat) : Rat) :=
    Nat.one_le_cast.mpr (Nat.le_max_right size 1)
  have hpos : (0 : Rat) < ((max size 1 : Nat) : Rat) := zero_lt_one.trans_le hm
  have h0 : (0 : Rat) ≤ 1 / ((max size 1 : Nat) : Rat) := one_div_nonneg.mpr hpos.le
  have h1 : (1 : Rat) / ((max size 1 : Nat) : Rat) ≤ 1 := (div_le_one hpos).mpr hm
  by_cases c : n < 100
  · simp only [c, if_true]
    exact c11p_binomial_feasible ⟨h0, h1⟩
  · simp only [c, if_false, Req.feasible, decide_eq_true_eq]
    exact mul_nonneg (Nat.cast_nonneg n) h0

theorem c11p_choice_feasible {n k : Nat} (h : n = 0 → k = 0) :
    (Req.choice n (some k) true).feasible = true := by
  simp only [Req.feasible, sizeLen, Bool.true_or, Bool.and_true, Bool.or_eq_true, decide_eq_true_eq,
    beq_iff_eq]
  omega

theorem c11p_choiceScalar_feasible {n : Nat} (h : 0 < n) :
    (Req.choice n none true).feasible = true := by
  simp only [Req.feasible, sizeLen, Bool.true_or, Bool.and_true, Bool.or_eq_true, decide_eq_true_eq]
  exact Or.inl h

theorem c11p_choiceFrom_feasible {n k : Nat} (h1 : 1 ≤ k) (h2 : k ≤ n) :
    (Req.choiceFrom n (some k) false).feasible = true := by
  simp only [Req.feasible, sizeLen, Bool.false_or, Bool.and_eq_true, Bool.or_eq_true,
    decide_eq_true_eq]
  exact ⟨Or.inl (by omega), decide_eq_true h2⟩

theorem c11p_choiceFrom_feasible_le {n k : Nat}
    (h : (Req.choiceFrom n (some k) false).feasible = true) : k ≤ n := by
  simp only [Req.feasible, sizeLen, Bool.false_or, Bool.and_eq_true] at h
  exact of_decide_eq_true h.2

theorem c11p_choiceFrom_feasible_iff {n k : Nat} (h1 : 1 ≤ k) :
    (Req.choiceFrom n (some k) false).feasible = true ↔ k ≤ n :=
  ⟨c11p_choiceFrom_feasible_le, c11p_choiceFrom_feasible h1⟩

theorem c11p_infeasible {n k : Nat} (h : n < k) :
    (Req.choiceFrom n (some k) false).feasible = false :=
  Bool.eq_false_iff.mpr fun hf => absurd (c11p_choiceFrom_feasible_le hf) (by omega)

/-! ## Helpers: the steps of `_sample_indices` -/

theorem c11p_drawStrata_good (s : Scores) (st : RngState) (hg : c11p_Good st) :
    c11p_Good (drawStrata s st).2 := by
  simp only [drawStrata, drawScalar_fst, drawScalar_snd]
  exact c11p_draw_good (c11p_draw_good (c11p_draw_good hg
    (fun _ => c11p_binomial_feasible (posNegRatio_bounds s)))
    (fun _ => c11p_binomial_feasible (easyPosRatio_bounds s)))
    (fun _ => c11p_binomial_feasible (easyNegRatio_bounds s))

/-- `drawStrata_spec` from the answers alone (not from the `ok` flag) -/
theorem c11p_drawStrata_live (s : Scores) (st : RngState) (h : c11p_Live (drawStrata s st).2) :
    c11p_Live st ∧ StrataFacts s (drawStrata s st).1 := by
  simp only [drawStrata, drawScalar_fst, drawScalar_snd] at h ⊢
  obtain ⟨h3, r3⟩ := c11p_draw_live h
  obtain ⟨h2, r2⟩ := c11p_draw_live h3
  obtain ⟨h1, r1⟩ := c11p_draw_live h2
  exact ⟨h1, strataFacts_of_inRange s r1 r2 r3⟩

theorem c11p_strataFor_good (s : Scores) (b : Bool) (st : RngState) (hg : c11p_Good st) :
    c11p_Good (strataFor s b st).2 := by
  cases b with
  | true => exact hg
  | false => exact c11p_drawStrata_good s st hg

theorem c11p_strataFor_live (s : Scores) (b : Bool) (st : RngState)
    (h : c11p_Live (strataFor s b st).2) :
    c11p_Live st ∧ StrataFacts s (strataFor s b st).1 := by
  cases b with
  | true => exact ⟨h, strataFacts_source s⟩
  | false => exact c11p_drawStrata_live s st h

theorem c11p_forceOne_good (k n : Nat) (counts : List Nat) (st : RngState) (hg : c11p_Good st)
    (hk : c11p_Live st → n > 0 → k > 0) : c11p_Good (forceOne k n counts st).2 := by
  unfold forceOne
  by_cases c : n > 0 ∧ counts.all (· == 0) = true
  · simp only [c, and_self, if_true, drawScalar_snd]
    exact c11p_draw_good hg (fun hl => c11p_choiceScalar_feasible (hk hl c.1))
  · simp only [c, if_false]
    exact hg

theorem c11p_forceOne_live (k n : Nat) (counts : List Nat) (st : RngState)
    (h : c11p_Live (forceOne k n counts st).2) : c11p_Live st := by
  unfold forceOne at h
  by_cases c : n > 0 ∧ counts.all (· == 0) = true
  · simp only [c, and_self, if_true, drawScalar_snd] at h
    exact (c11p_draw_live h).1
  · simp only [c, if_false] at h
    exact h

/-- `choice(k, size=n)` and the forced `choice(k)` need `k > 0` when `n > 0`: `StrataFacts`, a fact
about the ANSWERS of the stratum stage, not the `ok` flag — whence the `_live` lemmas. -/
theorem c11p_sampleIndices_good (s : Scores) (b sp : Bool) (st : RngState) (hg : c11p_Good st) :
    c11p_Good (sampleIndices s b sp st).2 := by
  have ga := c11p_strataFor_good s b st hg
  unfold sampleIndices
  cases sp with
  | true =>
    simp only [↓reduceIte]
    refine c11p_forceOne_good _ _ _ _ (c11p_forceOne_good _ _ _ _
      (c11p_draw_good (c11p_draw_good ga fun _ => c11p_singlePassReq_feasible _ _)
        fun _ => c11p_singlePassReq_feasible _ _) ?_) ?_
    · exact fun hl hn => Nat.pos_of_ne_zero fun h0 => absurd
        ((c11p_strataFor_live _ _ _ (c11p_draw_live (c11p_draw_live hl).1).1).2.posZero h0)
        (Nat.ne_of_gt hn)
    · exact fun hl hn => Nat.pos_of_ne_zero fun h0 => absurd
        ((c11p_strataFor_live _ _ _ (c11p_draw_live (c11p_draw_live
          (c11p_forceOne_live _ _ _ _ hl)).1).1).2.negZero h0) (Nat.ne_of_gt hn)
  | false =>
    simp only [Bool.false_eq_true, ↓reduceIte]
    exact c11p_draw_good (c11p_draw_good ga
      fun hl => c11p_choice_feasible (c11p_strataFor_live _ _ _ hl).2.posZero)
      fun hl => c11p_choice_feasible (c11p_strataFor_live _ _ _ (c11p_draw_live hl).1).2.negZero

theorem c11p_bootstrapSample_good (s : Scores) (c : BootCfg) (st : RngState)
    (hp : c11p_Pre s c) (hg : c11p_Good st) : c11p_Good (bootstrapSample s c st).2 := by
  unfold c11p_Pre at hp
  unfold bootstrapSample
  cases hm : samplingMethod s c with
  | replacement =>
    simp only []
    split
    · exact c11p_draw_good (c11p_draw_good (c11p_sampleIndices_good s _ _ st hg) (fun _ => rfl))
        (fun _ => rfl)
    · exact c11p_sampleIndices_good s _ _ st hg
  | singlePass =>
    simp only []
    split <;> exact c11p_sampleIndices_good s _ _ st hg
  | proportion =>
    simp only []
    cases hr : c.ratio with
    | none => exact hg
    | some ratio =>
      simp only []
      obtain ⟨q1, q2⟩ := hp hm ratio hr
      have f1 := c11p_choiceFrom_feasible (c11p_proportionSize_pos c ratio s.pos.length) q1
      have f2 := c11p_choiceFrom_feasible (c11p_proportionSize_pos c ratio s.neg.length) q2
      simp only [f1, f2, Bool.not_true, Bool.false_eq_true, if_false]
      exact c11p_draw_good (c11p_draw_good hg fun _ => f1) fun _ => f2
  | unknown | dynamic => exact hg

/-! ## Helpers: a script for proportion sampling -/

theorem c11p_inRange_choiceFrom {n k : Nat} (h : k ≤ n) :
    (Req.choiceFrom n (some k) false).inRange (List.range k) = true := by
  simp only [Req.inRange, sizeLen, List.length_range, beq_self_eq_true, Bool.true_and,
    Bool.false_or, Bool.and_eq_true, List.all_eq_true, List.mem_range, decide_eq_true_eq]
  exact ⟨fun x hx => by omega, List.nodup_range⟩

/-! ## Progress -/

/-- the precondition is void for every method but proportion sampling -/
theorem c11p_Pre_of_ne (s : Scores) (c : BootCfg) (hm : samplingMethod s c ≠ .proportion) :
    c11p_Pre s c := fun h => absurd h hm

/-- proportion sampling: both classes hold scored samples and the (float) product `ratio·n` does
not exceed `n` (true of a faithful product whenever `ratio ≤ 1`) -/
theorem c11p_Pre_of_nonempty (s : Scores) (c : BootCfg) (hpos : s.pos ≠ []) (hneg : s.neg ≠ [])
    (hle : ∀ ratio, c.ratio = some ratio →
      c.fmul ratio s.pos.length ≤ s.pos.length ∧ c.fmul ratio s.neg.length ≤ s.neg.length) :
    c11p_Pre s c := by
  intro _ ratio hr
  obtain ⟨h1, h2⟩ := hle ratio hr
  exact ⟨(C11_proportion_feasible c ratio _ (List.length_pos_iff.mpr hpos) h1).2,
    (C11_proportion_feasible c ratio _ (List.length_pos_iff.mpr hneg) h2).2⟩

/-- **C11 (progress).** For every source (empty classes, no samples at all included), every
configuration and EVERY script — in the supports or not, long enough or not — the requests of the
run, in call order, satisfy `c11p_progressOK`: each request is one NumPy accepts (`Req.WF`) as
long as all earlier answers lie in the supports.  Replacement, single-pass, dynamic sampling,
stratified or not, smoothing or not: no precondition (`c11p_Pre_of_ne`); proportion sampling: the
two sizes must not exceed the class sizes (`c11p_Pre`, exact by `C11_progress_iff`). -/
theorem C11_progress (s : Scores) (c : BootCfg) (script : List (List Nat)) (hp : c11p_Pre s c) :
    c11p_progressOK (runSample s c script).2.paired = true := by
  have h := (c11p_bootstrapSample_good s c (RngState.init script) hp (c11p_init_good script)).safe
  rw [c11p_safeRev_eq] at h
  exact h

/-- **C11 (progress, spelled out).** Split the run's (request, answer) list at any request: if
every earlier answer lies in the support of its request, NumPy accepts this request.  Hence a run
stops being `ok` only at a well-formed request whose answer is missing or out of support. -/
theorem C11_progress_prefix (s : Scores) (c : BootCfg) (script : List (List Nat))
    (hp : c11p_Pre s c) (pre post : List (Req × List Nat)) (r : Req) (x : List Nat)
    (hsplit : (runSample s c script).2.paired = pre ++ (r, x) :: post)
    (hpre : ∀ q ∈ pre, q.1.inRange q.2 = true) : r.WF = true :=
  (c11p_progressOK_iff _).mp (C11_progress s c script hp) pre (r, x) post hsplit hpre

/-- **C11 (progress, `ok` runs).** On an `ok` run every request issued is well-formed and every
answer lies in its support. -/
theorem C11_progress_ok (s : Scores) (c : BootCfg) (script : List (List Nat))
    (hp : c11p_Pre s c) (hok : (runSample s c script).2.ok = true) :
    ∀ q ∈ (runSample s c script).2.paired, q.1.WF = true ∧ q.1.inRange q.2 = true := by
  have hl := (c11p_bootstrapSample_good s c (RngState.init script) hp
    (c11p_init_good script)).live hok
  have hin : ∀ q ∈ (runSample s c script).2.paired, q.1.inRange q.2 = true := by
    intro q hq
    simp only [c11p_inSupport, List.all_eq_true] at hl
    exact hl q (List.mem_reverse.mp hq)
  intro q hq
  exact ⟨c11p_progressOK_all _ (C11_progress s c script hp) hin q hq, hin q hq⟩

/-- Proportion sampling whose positive size exceeds the number of scored positives (an empty
class: the size is `max(·, 1) = 1`; or `int(ratio·n) > n`): on EVERY script the first request is
ill-formed — NumPy raises `ValueError`, and so does the model. -/
theorem C11_progress_proportion_fails (s : Scores) (c : BootCfg) (script : List (List Nat))
    (ratio : Rat) (hm : samplingMethod s c = .proportion) (hr : c.ratio = some ratio)
    (hbad : s.pos.length < proportionSize c ratio s.pos.length) :
    c11p_progressOK (runSample s c script).2.paired = false ∧
    (runSample s c script).1 = .error .valueError := by
  have f1 := c11p_infeasible hbad
  unfold runSample bootstrapSample
  simp only [hm, hr, f1, Bool.not_false, if_true, RngState.paired, RngState.init,
    List.reverse_cons, List.reverse_nil, List.nil_append, c11p_progressOK, c11p_WF_eq_feasible,
    Bool.false_and, and_self]

/-- the same for the negative class, on the script that answers the first (well-formed) request
in its support -/
theorem c11p_proportion_fails_neg (s : Scores) (c : BootCfg) (ratio : Rat)
    (hm : samplingMethod s c = .proportion) (hr : c.ratio = some ratio)
    (hpos : proportionSize c ratio s.pos.length ≤ s.pos.length)
    (hbad : s.neg.length < proportionSize c ratio s.neg.length) :
    c11p_progressOK (runSample s c
      [List.range (proportionSize c ratio s.pos.length)]).2.paired = false := by
  have f1 := c11p_choiceFrom_feasible (c11p_proportionSize_pos c ratio s.pos.length) hpos
  have f2 := c11p_infeasible hbad
  obtain ⟨e1, _, _⟩ := draw_cons
    (r := Req.choiceFrom s.pos.length (some (proportionSize c ratio s.pos.length)) false)
    (st := RngState.init [List.range (proportionSize c ratio s.pos.length)]) rfl rfl
    (c11p_inRange_choiceFrom hpos)
  unfold runSample bootstrapSample
  simp only [hm, hr, f1, f2, Bool.not_true, Bool.not_false, Bool.false_eq_true, if_false, if_true,
    RngState.paired, draw_trace, e1]
  simp only [RngState.init, List.reverse_cons, List.reverse_nil,
    List.nil_append, List.cons_append, c11p_progressOK, c11p_WF_eq_feasible, f1, f2,
    c11p_inRange_choiceFrom hpos, Bool.true_and, Bool.not_true, Bool.false_or, Bool.false_and]

/-- **C11 (progress, exact precondition).** Progress holds on every script exactly under
`c11p_Pre`. -/
theorem C11_progress_iff (s : Scores) (c : BootCfg) :
    (∀ script, c11p_progressOK (runSample s c script).2.paired = true) ↔ c11p_Pre s c := by
  refine ⟨fun h hm ratio hr => ?_, fun hp script => C11_progress s c script hp⟩
  by_cases hpos : proportionSize c ratio s.pos.length ≤ s.pos.length
  · by_cases hneg : proportionSize c ratio s.neg.length ≤ s.neg.length
    · exact ⟨hpos, hneg⟩
    · exfalso
      have := c11p_proportion_fails_neg s c ratio hm hr hpos (by omega)
      rw [h _] at this
      exact absurd this (by simp)
  · exfalso
    have := (C11_progress_proportion_fails s c [] ratio hm hr (by omega)).1
    rw [h _] at this
    exact absurd this (by simp)

/-! ## Totality -/

theorem c11p_isOk_iff (s : Scores) (c : BootCfg) (st : RngState) :
    (bootstrapSample s c st).1.isOk = true ↔ c11p_Runnable s c := by
  unfold bootstrapSample c11p_Runnable
  cases hm : samplingMethod s c with
  | replacement => exact ⟨fun _ => Or.inl rfl, fun _ => rfl⟩
  | singlePass =>
    simp only [reduceCtorEq, false_or, false_and, or_false, true_and]
    cases c.smoothing <;> simp [Except.isOk, Except.toBool]
  | proportion =>
    simp only [reduceCtorEq, false_or, false_and, true_and]
    cases hr : c.ratio with
    | none => simp [Except.isOk, Except.toBool]
    | some ratio =>
      simp only [Option.some.injEq, exists_eq_left',
        ← c11p_choiceFrom_feasible_iff (c11p_proportionSize_pos c ratio _)]
      cases (Req.choiceFrom s.pos.length (some (proportionSize c ratio s.pos.length)) false).feasible <;>
        cases (Req.choiceFrom s.neg.length (some (proportionSize c ratio s.neg.length)) false).feasible <;>
        simp [Except.isOk, Except.toBool]
  | unknown | dynamic => simp [Except.isOk, Except.toBool]

/-- **C11 (errors are by design).** Whatever the script (the model never raises on a bad or short
script, it clears `ok`), the result is a sample exactly for the runnable configurations; the
errors are: single-pass sampling with smoothing, proportion sampling without a ratio or with an
infeasible size, an unknown method string. -/
theorem C11_result_ok_iff (s : Scores) (c : BootCfg) (script : List (List Nat)) :
    (runSample s c script).1.isOk = true ↔ c11p_Runnable s c :=
  c11p_isOk_iff s c _

/-- **C11 (totality).** For every source and every runnable configuration there is a script, all
of whose answers lie in the supports, on which the run returns a sample and is `ok`: the
hypothesis `Run s c script out` of the C11 theorems is satisfiable.  Replacement and single-pass
sampling: the identity script of `C11_reachable` (followed by two placeholders for the normal
draws under smoothing); proportion sampling: the first `max(int(ratio·n), 1)` positions of each
class. -/
theorem C11_totality (s : Scores) (c : BootCfg) (h : c11p_Runnable s c) :
    ∃ script out, Run s c script out := by
  rcases h with hm | ⟨hm, hs⟩ | ⟨hm, ratio, hr, q1, q2⟩
  · by_cases hs : c.smoothing = true
    · obtain ⟨_, e2, e3⟩ := c11p_sampleIndices_identity_rest s c.byLabel false
        (RngState.init (identityScript s c.byLabel false ++ [[], []])) [[], []] rfl rfl
      refine ⟨identityScript s c.byLabel false ++ [[], []], ?_⟩
      apply Run.exists_of_isOk ((C11_result_ok_iff s c _).mpr (Or.inl hm))
      have key : ∀ n1 n2 : Nat, (draw (.normal n2) (draw (.normal n1) (sampleIndices s c.byLabel
          false (RngState.init (identityScript s c.byLabel false ++ [[], []]))).2).2).2.ok
          = true := by
        intro n1 n2
        obtain ⟨_, q1, k1⟩ := draw_cons (r := .normal n1) e3 e2 rfl
        exact (draw_cons (r := .normal n2) q1 k1 rfl).2.2
      simp only [runSample, bootstrapSample, hm, hs, if_true]
      exact key _ _
    · obtain ⟨script, out, hrun, _⟩ := C11_reachable s c (by simpa using hs) (Or.inl hm)
      exact ⟨script, out, hrun⟩
  · obtain ⟨script, out, hrun, _⟩ := C11_reachable s c hs (Or.inr hm)
    exact ⟨script, out, hrun⟩
  · refine ⟨[List.range (proportionSize c ratio s.pos.length),
      List.range (proportionSize c ratio s.neg.length)], ?_⟩
    apply Run.exists_of_isOk
      ((C11_result_ok_iff s c _).mpr (Or.inr (Or.inr ⟨hm, ratio, hr, q1, q2⟩)))
    have f1 := c11p_choiceFrom_feasible (c11p_proportionSize_pos c ratio s.pos.length) q1
    have f2 := c11p_choiceFrom_feasible (c11p_proportionSize_pos c ratio s.neg.length) q2
    obtain ⟨_, r1, k1⟩ := draw_cons
      (r := Req.choiceFrom s.pos.length (some (proportionSize c ratio s.pos.length)) false)
      (st := RngState.init [List.range (proportionSize c ratio s.pos.length),
        List.range (proportionSize c ratio s.neg.length)]) rfl rfl (c11p_inRange_choiceFrom q1)
    have k2 := (draw_cons
      (r := Req.choiceFrom s.neg.length (some (proportionSize c ratio s.neg.length)) false)
      r1 k1 (c11p_inRange_choiceFrom q2)).2.2
    simp only [runSample, bootstrapSample, hm, hr, f1, f2, Bool.not_true, Bool.false_eq_true,
      if_false]
    exact k2

/-- **C11 (totality, exact).** A script on which the run returns a sample and is `ok` exists
exactly for the runnable configurations. -/
theorem C11_totality_iff (s : Scores) (c : BootCfg) :
    (∃ script out, Run s c script out) ↔ c11p_Runnable s c := by
  refine ⟨?_, C11_totality s c⟩
  rintro ⟨script, out, h1, _⟩
  apply (C11_result_ok_iff s c script).mp
  rw [h1]; rfl

/-- **C11 (totality of the request stream).** Replacement and single-pass sampling, smoothing or
not (single-pass sampling with smoothing draws first and raises afterwards): there is a script on
which the run is `ok` — the hypothesis of `C11_mean` and `C11_dynamic_requests` is satisfiable. -/
theorem C11_totality_ok (s : Scores) (c : BootCfg)
    (hm : samplingMethod s c = .replacement ∨ samplingMethod s c = .singlePass) :
    ∃ script, (runSample s c script).2.ok = true := by
  rcases hm with hm | hm
  · obtain ⟨script, out, hrun⟩ := C11_totality s c (Or.inl hm)
    exact ⟨script, hrun.2⟩
  · obtain ⟨_, e2⟩ := sampleIndices_identity s c.byLabel true
      (RngState.init (identityScript s c.byLabel true)) rfl rfl
    refine ⟨identityScript s c.byLabel true, ?_⟩
    simp only [runSample, bootstrapSample, hm]
    split <;> exact e2

/-! ## Non-vacuity and the concrete ill-formed requests -/

/-- `c11p_Good` (hypothesis of the step lemmas) holds of every initial state: `c11p_init_good`.
`c11p_Pre` holds of every replacement / single-pass / dynamic configuration: -/
example (s : Scores) (b sm : Bool) (r : Option Rat) (f : Rat → Nat → Rat) :
    c11p_Pre s ⟨.replacement, b, sm, r, f⟩ ∧ c11p_Pre s ⟨.singlePass, b, sm, r, f⟩ ∧
    c11p_Pre s ⟨.dynamic, b, sm, r, f⟩ := by
  refine ⟨c11p_Pre_of_ne _ _ ?_, c11p_Pre_of_ne _ _ ?_, c11p_Pre_of_ne _ _ ?_⟩
  · simp [samplingMethod]
  · simp [samplingMethod]
  · intro h
    unfold samplingMethod at h
    rw [if_neg (by simp)] at h
    split at h <;> cases h

/-- ... and of a proportion configuration (hypotheses of `c11p_Pre_of_nonempty`, hence of
`C11_progress`, `C11_progress_prefix`, `C11_progress_ok`): ratio 1/2 of 4 positives, 3 negatives -/
example : c11p_Pre ⟨[1, 2, 2, 5], [0, 1, 7], 3, 0, ⟨.pos, .pos⟩⟩
    ⟨.proportion, false, false, some (1 / 2), fun r n => r * n⟩ := by
  apply c11p_Pre_of_nonempty
  · simp
  · simp
  · intro ratio h
    obtain rfl : (1 / 2 : Rat) = ratio := Option.some.inj h
    constructor <;> decide +kernel

/-- hypotheses of `C11_progress_prefix`: a split of a concrete run after an in-support answer -/
example : ∃ pre post r x,
    (runSample ⟨[1, 2, 2, 5], [0, 1, 7], 3, 0, ⟨.pos, .pos⟩⟩
      ⟨.proportion, false, false, some (1 / 2), fun r n => r * n⟩ [[3, 1], [2]]).2.paired
      = pre ++ (r, x) :: post ∧ pre ≠ [] ∧ ∀ q ∈ pre, q.1.inRange q.2 = true :=
  ⟨[(.choiceFrom 4 (some 2) false, [3, 1])], [], .choiceFrom 3 (some 1) false, [2],
    by decide +kernel, by simp, by decide +kernel⟩

/-- hypotheses of `C11_progress_ok`: every replacement / single-pass configuration has an `ok`
run (`C11_totality_ok`); the runnable proportion configurations by `C11_totality` -/
example (s : Scores) (c : BootCfg)
    (hm : samplingMethod s c = .replacement ∨ samplingMethod s c = .singlePass) :
    c11p_Pre s c ∧ ∃ script, (runSample s c script).2.ok = true :=
  ⟨c11p_Pre_of_ne s c (by rcases hm with h | h <;> rw [h] <;> simp), C11_totality_ok s c hm⟩

/-- `c11p_Runnable` (hypothesis of `C11_totality`): every replacement configuration, ... -/
example (s : Scores) (b sm : Bool) (r : Option Rat) (f : Rat → Nat → Rat) :
    c11p_Runnable s ⟨.replacement, b, sm, r, f⟩ := Or.inl (by simp [samplingMethod])

/-- ... and a proportion configuration -/
example : c11p_Runnable ⟨[1, 2, 2, 5], [0, 1, 7], 3, 0, ⟨.pos, .pos⟩⟩
    ⟨.proportion, false, false, some (1 / 2), fun r n => r * n⟩ :=
  Or.inr (Or.inr ⟨by decide +kernel, 1 / 2, rfl, by decide +kernel, by decide +kernel⟩)

/-- An empty class is harmless under single-pass sampling (and under replacement sampling): no
scored positives, non-stratified, every answer in its support; the five requests
`binomial(2, 0)`, `binomial(0, 0)`, `binomial(2, 0)`, `binomial(n=0, p=1, size=0)` and
`binomial(n=2, p=1/2, size=2)` are well-formed, and `choice(0)` is NOT issued. -/
example : (runSample ⟨[], [1, 2], 0, 0, ⟨.pos, .pos⟩⟩
      ⟨.singlePass, false, false, none, fun r n => r * n⟩ [[0], [0], [0], [], [1, 1]]).2.ok = true ∧
    (runSample ⟨[], [1, 2], 0, 0, ⟨.pos, .pos⟩⟩
      ⟨.singlePass, false, false, none, fun r n => r * n⟩ [[0], [0], [0], [], [1, 1]]).2.requests =
    [.binomial 2 0 none, .binomial 0 0 none, .binomial 2 0 none, .binomial 0 1 (some 0),
      .binomial 2 (1 / 2) (some 2)] := by
  constructor <;> decide +kernel

/-- **Ill-formed request 1** (hypotheses of `C11_progress_proportion_fails`): proportion
sampling of a source without scored positives asks for `choice(<empty array>, size=1,
replace=False)`.  Python:
`Scores(pos=[], neg=[1.0]).bootstrap_sample(BootstrapConfig(sampling_method="proportion", ratio=0.5))`
raises `ValueError` in `np.random.choice`. -/
example : c11p_progressOK (runSample ⟨[], [1], 0, 0, ⟨.pos, .pos⟩⟩
      ⟨.proportion, false, false, some (1 / 2), fun r n => r * n⟩ [[0], [0]]).2.paired = false ∧
    (runSample ⟨[], [1], 0, 0, ⟨.pos, .pos⟩⟩
      ⟨.proportion, false, false, some (1 / 2), fun r n => r * n⟩ [[0], [0]]).2.requests =
      [.choiceFrom 0 (some 1) false] ∧
    (Req.choiceFrom 0 (some 1) false).WF = false ∧
    (runSample ⟨[], [1], 0, 0, ⟨.pos, .pos⟩⟩
      ⟨.proportion, false, false, some (1 / 2), fun r n => r * n⟩ [[0], [0]]).1.isOk
      = false := by
  refine ⟨?_, ?_, ?_, ?_⟩ <;> decide +kernel

example : samplingMethod ⟨[], [1], 0, 0, ⟨.pos, .pos⟩⟩
      ⟨.proportion, false, false, some (1 / 2), fun r n => r * n⟩ = .proportion ∧
    ([] : List Rat).length < proportionSize
      ⟨.proportion, false, false, some (1 / 2), fun r n => r * n⟩ (1 / 2) 0 := by
  constructor <;> decide +kernel

/-- **Ill-formed request 2**: a ratio above 1 asks for more scored samples than the class holds:
`choice(<2 values>, size=3, replace=False)`.  Python:
`Scores(pos=[1.0, 2.0], neg=[0.0]).bootstrap_sample(BootstrapConfig(sampling_method="proportion", ratio=1.5))`
raises `ValueError` in `np.random.choice`. -/
example : c11p_progressOK (runSample ⟨[1, 2], [0], 0, 0, ⟨.pos, .pos⟩⟩
      ⟨.proportion, false, false, some (3 / 2), fun r n => r * n⟩ [[0, 1, 2], [0]]).2.paired
      = false ∧
    (runSample ⟨[1, 2], [0], 0, 0, ⟨.pos, .pos⟩⟩
      ⟨.proportion, false, false, some (3 / 2), fun r n => r * n⟩ [[0, 1, 2], [0]]).2.requests =
      [.choiceFrom 2 (some 3) false] := by
  constructor <;> decide +kernel

/-- **Ill-formed request 3** (hypotheses of `c11p_proportion_fails_neg`): no scored negatives;
the first request is fine and answered in its support, the second is
`choice(<empty array>, size=1, replace=False)`.  Python:
`Scores(pos=[1.0, 2.0], neg=[]).bootstrap_sample(BootstrapConfig(sampling_method="proportion", ratio=0.5))`
raises `ValueError` in the second `np.random.choice`. -/
example : c11p_progressOK (runSample ⟨[1, 2], [], 0, 0, ⟨.pos, .pos⟩⟩
      ⟨.proportion, false, false, some (1 / 2), fun r n => r * n⟩ [[0]]).2.paired = false ∧
    (runSample ⟨[1, 2], [], 0, 0, ⟨.pos, .pos⟩⟩
      ⟨.proportion, false, false, some (1 / 2), fun r n => r * n⟩ [[0]]).2.paired =
      [(.choiceFrom 2 (some 1) false, [0]), (.choiceFrom 0 (some 1) false, [])] := by
  constructor <;> decide +kernel

example : samplingMethod ⟨[1, 2], [], 0, 0, ⟨.pos, .pos⟩⟩
      ⟨.proportion, false, false, some (1 / 2), fun r n => r * n⟩ = .proportion ∧
    proportionSize ⟨.proportion, false, false, some (1 / 2), fun r n => r * n⟩ (1 / 2) 2 ≤ 2 ∧
    ([] : List Rat).length < proportionSize
      ⟨.proportion, false, false, some (1 / 2), fun r n => r * n⟩ (1 / 2) 0 := by
  refine ⟨?_, ?_, ?_⟩ <;> decide +kernel

/-- Progress says nothing after an out-of-support answer, and indeed cannot: non-stratified
replacement sampling of a source without positives, class split answered `1` (outside the support
of `Bin(2, 0)`); the model goes on to request `choice(0, size=1)`.  NumPy cannot give that
answer. -/
example : (runSample ⟨[], [1, 2], 0, 0, ⟨.pos, .pos⟩⟩
      ⟨.replacement, false, false, none, fun r n => r * n⟩ [[1], [0], [0], [0], [0]]).2.requests =
    [.binomial 2 0 none, .binomial 1 0 none, .binomial 1 0 none, .choice 0 (some 1) true,
      .choice 2 (some 1) true] ∧
    (Req.binomial 2 0 none).inRange [1] = false ∧ (Req.choice 0 (some 1) true).WF = false ∧
    c11p_progressOK (runSample ⟨[], [1, 2], 0, 0, ⟨.pos, .pos⟩⟩
      ⟨.replacement, false, false, none, fun r n => r * n⟩ [[1], [0], [0], [0], [0]]).2.paired
      = true := by
  refine ⟨?_, ?_, ?_, ?_⟩ <;> decide +kernel

end SA

/-
C11, clause "Resampling is unbiased: every source score ... wherever the at-least-one correction is
not triggered, appears once per sample on average with expected class and stratum sizes equal to
the source's" — with an EXPECTATION SEMANTICS of the sampling model.

Set-up (SA/Model/SamplingM.lean)
* `sampleIndicesM R s byLabel singlePass : M Indices` is `Scores._sample_indices` written once over
  an arbitrary monad `M` with one primitive `R.draw : Req → M (List Nat)`;
  `sampleIndicesU` is the same program without the "at least one ..." corrections.
* `stateRng` runs it on a script of RNG answers, `exRng E` computes expectations from an oracle
  `E : Req → (List Nat → ℚ) → ℚ`; an expectation is `X k` for `X : Ex α = (α → ℚ) → ℚ` and an
  integrand `k : α → ℚ`.
* `Lawful E` (linearity, normalisation, support, means of Binomial / Poisson / uniform choice)
  is the trusted statement of the textbook facts about NumPy's primitives.

Results
* `c11u_sampleIndicesM_state`     on scripts the monadic program IS `SA.sampleIndices` (the model the
                                  harness compares with the real code call by call);
* `c11u_corrected_eq_uncorrected` on every script that triggers no correction (`noCorrection`, an
                                  explicit decidable predicate on the drawn values) the corrected
                                  and the uncorrected program return the same indices and state;
* `c11u_byLabel_replacement`      by_label + replacement (the program as written, it contains no
                                  correction): every index has expected multiplicity 1 and the
                                  strata are the source's, deterministically;
* `c11u_strata_means`             non-stratified: `E[nb_pos] = nb_all_pos`, `E[nb_easy_pos] =
                                  nb_easy_pos`, `E[nb_hard_pos] = len(pos)` (and negatives);
* `c11u_replacement_multiplicity`, `c11u_singlePass_given`, `c11u_singlePass_multiplicity`;
* `C11_unbiased`                  all modes at once, in the words of the property: its parts are
                                  `c11u_posMultiplicity`, `c11u_negMultiplicity`, `c11u_sizes`
                                  (the mean given the strata is affine in the strata, and then
                                  `c11u_sampleIndicesU_affine`);
* `c11u_simpleOracle_lawful`      the laws are satisfiable (SA/Proofs/SamplingMix.lean).

No side condition on the source is needed beyond `i < len(pos)` (resp. `j < len(neg)`): the
degenerate cases (`nb_all_samples = 0`, a class without scored samples, a class with only easy
samples, easy ratio of an empty class `= 1 - 1.0 = 0`) are covered because on the SUPPORT of the
three binomials a class without scored samples in the source never asks `choice(0, size>0)`
(`StrataSupp`, `c11u_strataSupp_of_inRange`).
-/
import SA.Proofs.SamplingM
import SA.Proofs.SamplingMix

namespace SA.C11U
open SA

variable {E : Oracle}

/-! ## 1. Refinement: scripts -/

/-- **Refinement.**  Instantiated with the script-state monad, the monadic program is exactly the
model `SA.sampleIndices`: same indices, same final `RngState` (responses left, trace, `ok` flag). -/
theorem c11u_sampleIndicesM_state (s : Scores) (byLabel singlePass : Bool) (st : RngState) :
    sampleIndicesM stateRng s byLabel singlePass st = sampleIndices s byLabel singlePass st := by
  cases singlePass with
  | false => cases byLabel <;> rfl
  | true =>
    unfold sampleIndices
    simp only [if_true, ← c11u_strataForM_state, ← c11u_forceOneM_state]
    rfl

/-- **Corrected = uncorrected off the corrections.**  On every script on which none of the
at-least-one corrections fires, the program as written and the uncorrected program return the same
indices, issue the same requests and leave the same state. -/
theorem c11u_corrected_eq_uncorrected (s : Scores) (byLabel singlePass : Bool) (st : RngState)
    (h : noCorrection s byLabel singlePass st.responses = true) :
    sampleIndicesM stateRng s byLabel singlePass st =
      sampleIndicesU stateRng s byLabel singlePass st := by
  simp only [noCorrection, Bool.and_eq_true, Bool.or_eq_true, Bool.not_eq_true'] at h
  obtain ⟨hs, hc⟩ := h
  obtain ⟨e, ehp, ehn, er⟩ := c11u_strataFor_eq s byLabel st (by simpa using hs)
  rw [c11u_sampleIndicesM_run, c11u_sampleIndicesU_run, e]
  cases singlePass with
  | false => rfl
  | true =>
    have hc' := hc.resolve_left (by simp)
    simp only [↓reduceIte]
    refine c11u_singlePass_eq s _ _ ?_ ?_
    · rw [ehp, er, c11u_getD_drop]; exact hc'.1
    · rw [ehn, er, c11u_getD_drop]; exact hc'.2

/-- the same, for a run of `sampleIndices` from the start of a script -/
theorem c11u_sampleIndices_uncorrected (s : Scores) (byLabel singlePass : Bool)
    (script : List (List Nat)) (h : noCorrection s byLabel singlePass script = true) :
    sampleIndices s byLabel singlePass (RngState.init script) =
      sampleIndicesU stateRng s byLabel singlePass (RngState.init script) := by
  rw [← c11u_sampleIndicesM_state]
  exact c11u_corrected_eq_uncorrected s byLabel singlePass _ h

/-- by_label + replacement contains no correction at all: in EVERY monad the program as written
and the uncorrected program coincide -/
theorem c11u_byLabel_replacement_no_correction {M : Type → Type} [Monad M] (R : RngM M)
    (s : Scores) : sampleIndicesM R s true false = sampleIndicesU R s true false := rfl

/-! ## 2. Expectations -/

/-- given the strata: expected multiplicity of a positive index is `n_drawn / len(pos)` -/
theorem c11u_part_posCount (L : Lawful E) (s : Scores) (singlePass : Bool) (a : Strata)
    (ha : StrataSupp s a) (i : Nat) (hi : i < s.pos.length) :
    partU E s singlePass a (fun r => ((r.idxPos.count i : Nat) : ℚ)) =
      (a.hardPos : ℚ) / (s.pos.length : ℚ) := by
  rw [c11u_partU_ex]
  dsimp only
  -- the inner (negative) request integrates a constant: `norm`, which asks that it be feasible
  rw [funext fun x1 => L.norm _ _ (c11u_classReq_feasible singlePass ha.2.2)]
  exact c11u_classReq_count L _ _ _ _ hi

theorem c11u_part_negCount (L : Lawful E) (s : Scores) (singlePass : Bool) (a : Strata)
    (ha : StrataSupp s a) (j : Nat) (hj : j < s.neg.length) :
    partU E s singlePass a (fun r => ((r.idxNeg.count j : Nat) : ℚ)) =
      (a.hardNeg : ℚ) / (s.neg.length : ℚ) := by
  rw [c11u_partU_ex]
  dsimp only
  rw [L.norm _ _ (c11u_classReq_feasible singlePass ha.2.1)]
  exact c11u_classReq_count L _ _ _ _ hj

theorem c11u_part_size (L : Lawful E) (s : Scores) (singlePass : Bool) (a : Strata)
    (ha : StrataSupp s a) (u v u' v' : ℚ) :
    partU E s singlePass a (fun r => u * ((r.idxPos.length : Nat) : ℚ) + v * (r.easyPos : ℚ) +
        (u' * ((r.idxNeg.length : Nat) : ℚ) + v' * (r.easyNeg : ℚ))) =
      u * (a.hardPos : ℚ) + v * (a.easyPos : ℚ) +
        (u' * (a.hardNeg : ℚ) + v' * (a.easyNeg : ℚ)) := by
  rw [c11u_partU_ex]
  dsimp only
  rw [funext fun x1 => L.affine _ (c11u_classReq_feasible singlePass ha.2.2) u'
      (u * (((classIdx singlePass x1).length : Nat) : ℚ) + v * (a.easyPos : ℚ) +
        v' * (a.easyNeg : ℚ))
      (fun x => (((classIdx singlePass x).length : Nat) : ℚ)) _ (fun x _ => by ring),
    c11u_classReq_length L _ _ _ ha.2.2,
    L.affine _ (c11u_classReq_feasible singlePass ha.2.1) u
      (v * (a.easyPos : ℚ) + (u' * (a.hardNeg : ℚ) + v' * (a.easyNeg : ℚ)))
      (fun x => (((classIdx singlePass x).length : Nat) : ℚ)) _ (fun x _ => by ring),
    c11u_classReq_length L _ _ _ ha.2.1]
  ring

/-- **Non-stratified, uncorrected: the strata.**  `E[nb_pos] = nb_all_pos`,
`E[nb_easy_pos] = nb_easy_pos`, `E[nb_hard_pos] = len(pos)`, and the same for negatives — for every
source (also `nb_all_samples = 0`, empty classes, classes without scored or without easy
samples). -/
theorem c11u_strata_means (L : Lawful E) (s : Scores) :
    drawStrataU (exRng E) s (fun a => (a.hardPos : ℚ) + (a.easyPos : ℚ)) = (s.nbAllPos : ℚ) ∧
    drawStrataU (exRng E) s (fun a => (a.easyPos : ℚ)) = (s.easyPos : ℚ) ∧
    drawStrataU (exRng E) s (fun a => (a.hardPos : ℚ)) = (s.pos.length : ℚ) ∧
    drawStrataU (exRng E) s (fun a => (a.hardNeg : ℚ) + (a.easyNeg : ℚ)) = (s.nbAllNeg : ℚ) ∧
    drawStrataU (exRng E) s (fun a => (a.easyNeg : ℚ)) = (s.easyNeg : ℚ) ∧
    drawStrataU (exRng E) s (fun a => (a.hardNeg : ℚ)) = (s.neg.length : ℚ) := by
  have key := fun α β γ δ => c11u_drawStrataU_affine L s _ α β γ δ 0 fun _ => rfl
  have hP : (s.nbAllPos : ℚ) = (s.pos.length : ℚ) + (s.easyPos : ℚ) := by
    rw [Scores.nbAllPos, Nat.cast_add, add_comm]
  have hQ : (s.nbAllNeg : ℚ) = (s.neg.length : ℚ) + (s.easyNeg : ℚ) := by
    rw [Scores.nbAllNeg, Nat.cast_add, add_comm]
  rw [hP, hQ]
  -- the six instances of the affine lemma, coefficients `0` and `1`
  simpa only [one_mul, zero_mul, add_zero, zero_add] using
    (⟨key 1 1 0 0, key 0 1 0 0, key 1 0 0 0, key 0 0 1 1, key 0 0 0 1, key 0 0 1 0⟩ :
      _ ∧ _ ∧ _ ∧ _ ∧ _ ∧ _)

theorem c11u_posMultiplicity (L : Lawful E) (s : Scores) (byLabel singlePass : Bool)
    (i : Nat) (hi : i < s.pos.length) :
    sampleIndicesU (exRng E) s byLabel singlePass
      (fun r => ((r.idxPos.count i : Nat) : ℚ)) = 1 := by
  have h0 : (s.pos.length : ℚ) ≠ 0 := by exact_mod_cast (by omega : s.pos.length ≠ 0)
  rw [c11u_sampleIndicesU_affine L s byLabel singlePass _ (1 / (s.pos.length : ℚ)) 0 0 0 0
    (fun a ha => by rw [c11u_part_posCount L s singlePass a ha i hi]; ring)]
  rw [one_div_mul_cancel h0]; ring

theorem c11u_negMultiplicity (L : Lawful E) (s : Scores) (byLabel singlePass : Bool)
    (j : Nat) (hj : j < s.neg.length) :
    sampleIndicesU (exRng E) s byLabel singlePass
      (fun r => ((r.idxNeg.count j : Nat) : ℚ)) = 1 := by
  have h0 : (s.neg.length : ℚ) ≠ 0 := by exact_mod_cast (by omega : s.neg.length ≠ 0)
  rw [c11u_sampleIndicesU_affine L s byLabel singlePass _ 0 0 (1 / (s.neg.length : ℚ)) 0 0
    (fun a ha => by rw [c11u_part_negCount L s singlePass a ha j hj]; ring)]
  rw [one_div_mul_cancel h0]; ring

/-- **by_label + replacement** (the program AS WRITTEN): every scored positive / negative of the
source has expected multiplicity 1 in the sample, and the four stratum sizes are the source's with
certainty (any function `g` of them has the value at the source's sizes as its mean). -/
theorem c11u_byLabel_replacement (L : Lawful E) (s : Scores) :
    (∀ i, i < s.pos.length →
      sampleIndicesM (exRng E) s true false (fun r => ((r.idxPos.count i : Nat) : ℚ)) = 1) ∧
    (∀ j, j < s.neg.length →
      sampleIndicesM (exRng E) s true false (fun r => ((r.idxNeg.count j : Nat) : ℚ)) = 1) ∧
    (∀ g : Nat → Nat → Nat → Nat → ℚ,
      sampleIndicesM (exRng E) s true false
        (fun r => g r.idxPos.length r.idxNeg.length r.easyPos r.easyNeg) =
        g s.pos.length s.neg.length s.easyPos s.easyNeg) := by
  have e := c11u_byLabel_replacement_no_correction (exRng E) s
  refine ⟨fun i hi => (congrFun e _).trans (c11u_posMultiplicity L s true false i hi),
    fun j hj => (congrFun e _).trans (c11u_negMultiplicity L s true false j hj), fun g => ?_⟩
  show E (.choice s.pos.length (some s.pos.length) true) (fun d1 =>
    E (.choice s.neg.length (some s.neg.length) true) (fun d2 =>
      g d1.length d2.length s.easyPos s.easyNeg)) = _
  rw [funext fun d1 : List Nat => c11u_choice_length L s.neg.length s.neg.length (fun h => h)
    (fun n => g d1.length n s.easyPos s.easyNeg)]
  exact c11u_choice_length L _ _ (fun h => h) (fun n => g n s.neg.length s.easyPos s.easyNeg)

/-- **Non-stratified + replacement, uncorrected**: every scored sample of the source has expected
multiplicity 1 (tower property: the inner mean `nb_hard_pos / len(pos)` is affine in the strata,
whose means are the source's). -/
theorem c11u_replacement_multiplicity (L : Lawful E) (s : Scores) :
    (∀ i, i < s.pos.length →
      sampleIndicesU (exRng E) s false false (fun r => ((r.idxPos.count i : Nat) : ℚ)) = 1) ∧
    (∀ j, j < s.neg.length →
      sampleIndicesU (exRng E) s false false (fun r => ((r.idxNeg.count j : Nat) : ℚ)) = 1) :=
  ⟨fun i hi => c11u_posMultiplicity L s false false i hi,
   fun j hj => c11u_negMultiplicity L s false false j hj⟩

/-- **Single pass, given the strata** (binomial branch `n < 100` and Poisson branch alike),
uncorrected: the expected multiplicity of every scored sample is `n_drawn / class size`. -/
theorem c11u_singlePass_given (L : Lawful E) (s : Scores) (a : Strata) :
    (∀ i, i < s.pos.length →
      singlePassPartU (exRng E) s a (fun r => ((r.idxPos.count i : Nat) : ℚ)) =
        (a.hardPos : ℚ) / (s.pos.length : ℚ)) ∧
    (∀ j, j < s.neg.length →
      singlePassPartU (exRng E) s a (fun r => ((r.idxNeg.count j : Nat) : ℚ)) =
        (a.hardNeg : ℚ) / (s.neg.length : ℚ)) := by
  refine ⟨fun i hi => ?_, fun j hj => ?_⟩
  · rw [c11u_singlePassPartU_ex]
    rw [show (fun c1 => E (singlePassReq s.neg.length a.hardNeg) (fun c2 =>
        (((Indices.mk (repeatIdx c1) (repeatIdx c2) a.easyPos a.easyNeg).idxPos.count i : Nat) : ℚ)))
      = (fun c1 => (((repeatIdx c1).count i : Nat) : ℚ)) from funext fun c1 =>
        L.norm _ (((repeatIdx c1).count i : Nat) : ℚ) (c11p_singlePassReq_feasible _ _)]
    exact c11u_singlePass_count L _ _ _ hi
  · rw [c11u_singlePassPartU_ex]
    rw [L.norm _ (E (singlePassReq s.neg.length a.hardNeg)
      (fun c2 => (((repeatIdx c2).count j : Nat) : ℚ))) (c11p_singlePassReq_feasible _ _)]
    exact c11u_singlePass_count L _ _ _ hj

/-- **Single pass, uncorrected**: hence 1 under by_label (`n_drawn = class size`) and 1 in
expectation when non-stratified. -/
theorem c11u_singlePass_multiplicity (L : Lawful E) (s : Scores) (byLabel : Bool) :
    (∀ i, i < s.pos.length →
      sampleIndicesU (exRng E) s byLabel true (fun r => ((r.idxPos.count i : Nat) : ℚ)) = 1) ∧
    (∀ j, j < s.neg.length →
      sampleIndicesU (exRng E) s byLabel true (fun r => ((r.idxNeg.count j : Nat) : ℚ)) = 1) :=
  ⟨fun i hi => c11u_posMultiplicity L s byLabel true i hi,
   fun j hj => c11u_negMultiplicity L s byLabel true j hj⟩

theorem c11u_sizes_lin (L : Lawful E) (s : Scores) (byLabel singlePass : Bool) (u v u' v' : ℚ) :
    sampleIndicesU (exRng E) s byLabel singlePass
      (fun r => u * ((r.idxPos.length : Nat) : ℚ) + v * (r.easyPos : ℚ) +
        (u' * ((r.idxNeg.length : Nat) : ℚ) + v' * (r.easyNeg : ℚ))) =
      u * (s.pos.length : ℚ) + v * (s.easyPos : ℚ) +
        (u' * (s.neg.length : ℚ) + v' * (s.easyNeg : ℚ)) := by
  rw [c11u_sampleIndicesU_affine L s byLabel singlePass _ u v u' v' 0 (fun a ha => by
    rw [c11u_part_size L s singlePass a ha]; ring)]
  ring

theorem c11u_sizes (L : Lawful E) (s : Scores) (byLabel singlePass : Bool) :
    sampleIndicesU (exRng E) s byLabel singlePass (fun r => ((r.idxPos.length : Nat) : ℚ)) =
      (s.pos.length : ℚ) ∧
    sampleIndicesU (exRng E) s byLabel singlePass (fun r => ((r.idxNeg.length : Nat) : ℚ)) =
      (s.neg.length : ℚ) ∧
    sampleIndicesU (exRng E) s byLabel singlePass (fun r => (r.easyPos : ℚ)) = (s.easyPos : ℚ) ∧
    sampleIndicesU (exRng E) s byLabel singlePass (fun r => (r.easyNeg : ℚ)) = (s.easyNeg : ℚ) ∧
    sampleIndicesU (exRng E) s byLabel singlePass
      (fun r => ((r.idxPos.length : Nat) : ℚ) + (r.easyPos : ℚ)) = (s.nbAllPos : ℚ) ∧
    sampleIndicesU (exRng E) s byLabel singlePass
      (fun r => ((r.idxNeg.length : Nat) : ℚ) + (r.easyNeg : ℚ)) = (s.nbAllNeg : ℚ) := by
  have p := c11u_sizes_lin L s byLabel singlePass
  have hP : (s.nbAllPos : ℚ) = (s.pos.length : ℚ) + (s.easyPos : ℚ) := by
    rw [Scores.nbAllPos, Nat.cast_add, add_comm]
  have hQ : (s.nbAllNeg : ℚ) = (s.neg.length : ℚ) + (s.easyNeg : ℚ) := by
    rw [Scores.nbAllNeg, Nat.cast_add, add_comm]
  rw [hP, hQ]
  -- the six instances of the linear lemma, coefficients `0` and `1`
  simpa only [one_mul, zero_mul, add_zero, zero_add] using
    (⟨p 1 0 0 0, p 0 0 1 0, p 0 1 0 0, p 0 0 0 1, p 1 1 0 0, p 0 0 1 1⟩ : _ ∧ _ ∧ _ ∧ _ ∧ _ ∧ _)

/-- **C11 (resampling is unbiased).**  For every lawful expectation oracle, every source and every
mode (stratified by label or not, replacement or single pass):

1. on every script of RNG answers on which no at-least-one correction fires, the model of
   `_sample_indices` (the one tied to the real code by the correspondence runs) computes exactly
   what the uncorrected program computes;
2. under the uncorrected program every scored positive and every scored negative of the source
   appears once per sample on average;
3. the expected stratum sizes (scored / easy, positive / negative) and the expected class sizes of
   the sample are the source's. -/
theorem C11_unbiased (L : Lawful E) (s : Scores) (byLabel singlePass : Bool) :
    (∀ script, noCorrection s byLabel singlePass script = true →
      sampleIndices s byLabel singlePass (RngState.init script) =
        sampleIndicesU stateRng s byLabel singlePass (RngState.init script)) ∧
    (∀ i, i < s.pos.length →
      sampleIndicesU (exRng E) s byLabel singlePass
        (fun r => ((r.idxPos.count i : Nat) : ℚ)) = 1) ∧
    (∀ j, j < s.neg.length →
      sampleIndicesU (exRng E) s byLabel singlePass
        (fun r => ((r.idxNeg.count j : Nat) : ℚ)) = 1) ∧
    sampleIndicesU (exRng E) s byLabel singlePass (fun r => ((r.idxPos.length : Nat) : ℚ)) =
      (s.pos.length : ℚ) ∧
    sampleIndicesU (exRng E) s byLabel singlePass (fun r => ((r.idxNeg.length : Nat) : ℚ)) =
      (s.neg.length : ℚ) ∧
    sampleIndicesU (exRng E) s byLabel singlePass (fun r => (r.easyPos : ℚ)) = (s.easyPos : ℚ) ∧
    sampleIndicesU (exRng E) s byLabel singlePass (fun r => (r.easyNeg : ℚ)) = (s.easyNeg : ℚ) ∧
    sampleIndicesU (exRng E) s byLabel singlePass
      (fun r => ((r.idxPos.length : Nat) : ℚ) + (r.easyPos : ℚ)) = (s.nbAllPos : ℚ) ∧
    sampleIndicesU (exRng E) s byLabel singlePass
      (fun r => ((r.idxNeg.length : Nat) : ℚ) + (r.easyNeg : ℚ)) = (s.nbAllNeg : ℚ) :=
  ⟨fun script h => c11u_sampleIndices_uncorrected s byLabel singlePass script h,
   fun i hi => c11u_posMultiplicity L s byLabel singlePass i hi,
   fun j hj => c11u_negMultiplicity L s byLabel singlePass j hj,
   c11u_sizes L s byLabel singlePass⟩

/-! ## 3. Non-vacuity -/

/-- the laws are jointly satisfiable -/
example : ∃ E : Oracle, Lawful E := ⟨simpleOracle, c11u_simpleOracle_lawful⟩

/-- a source with scored and easy samples in both classes: hypotheses `i < len(pos)`,
`j < len(neg)` are satisfiable, and so is `noCorrection` (here: the identity script, every mode) -/
example :
    let s : Scores := ⟨[1, 2, 3], [0, 1], 2, 1, ⟨.pos, .pos⟩⟩
    (1 < s.pos.length ∧ 0 < s.neg.length) ∧
    noCorrection s true false [[0, 1, 2], [0, 1]] = true ∧
    noCorrection s true true [[1, 1, 1], [1, 1]] = true ∧
    noCorrection s false false [[5], [2], [1], [0, 1, 2], [0, 1]] = true ∧
    noCorrection s false true [[5], [2], [1], [1, 1, 1], [1, 1]] = true ∧
    -- ... and a script on which a correction DOES fire is recognised
    noCorrection s false false [[0], [0], [1], [0], [0, 1, 1, 1, 1]] = false ∧
    noCorrection s true true [[0, 0, 0], [1, 1], [2]] = false := by
  decide +kernel

/-- `C11_unbiased` instantiated: the concrete oracle and a concrete source -/
example :
    sampleIndicesU (exRng simpleOracle) ⟨[1, 2, 3], [0, 1], 2, 1, ⟨.pos, .pos⟩⟩ false true
      (fun r => ((r.idxPos.count 1 : Nat) : ℚ)) = 1 :=
  (C11_unbiased c11u_simpleOracle_lawful ⟨[1, 2, 3], [0, 1], 2, 1, ⟨.pos, .pos⟩⟩ false true).2.1 1
    (by decide)

end SA.C11U

/-
C12 — group labels stay attached to their scores; groups partition the data.

Theorems about the model of `GroupScores` (SA/Model/Group.lean).  A labelled score is a pair
`(score, group code)`; "keeps its label" = the multiset of pairs is preserved / sampled pairs are
pairs of the source.  Sampling theorems hold for EVERY script on which the run is `ok` (every
request found an answer inside the support of the requested distribution).  Helper lemmas are in
SA/Proofs/Group.lean.
-/
import SA.Proofs.Group
import SA.Theorems.C08

namespace SA
open Spec.C12

/-! ### construction -/

/-- **C12 (sorting).** The constructor output holds a permutation of the input pairs of each class
— every score keeps the label it was given — sorted by score, with the given flags; the group list
is the explicit one, as is, or the sorted distinct labels. -/
theorem C12_sort_perm (pos neg : List (Rat × Nat)) (cfg : Cfg) (gn : Option (List Nat)) :
    let g := GScores.make pos neg cfg gn false
    g.pos.Perm pos ∧ g.neg.Perm neg ∧ GInv g ∧ g.cfg = cfg ∧
    (∀ l, gn = some l → g.groups = l) ∧
    (gn = none → g.groups = c12_defaultGroups pos neg ∧ g.groups.Pairwise (· < ·) ∧
      ∀ c, c ∈ g.groups ↔ ∃ p ∈ pos ++ neg, p.2 = c) := by
  refine ⟨c12_sortPairs_perm pos, c12_sortPairs_perm neg,
    c12_make_inv pos neg cfg gn false (fun h => absurd h (by simp)), rfl, ?_, ?_⟩
  · rintro l rfl; rfl
  · rintro rfl
    refine ⟨rfl, c12_codes_sorted _, fun c => ?_⟩
    show c ∈ c12_codes _ ↔ _
    rw [c12_mem_codes, List.mem_map]

/-- **C12 (is_sorted=True).** Under the caller's contract the arrays are taken as they are. -/
theorem C12_sorted_flag (pos neg : List (Rat × Nat)) (cfg : Cfg) (gn : Option (List Nat))
    (hp : pos.Pairwise (fun a b => a.1 ≤ b.1)) (hn : neg.Pairwise (fun a b => a.1 ≤ b.1)) :
    let g := GScores.make pos neg cfg gn true
    g.pos = pos ∧ g.neg = neg ∧ GInv g := ⟨rfl, rfl, hp, hn⟩

/-- `from_labels` splits by the label mask and constructs -/
theorem C12_from_labels (samples : List (Bool × Rat × Nat)) (cfg : Cfg) :
    let g := GScores.fromLabels samples cfg false
    g.pos.Perm ((samples.filter (fun s => s.1)).map (·.2)) ∧
    g.neg.Perm ((samples.filter (fun s => !s.1)).map (·.2)) ∧ GInv g :=
  ⟨c12_sortPairs_perm _, c12_sortPairs_perm _,
    c12_make_inv _ _ cfg none false (fun h => absurd h (by simp))⟩

/-! ### swap -/

theorem c12_cfg_swap_swap (c : Cfg) : c.swap.swap = c := by
  obtain ⟨a, b⟩ := c; cases a <;> cases b <;> rfl

/-- **C12 (swap).** The pairs move to the other class with their labels and order, the flags are
flipped, the object stays sorted; the group list becomes the DEFAULT list of the data (the code
does not forward `group_names`).  Swapping twice gives back arrays and flags, and the object
itself whenever its group list is the default one. -/
theorem C12_swap (g : GScores) :
    g.swap.pos = g.neg ∧ g.swap.neg = g.pos ∧ g.swap.cfg = g.cfg.swap ∧
    g.swap.groups = c12_defaultGroups g.pos g.neg ∧ (GInv g → GInv g.swap) ∧
    g.swap.swap.pos = g.pos ∧ g.swap.swap.neg = g.neg ∧ g.swap.swap.cfg = g.cfg ∧
    (g.groups = c12_defaultGroups g.pos g.neg → g.swap.swap = g) := by
  refine ⟨rfl, rfl, rfl, c12_defaultGroups_comm _ _, fun h => ⟨h.2, h.1⟩, rfl, rfl,
    c12_cfg_swap_swap _, fun hg => ?_⟩
  obtain ⟨p, n, c, gr⟩ := g
  simp only at hg
  subst hg
  show GScores.mk p n c.swap.swap (c12_defaultGroups p n) = _
  rw [c12_cfg_swap_swap]

/-- swapping exchanges rows and columns of every group matrix (C08 on each group) -/
theorem C12_swap_group_cm (g : GScores) (h : GInv g) (grp : Nat) (t : ERat) :
    Spec.C08.swapOK ((g.groupScores grp).cm t) ((g.swap.groupScores grp).cm t) = true :=
  C08_swap_cm (g.groupScores grp) (c12_groupScores_sorted h grp).1
    (c12_groupScores_sorted h grp).2 t

/-! ### indexing by a group -/

/-- **C12 (getitem).** `gs[grp]` exists exactly for the listed groups; it holds exactly the scores
whose label is `grp` — each with the multiplicity of the pair `(score, grp)` — in the order of the
held arrays, which is sorted (the filter of a sorted list is sorted, so `is_sorted=True` is
justified); no easy samples, the object's flags. -/
theorem C12_getitem (g : GScores) (grp : Nat) :
    (grp ∉ g.groups → g.getItem grp = .error .valueError) ∧
    (grp ∈ g.groups → ∃ s, g.getItem grp = .ok s ∧
      s.pos = c12_filterGroup g.pos grp ∧ s.neg = c12_filterGroup g.neg grp ∧
      (∀ x, s.pos.count x = g.pos.count (x, grp)) ∧ (∀ x, s.neg.count x = g.neg.count (x, grp)) ∧
      (∀ x, x ∈ s.pos ↔ (x, grp) ∈ g.pos) ∧ (∀ x, x ∈ s.neg ↔ (x, grp) ∈ g.neg) ∧
      s.easyPos = 0 ∧ s.easyNeg = 0 ∧ s.cfg = g.cfg ∧
      (GInv g → s.pos.Pairwise (· ≤ ·) ∧ s.neg.Pairwise (· ≤ ·))) := by
  constructor
  · intro h
    simp [GScores.getItem, h]
  · intro h
    refine ⟨g.groupScores grp, by simp [GScores.getItem, h], rfl, rfl,
      c12_count_filterGroup _ _, c12_count_filterGroup _ _, fun x => c12_mem_filterGroup,
      fun x => c12_mem_filterGroup, rfl, rfl, rfl, fun hi => c12_groupScores_sorted hi grp⟩

/-- **C12 (group matrices).** On a sorted object the matrix of every group, at every threshold
incl. ±inf and in all four configurations, is the count by the documented decision rule over the
scores carrying that label (C01). -/
theorem C12_group_cm (g : GScores) (h : GInv g) (t : ERat) :
    g.groupCm t = g.groups.map (fun grp =>
      countCM (c12_filterGroup g.pos grp) (c12_filterGroup g.neg grp) 0 0 g.cfg t) := by
  unfold GScores.groupCm
  apply List.map_congr_left
  intro grp _
  exact cm_eq_countCM_of_sorted (g.groupScores grp) (c12_groupScores_sorted h grp).1
    (c12_groupScores_sorted h grp).2 t

/-- the overall matrix is the count over all scores, labels ignored -/
theorem C12_overall_cm (g : GScores) (h : GInv g) (t : ERat) :
    g.overallCm t = countCM (g.pos.map (·.1)) (g.neg.map (·.1)) 0 0 g.cfg t :=
  cm_eq_countCM_of_sorted g.toScores (c12_toScores_sorted h).1 (c12_toScores_sorted h).2 t

/-- **C12 (partition).** If the group list is duplicate-free and contains every label occurring in
the data, the group matrices sum cell-wise to the overall matrix at every threshold. -/
theorem C12_partition (g : GScores) (h : GInv g) (hn : g.groups.Nodup)
    (hc : ∀ p ∈ g.pos ++ g.neg, p.2 ∈ g.groups) (t : ERat) :
    c12_sumCM (g.groupCm t) = g.overallCm t := by
  rw [C12_group_cm g h, C12_overall_cm g h]
  exact c12_sum_countCM g.groups hn g.pos g.neg
    (fun p hp => hc p (List.mem_append_left _ hp)) (fun p hp => hc p (List.mem_append_right _ hp))
    g.cfg t

/-- The precondition holds for the default group list: for every object built without
`group_names` the group matrices partition the overall matrix. -/
theorem C12_partition_default (pos neg : List (Rat × Nat)) (cfg : Cfg) (b : Bool)
    (hs : b = true → pos.Pairwise (fun a b => a.1 ≤ b.1) ∧ neg.Pairwise (fun a b => a.1 ≤ b.1))
    (t : ERat) :
    c12_sumCM ((GScores.make pos neg cfg none b).groupCm t) =
      (GScores.make pos neg cfg none b).overallCm t := by
  have hp := c12_make_perm pos neg cfg none b
  apply C12_partition _ (c12_make_inv pos neg cfg none b hs)
  · rw [c12_make_groups_none]; exact c12_defaultGroups_nodup _ _
  · intro p hp'
    rw [c12_make_groups_none]
    apply c12_defaultGroups_covers
    rcases List.mem_append.mp hp' with h' | h'
    · exact List.mem_append_left _ (hp.1.mem_iff.mp h')
    · exact List.mem_append_right _ (hp.2.mem_iff.mp h')

/-- … and for `swap()` of any sorted object, and for every sample whose source satisfies it (the
sample's labels are labels of the source and the list is forwarded): see `C12_sample_partition`. -/
theorem C12_partition_swap (g : GScores) (h : GInv g) (t : ERat) :
    c12_sumCM (g.swap.groupCm t) = g.swap.overallCm t :=
  C12_partition_default g.neg g.pos g.cfg.swap true (fun _ => ⟨h.2, h.1⟩) t

/-! ### the cache -/

/-- **C12 (cache).** Over ANY sequence of queries (`gs[g]` incl. unknown groups, `group_cm`,
`group_<rate>`, `cm`) started from a state whose cache is correct — in particular a fresh object —
every output equals the answer computed from the data alone, the cache stays correct and the
object is unchanged: outputs do not depend on the history. -/
theorem C12_cache (st : GState) (hc : CacheInv st) (qs : List GQuery) :
    (st.run qs).2 = qs.map st.g.answer ∧ CacheInv (st.run qs).1 ∧ (st.run qs).1.g = st.g :=
  c12_run_spec st hc qs

theorem C12_cache_fresh (g : GScores) (qs : List GQuery) :
    ((GState.fresh g).run qs).2 = qs.map g.answer :=
  (C12_cache (GState.fresh g) (c12_cacheInv_fresh g) qs).1

/-- history independence: the same query after two different histories gets the same answer -/
theorem C12_cache_history (g : GScores) (qs₁ qs₂ : List GQuery) (q : GQuery) :
    ((((GState.fresh g).run qs₁).1).step q).2 = ((((GState.fresh g).run qs₂).1).step q).2 := by
  have hf := c12_cacheInv_fresh g
  obtain ⟨_, a2, a3⟩ := C12_cache (GState.fresh g) hf qs₁
  obtain ⟨_, b2, b3⟩ := C12_cache (GState.fresh g) hf qs₂
  rw [(c12_step_spec _ a2 q).1, (c12_step_spec _ b2 q).1, a3, b3]

/-- a cache hit returns the very entry that was inserted (`gs[g] is gs[g]`) -/
theorem C12_cache_hit (st : GState) (grp : Nat) (h : grp ∈ st.g.groups) :
    ((st.fetch grp).1.fetch grp).1 = (st.fetch grp).1 ∧
    ((st.fetch grp).1.fetch grp).2 = (st.fetch grp).2 := by
  have hm : st.g.groups.contains grp = true := by simpa using h
  unfold GState.fetch
  simp only [hm, if_true]
  cases hl : st.cache.lookup grp with
  | some s => simp only [hm, hl, if_true, and_self]
  | none => simp only [hm, if_true, List.lookup_cons, beq_self_eq_true, and_self]

/-- **C12 (groupwise).** `groupwise(metric)(gs)` is the metric applied group by group, in the
order of `groups`, whatever the cache holds. -/
theorem C12_groupwise {α : Type} (metric : Scores → α) (st : GState) (hc : CacheInv st) :
    (st.groupwise metric).2 = .ok (st.g.groupwise metric) ∧
    st.g.groupwise metric = st.g.groups.map (fun grp => metric (st.g.groupScores grp)) ∧
    CacheInv (st.groupwise metric).1 := by
  obtain ⟨f1, f2, _⟩ := c12_fetchAll_spec st hc st.g.groups (fun _ h => h)
  refine ⟨?_, rfl, f2⟩
  simp only [GState.groupwise, f1, Except.map, GScores.groupwise, List.map_map, Function.comp_def]

/-- the twelve `group_<name>` methods are `groupwise` of the `Scores` method of the same name -/
theorem C12_group_rate (g : GScores) (n : RateName) (t : ERat) :
    g.groupRate n t = g.groupwise (fun s => s.rateByName n t) := by
  simp only [GScores.groupRate, GScores.groupCm, GScores.groupwise, List.map_map,
    Function.comp_def, Scores.rateByName, Scores.rate]

/-! ### sampling -/

/-- **C12 (names).** The sample carries the source's group list, same order. -/
theorem C12_names (g : GScores) (c : GBootCfg) (script : List (List Nat)) (out : GScores)
    (h : GRun g c script out) : out.groups = g.groups ∧ out.cfg = g.cfg :=
  ⟨h.facts.groups, h.facts.cfg⟩

/-- **C12 (labels attached).** In every mode (replacement / single-pass / dynamic × none /
by_label / by_group) and for every in-support script, every `(score, label)` pair of the sample is
a pair of the source's same class: scores and labels are gathered by the same indices. -/
theorem C12_sample_attached (g : GScores) (c : GBootCfg) (script : List (List Nat))
    (out : GScores) (h : GRun g c script out) :
    (∀ p ∈ out.pos, p ∈ g.pos) ∧ (∀ p ∈ out.neg, p ∈ g.neg) :=
  ⟨h.facts.pos, h.facts.neg⟩

/-- **C12 (sample sorted).** The sample satisfies the constructor invariant in every mode — the
single-pass path passes `is_sorted=True`, justified because gathering the sorted source by the
non-decreasing index list `repeat(arange(k), counts)` is sorted.  Hence C12_getitem /
C12_group_cm apply to samples. -/
theorem C12_sample_inv (g : GScores) (hg : GInv g) (c : GBootCfg) (script : List (List Nat))
    (out : GScores) (h : GRun g c script out) : GInv out :=
  h.facts.inv hg

/-- the partition clause transfers to samples -/
theorem C12_sample_partition (g : GScores) (hg : GInv g) (hn : g.groups.Nodup)
    (hc : ∀ p ∈ g.pos ++ g.neg, p.2 ∈ g.groups) (c : GBootCfg) (script : List (List Nat))
    (out : GScores) (h : GRun g c script out) (t : ERat) :
    c12_sumCM (out.groupCm t) = out.overallCm t := by
  have hnames := (C12_names g c script out h).1
  have hatt := C12_sample_attached g c script out h
  apply C12_partition out (C12_sample_inv g hg c script out h)
  · rw [hnames]; exact hn
  · intro p hp
    rw [hnames]
    rcases List.mem_append.mp hp with h' | h'
    · exact hc p (List.mem_append_left _ (hatt.1 p h'))
    · exact hc p (List.mem_append_right _ (hatt.2 p h'))

/-- **C12 (by_group counts).** Replacement sampling (explicit, or chosen by "dynamic") stratified
by group, duplicate-free group list: for every listed group the number of sampled pairs carrying
its label — both classes together — equals the group's number of samples in the source; labels
outside the list are not sampled at all. -/
theorem C12_by_group_counts (g : GScores) (c : GBootCfg) (script : List (List Nat))
    (out : GScores) (hm : g.samplingMethod c = .replacement) (hs : c.strat = .byGroup)
    (hn : g.groups.Nodup) (h : GRun g c script out) :
    (∀ grp ∈ g.groups, labelCount out grp = labelCount g grp) ∧
    (∀ grp, grp ∉ g.groups → labelCount out grp = 0) := by
  obtain ⟨_, sp, hsp, ⟨hst, _⟩ | ⟨_, _, hok, rfl⟩⟩ := c12_bootstrap_cases g c script out h
  · rw [hs] at hst; rcases hst with hst | hst <;> exact absurd hst (by simp)
  · have : sp = false := by
      rcases hsp with ⟨_, h'⟩ | ⟨h', _⟩
      · exact h'
      · rw [hm] at h'; exact absurd h' (by simp)
    subst this
    obtain ⟨_, _, _, l3⟩ := c12_byGroupLoop_spec g false g.groups _ hok
    have hp := c12_make_perm (c12_byGroupLoop g false g.groups (RngState.init script)).1.1
      (c12_byGroupLoop g false g.groups (RngState.init script)).1.2 g.cfg (some g.groups) false
    have hcount : ∀ grp, labelCount (GScores.make
        (c12_byGroupLoop g false g.groups (RngState.init script)).1.1
        (c12_byGroupLoop g false g.groups (RngState.init script)).1.2 g.cfg (some g.groups) false)
        grp = g.groups.count grp * labelCount g grp := by
      intro grp
      unfold labelCount
      rw [hp.1.countP_eq, hp.2.countP_eq]
      exact l3 rfl grp
    constructor
    · intro grp hgrp
      rw [hcount, List.count_eq_one_of_mem hn hgrp, Nat.one_mul]
    · intro grp hgrp
      rw [hcount, List.count_eq_zero_of_not_mem hgrp, Nat.zero_mul]

/-- dynamic resolution of `GroupScores._sampling_method`: by_group always resamples with
replacement; otherwise single-pass exactly when both classes hold at least 100 samples -/
theorem C12_dynamic (g : GScores) (c : GBootCfg) :
    (c.method ≠ .dynamic → g.samplingMethod c = c.method) ∧
    (c.method = .dynamic → c.strat = .byGroup → g.samplingMethod c = .replacement) ∧
    (c.method = .dynamic → c.strat ≠ .byGroup →
      (g.samplingMethod c = .singlePass ↔ 100 ≤ g.pos.length ∧ 100 ≤ g.neg.length) ∧
      (g.samplingMethod c = .replacement ↔ g.pos.length < 100 ∨ g.neg.length < 100)) := by
  refine ⟨fun h => by simp [GScores.samplingMethod, h],
    fun h1 h2 => by simp [GScores.samplingMethod, h1, h2], fun h1 h2 => ?_⟩
  rw [show (100 ≤ g.pos.length ∧ 100 ≤ g.neg.length) ↔
    ¬ (g.pos.length < 100 ∨ g.neg.length < 100) by simp only [not_or, not_lt]]
  simp only [GScores.samplingMethod, h1, ne_eq, not_true_eq_false, if_false, h2,
    singlePassSampleThreshold]
  by_cases hc : g.pos.length < 100 ∨ g.neg.length < 100 <;> simp [hc]

/-- error branches: smoothing, proportion sampling and an unknown method raise `ValueError` without
consuming randomness; an unknown stratification (method not "dynamic") makes the call fail -/
theorem C12_errors (g : GScores) (c : GBootCfg) (st : RngState) :
    (c.smoothing = true → g.bootstrapSample c st = (.error .valueError, st)) ∧
    (c.smoothing = false → c.method = .proportion →
      g.bootstrapSample c st = (.error .valueError, st)) ∧
    (c.smoothing = false → c.method = .unknown →
      g.bootstrapSample c st = (.error .valueError, st)) ∧
    (c.smoothing = false → c.strat = .unknown → c.method ≠ .dynamic →
      (g.bootstrapSample c st).1 = .error .valueError ∨
      (g.bootstrapSample c st).1 = .error .other) := by
  refine ⟨fun h => by simp [GScores.bootstrapSample, h],
    fun h1 h2 => by simp [GScores.bootstrapSample, h1, GScores.samplingMethod, h2],
    fun h1 h2 => by simp [GScores.bootstrapSample, h1, GScores.samplingMethod, h2],
    fun h1 h2 h3 => ?_⟩
  simp only [GScores.bootstrapSample, h1, Bool.false_eq_true, if_false, GScores.samplingMethod,
    h3, ne_eq, not_false_eq_true, if_true]
  cases c.method <;> simp [GScores.resample, h2]

/-- the requests of the replacement / single-pass branch are those of the stratification mode -/
theorem c12_resample_requests (g : GScores) (strat : Strat) (sp : Bool) (st : RngState)
    (hst : st.trace = []) (hok : (g.resample strat sp st).2.ok = true) :
    stratReqsOK 0 g strat sp (g.resample strat sp st).2.paired = true := by
  have consumed : ∀ {tr : Spec.C11.Obs} {f : Spec.C11.Obs → Option Spec.C11.Obs},
      (∃ newR, tr = newR ++ st.trace ∧ ∀ tail, f (newR.reverse ++ tail) = some tail) →
      isDone (f tr.reverse) = true := by
    rintro _ f ⟨newR, rfl, k⟩
    rw [hst, List.append_nil, ← List.append_nil newR.reverse, k]; rfl
  unfold GScores.resample at hok ⊢
  cases strat with
  | none => exact consumed (c12_sampleIndices_consume g.toScores false sp st hok)
  | byLabel => exact consumed (c12_sampleIndices_consume g.toScores true sp st hok)
  | byGroup =>
    have e : ∀ {x y : Except Err GScores} {s' : RngState},
        (if g.groups.isEmpty = true then (x, s') else (y, s')).2 = s' := by intros; split <;> rfl
    simp only [e] at hok ⊢
    exact consumed (f := fun obs => g.groups.foldl
      (fun acc grp => acc.bind (consumeReqs 0 (g.groupScores grp) false sp)) (some obs))
      (c12_byGroupLoop_consume g sp g.groups st hok)
  | unknown => rfl

/-- **C12 (requests of each mode).** On every `ok` run that returns a sample the requests issued
are those of the stratification mode: `None` draws the class split of the whole object
(`Bin(N, nb_pos/N)`), `by_label` keeps both class sizes, `by_group` draws — for each listed group,
in order — the class split inside the group, so that exactly the group totals are preserved;
multiplicities / replacement draws / forced indices as in C11. -/
theorem C12_strat_requests (g : GScores) (c : GBootCfg) (script : List (List Nat))
    (out : GScores) (h : GRun g c script out) :
    stratReqsOK 0 g c.strat (g.samplingMethod c == .singlePass)
      (g.runSample c script).2.paired = true := by
  have e := (c12_run_resample h).2.2
  rw [e]
  exact c12_resample_requests g c.strat _ _ rfl (e ▸ h.2)

/-! ### the executable spec clauses hold of the model -/

theorem C12_spec_build (pos neg : List (Rat × Nat)) (cfg : Cfg) (gn : Option (List Nat)) :
    let g := GScores.make pos neg cfg gn false
    permOK pos g.pos = true ∧ permOK neg g.neg = true ∧ sortedOK g.pos = true ∧
    sortedOK g.neg = true := by
  obtain ⟨h1, h2, h3, _⟩ := C12_sort_perm pos neg cfg gn
  simp only [permOK, sortedOK, List.isPerm_iff, decide_eq_true_eq]
  exact ⟨h1, h2, h3.1, h3.2⟩

theorem C12_spec_swap (g : GScores) : swapOK g g.swap = true := by
  simp [swapOK, (C12_swap g).1, (C12_swap g).2.1, (C12_swap g).2.2.1]

theorem C12_spec_getitem (g : GScores) (grp : Nat) : getitemOK g grp (g.groupScores grp) = true := by
  simp [getitemOK, c12_groupScores_eq]

theorem C12_spec_group_cm (g : GScores) (h : GInv g) (grp : Nat) (t : ERat) :
    groupCmOK g grp t ((g.groupScores grp).cm t) = true := by
  simp only [groupCmOK, beq_iff_eq]
  exact cm_eq_countCM_of_sorted (g.groupScores grp) (c12_groupScores_sorted h grp).1
    (c12_groupScores_sorted h grp).2 t

theorem C12_spec_partition (g : GScores) (h : GInv g) (hc : coversOK g = true) (t : ERat) :
    partitionOK (g.groupCm t) (g.overallCm t) = true := by
  simp only [coversOK, Bool.and_eq_true, decide_eq_true_eq, List.all_eq_true,
    List.contains_iff_mem] at hc
  simp only [partitionOK, beq_iff_eq]
  exact C12_partition g h hc.1 hc.2 t

theorem C12_spec_sample (g : GScores) (hg : GInv g) (c : GBootCfg) (script : List (List Nat))
    (out : GScores) (h : GRun g c script out) :
    attachedOK g.pos out.pos = true ∧ attachedOK g.neg out.neg = true ∧
    sortedOK out.pos = true ∧ sortedOK out.neg = true ∧ namesOK g out = true ∧
    flagsOK g out = true ∧
    (g.samplingMethod c = .replacement → c.strat = .byGroup → g.groups.Nodup →
      groupCountsOK g out = true) := by
  obtain ⟨a1, a2⟩ := C12_sample_attached g c script out h
  obtain ⟨i1, i2⟩ := C12_sample_inv g hg c script out h
  obtain ⟨n1, n2⟩ := C12_names g c script out h
  simp only [attachedOK, sortedOK, namesOK, flagsOK, groupCountsOK, List.all_eq_true,
    List.contains_iff_mem, decide_eq_true_eq, beq_iff_eq]
  exact ⟨a1, a2, i1, i2, n1, n2,
    fun hm hs hn => (C12_by_group_counts g c script out hm hs hn h).1⟩

/-! ### Non-vacuity and counterexamples -/

theorem GRun.exists_of_isOk {g : GScores} {c : GBootCfg} {script : List (List Nat)}
    (h1 : (g.runSample c script).1.isOk = true) (h2 : (g.runSample c script).2.ok = true) :
    ∃ out, GRun g c script out := by
  cases h : (g.runSample c script).1 with
  | ok out => exact ⟨out, h, h2⟩
  | error e => rw [h] at h1; exact absurd h1 (by simp [Except.isOk, Except.toBool])

/-- a sorted object with three groups; group 2 has no negatives, ties across groups -/
def c12_exG : GScores :=
  ⟨[(1, 0), (2, 1), (2, 2), (3, 0)], [(0, 1), (2, 0), (2, 1)], ⟨.pos, .neg⟩, [2, 0, 1]⟩

/-- `GInv`, `Nodup` and the covering precondition are satisfiable (an explicit, non-sorted
`group_names` list) -/
example : GInv c12_exG := by constructor <;> decide +kernel
example : c12_exG.groups.Nodup ∧ ∀ p ∈ c12_exG.pos ++ c12_exG.neg, p.2 ∈ c12_exG.groups := by
  constructor <;> decide +kernel
example : coversOK c12_exG = true := by decide +kernel

/-- the constructor reaches it (up to the order inside tied blocks) from unsorted input -/
example : (GScores.make [(3, 0), (2, 1), (1, 0), (2, 2)] [(2, 0), (0, 1), (2, 1)] ⟨.pos, .neg⟩
    (some [2, 0, 1]) false).pos.Perm c12_exG.pos :=
  (C12_sort_perm _ _ _ _).1.trans (List.isPerm_iff.mp (by decide +kernel))

/-- **Counterexample (missing label).** With a user-supplied `group_names` that omits a label
occurring in the data the group matrices do NOT sum to the overall matrix: the precondition of
`C12_partition` cannot be dropped. -/
example : c12_sumCM ((⟨[(1, 0), (2, 1)], [(0, 0)], ⟨.pos, .pos⟩, [0]⟩ : GScores).groupCm (.fin 1)) ≠
    (⟨[(1, 0), (2, 1)], [(0, 0)], ⟨.pos, .pos⟩, [0]⟩ : GScores).overallCm (.fin 1) := by
  rw [C12_group_cm _ (by constructor <;> decide +kernel),
    C12_overall_cm _ (by constructor <;> decide +kernel)]
  decide +kernel

/-- **Counterexample (duplicate name).** Nor can duplicate-freeness: a repeated name is counted
twice. -/
example : c12_sumCM ((⟨[(1, 0)], [(0, 0)], ⟨.pos, .pos⟩, [0, 0]⟩ : GScores).groupCm (.fin 1)) ≠
    (⟨[(1, 0)], [(0, 0)], ⟨.pos, .pos⟩, [0, 0]⟩ : GScores).overallCm (.fin 1) := by
  rw [C12_group_cm _ (by constructor <;> decide +kernel),
    C12_overall_cm _ (by constructor <;> decide +kernel)]
  decide +kernel

/-- `swap()` forgets a user-supplied `group_names`: the swapped object lists the default groups -/
example : c12_exG.swap.groups = [0, 1, 2] := by decide +kernel

/-- `GRun` is satisfiable in each stratification mode.  by_group + replacement on `c12_exG`
(groups in the order 2, 0, 1; group 2 has no negatives: class split `Bin(1, 1) = 1`). -/
example : ∃ out, GRun c12_exG ⟨.dynamic, .byGroup, false⟩
    [[1], [0], [0], [0], [],
     [2], [0], [0], [1, 1], [0],
     [1], [0], [0], [0], [1, 0]] out :=
  GRun.exists_of_isOk (by decide +kernel) (by decide +kernel)

/-- by_label + single_pass with all multiplicities answered 0 (both forced indices fire) -/
example : ∃ out, GRun c12_exG ⟨.singlePass, .byLabel, false⟩
    [[0, 0, 0, 0], [0, 0, 0], [2], [1]] out :=
  GRun.exists_of_isOk (by decide +kernel) (by decide +kernel)

/-- no stratification + replacement -/
example : ∃ out, GRun c12_exG ⟨.replacement, .none, false⟩
    [[4], [0], [0], [3, 3, 0, 1], [2, 2, 0]] out :=
  GRun.exists_of_isOk (by decide +kernel) (by decide +kernel)

/-- the hypotheses of `C12_by_group_counts` hold together -/
example : c12_exG.samplingMethod ⟨.dynamic, .byGroup, false⟩ = .replacement ∧
    c12_exG.groups.Nodup := by constructor <;> decide +kernel

/-- a non-fresh state with a correct cache exists (`CacheInv` after a query) -/
example : CacheInv ((GState.fresh c12_exG).step (.getItem 0)).1 :=
  (c12_step_spec _ (c12_cacheInv_fresh c12_exG) _).2.1

/-- both sides of the dynamic switch -/
example : (⟨List.replicate 100 (0, 0), List.replicate 100 (1, 0), ⟨.pos, .pos⟩, [0]⟩ : GScores).samplingMethod
    ⟨.dynamic, .byLabel, false⟩ = .singlePass := by decide +kernel
example : (⟨List.replicate 99 (0, 0), List.replicate 100 (1, 0), ⟨.pos, .pos⟩, [0]⟩ : GScores).samplingMethod
    ⟨.dynamic, .none, false⟩ = .replacement := by decide +kernel

end SA

/-
C12 — the order inside a block of tied scores is irrelevant.

`GroupScores.__init__` sorts scores and labels jointly with `np.argsort` (group_scores.py:101-108),
which is NOT stable: inside a block of equal scores the labels may come out in any order.  The model
(SA/Model/Group.lean) sorts stably with `List.mergeSort`.  This file proves that the difference
cannot be observed through anything C12 talks about.

* `c12_Admissible l l'`: `l'` is an admissible joint order of the input pairs `l` — a permutation
  of the pairs (every score keeps its label) that is sorted by score.  Whatever `argsort` does, its
  output is admissible (this is `C12_sort_perm`'s statement; the harness checks it on the real arrays).
* `c12_TieEq g g'`: two objects holding admissible orders of the same data, same flags, same group
  list.
* `c12_ObsEq g g'`: every observable of C12 agrees — the score arrays, the group list, the flags,
  `gs[grp]` (as LISTS, not multisets), `group_cm`, every `group_<rate>`, `cm`, `groupwise(metric)` for
  any metric, and the outputs of any history of queries through the cache.
* `C12_tie_order_irrelevant`: `c12_TieEq g g'` implies `c12_ObsEq g g'`, the same for `swap()`, and for
  sampling: the requests / RNG states are identical, by_group sampling returns the very same object,
  and without group stratification the sample of `g'` is (an admissible order of) the sample of `g`
  for the draws re-indexed by a permutation of the index range that maps every tied block to itself
  — the natural re-indexing; the sampled score arrays are identical.
-/
import SA.Theorems.C12

namespace SA

/-! ### admissible joint orders -/

/-- `l'` is an admissible result of the joint argsort of the pairs `l`: the same multiset of
`(score, label)` pairs, non-decreasing in the score. -/
def c12_Admissible (l l' : List (Rat × Nat)) : Prop :=
  l'.Perm l ∧ l'.Pairwise (fun a b => a.1 ≤ b.1)

/-- the model's stable sort is one of them -/
theorem c12_sortPairs_admissible (l : List (Rat × Nat)) : c12_Admissible l (c12_sortPairs l) :=
  ⟨c12_sortPairs_perm l, c12_sortPairs_sorted l⟩

/-- an already sorted input is admissible as it is (`is_sorted=True`) -/
theorem c12_admissible_self (l : List (Rat × Nat)) (h : l.Pairwise (fun a b => a.1 ≤ b.1)) :
    c12_Admissible l l := ⟨List.Perm.refl _, h⟩

theorem c12_scores_eq {l₁ l₂ : List (Rat × Nat)} (hp : (l₁.map (·.1)).Perm (l₂.map (·.1)))
    (h₁ : l₁.Pairwise (fun a b => a.1 ≤ b.1)) (h₂ : l₂.Pairwise (fun a b => a.1 ≤ b.1)) :
    l₁.map (·.1) = l₂.map (·.1) :=
  List.Perm.eq_of_pairwise' (r := (· ≤ ·)) (List.pairwise_map.mpr h₁)
    (List.pairwise_map.mpr h₂) hp

/-- two admissible orders hold the same score array -/
theorem c12_ties_scores {l₁ l₂ : List (Rat × Nat)} (hp : l₁.Perm l₂)
    (h₁ : l₁.Pairwise (fun a b => a.1 ≤ b.1)) (h₂ : l₂.Pairwise (fun a b => a.1 ≤ b.1)) :
    l₁.map (·.1) = l₂.map (·.1) :=
  c12_scores_eq (hp.map _) h₁ h₂

/-- … and the same scores under every label, AS LISTS -/
theorem c12_ties_filterGroup {l₁ l₂ : List (Rat × Nat)} (hp : l₁.Perm l₂)
    (h₁ : l₁.Pairwise (fun a b => a.1 ≤ b.1)) (h₂ : l₂.Pairwise (fun a b => a.1 ≤ b.1))
    (grp : Nat) : c12_filterGroup l₁ grp = c12_filterGroup l₂ grp :=
  List.Perm.eq_of_pairwise' (r := (· ≤ ·)) (c12_filterGroup_sorted h₁ grp)
    (c12_filterGroup_sorted h₂ grp) ((hp.filter _).map _)

/-- two objects holding admissible orders of the same data -/
structure c12_TieEq (g g' : GScores) : Prop where
  pos : g'.pos.Perm g.pos
  neg : g'.neg.Perm g.neg
  inv : GInv g
  inv' : GInv g'
  cfg : g'.cfg = g.cfg
  groups : g'.groups = g.groups

theorem c12_TieEq.refl {g : GScores} (h : GInv g) : c12_TieEq g g :=
  ⟨List.Perm.refl _, List.Perm.refl _, h, h, rfl, rfl⟩

theorem c12_TieEq.symm {g g' : GScores} (h : c12_TieEq g g') : c12_TieEq g' g :=
  ⟨h.pos.symm, h.neg.symm, h.inv', h.inv, h.cfg.symm, h.groups.symm⟩

theorem c12_TieEq.trans {g₁ g₂ g₃ : GScores} (h : c12_TieEq g₁ g₂) (h' : c12_TieEq g₂ g₃) :
    c12_TieEq g₁ g₃ :=
  ⟨h'.pos.trans h.pos, h'.neg.trans h.neg, h.inv, h'.inv', h'.cfg.trans h.cfg,
    h'.groups.trans h.groups⟩

/-- any object whose arrays are admissible orders of the constructor's input is tie-equivalent to
the model's object -/
theorem c12_tieEq_of_admissible (pos neg : List (Rat × Nat)) (cfg : Cfg) (gn : Option (List Nat))
    (g' : GScores) (hp : c12_Admissible pos g'.pos) (hn : c12_Admissible neg g'.neg)
    (hc : g'.cfg = cfg) (hg : g'.groups = (GScores.make pos neg cfg gn false).groups) :
    c12_TieEq (GScores.make pos neg cfg gn false) g' := by
  have hm := c12_make_perm pos neg cfg gn false
  exact ⟨hp.1.trans hm.1.symm, hn.1.trans hm.2.symm,
    c12_make_inv pos neg cfg gn false (fun h => absurd h (by simp)), ⟨hp.2, hn.2⟩,
    hc.trans (c12_make_cfg pos neg cfg gn false).symm, hg⟩

/-! ### the observables -/

/-- every observable C12 names agrees on the two objects -/
structure c12_ObsEq (g g' : GScores) : Prop where
  /-- the inherited `pos` / `neg` score arrays, easy counts and flags -/
  scores : g'.toScores = g.toScores
  groups : g'.groups = g.groups
  cfg : g'.cfg = g.cfg
  /-- `gs[grp]`: the same `Scores` object (arrays equal as lists), the same `ValueError` -/
  getItem : ∀ grp, g'.getItem grp = g.getItem grp
  /-- per-group confusion matrices at every threshold incl. ±inf -/
  groupCm : ∀ t, g'.groupCm t = g.groupCm t
  groupRate : ∀ n t, g'.groupRate n t = g.groupRate n t
  /-- the overall matrix -/
  overallCm : ∀ t, g'.overallCm t = g.overallCm t
  /-- `groupwise(metric)` for ANY metric of a `Scores` object -/
  groupwise : ∀ {α : Type} (m : Scores → α), g'.groupwise m = g.groupwise m
  /-- any history of queries through the cache -/
  history : ∀ qs, ((GState.fresh g').run qs).2 = ((GState.fresh g).run qs).2

theorem c12_tieEq_toScores {g g' : GScores} (h : c12_TieEq g g') : g'.toScores = g.toScores := by
  unfold GScores.toScores
  rw [c12_ties_scores h.pos h.inv'.1 h.inv.1, c12_ties_scores h.neg h.inv'.2 h.inv.2, h.cfg]

theorem c12_tieEq_groupScores {g g' : GScores} (h : c12_TieEq g g') (grp : Nat) :
    g'.groupScores grp = g.groupScores grp := by
  unfold GScores.groupScores
  rw [c12_ties_filterGroup h.pos h.inv'.1 h.inv.1, c12_ties_filterGroup h.neg h.inv'.2 h.inv.2,
    h.cfg]

theorem c12_tieEq_obs {g g' : GScores} (h : c12_TieEq g g') : c12_ObsEq g g' := by
  have hs := c12_tieEq_toScores h
  have hg := c12_tieEq_groupScores h
  have hgetItem : ∀ grp, g'.getItem grp = g.getItem grp := fun grp => by
    unfold GScores.getItem; rw [h.groups, hg]
  have hgroupCm : ∀ t, g'.groupCm t = g.groupCm t := fun t => by
    unfold GScores.groupCm; rw [h.groups]
    exact List.map_congr_left (fun grp _ => by rw [hg])
  have hrate : ∀ n t, g'.groupRate n t = g.groupRate n t := fun n t => by
    unfold GScores.groupRate; rw [hgroupCm]
  have hover : ∀ t, g'.overallCm t = g.overallCm t := fun t => by
    unfold GScores.overallCm; rw [hs]
  have hans : ∀ q, g'.answer q = g.answer q := fun q => by
    cases q with
    | getItem grp => simp only [GScores.answer, hgetItem]
    | groupCm t => simp only [GScores.answer, hgroupCm]
    | groupRate n t => simp only [GScores.answer, hrate]
    | overallCm t => simp only [GScores.answer, hover]
  refine ⟨hs, h.groups, h.cfg, hgetItem, hgroupCm, hrate, hover, ?_, ?_⟩
  · intro α m
    unfold GScores.groupwise; rw [h.groups]
    exact List.map_congr_left (fun grp _ => by rw [hg])
  · intro qs
    rw [C12_cache_fresh, C12_cache_fresh]
    exact List.map_congr_left (fun q _ => hans q)

/-- `swap()` of tie-equivalent objects is tie-equivalent (the default group list the swapped object
computes from its arrays is a function of the multiset of labels) -/
theorem c12_tieEq_swap {g g' : GScores} (h : c12_TieEq g g') : c12_TieEq g.swap g'.swap :=
  ⟨h.neg, h.pos, ⟨h.inv.2, h.inv.1⟩, ⟨h.inv'.2, h.inv'.1⟩, by
    show g'.cfg.swap = g.cfg.swap
    rw [h.cfg], by
    show c12_defaultGroups g'.neg g'.pos = c12_defaultGroups g.neg g.pos
    exact c12_defaultGroups_perm h.neg h.pos⟩

/-! ### re-indexing: a permutation of lists is a permutation of positions -/

theorem c12_getD_map_lt {α β : Type} (f : α → β) (l : List α) (i : Nat) (h : i < l.length)
    (d : α) (d' : β) : (l.map f).getD i d' = f (l.getD i d) := by
  simp only [List.getD_eq_getElem?_getD, List.getElem?_map, List.getElem?_eq_getElem h,
    Option.map_some, Option.getD_some]

/-- a permutation `l'` of `l` reads `l` through a permutation `σ` of the positions -/
theorem c12_perm_reindex {α : Type} (d : α) {l' l : List α} (h : l'.Perm l) :
    ∃ σ : List Nat, σ.Perm (List.range l.length) ∧ l' = σ.map (fun i => l.getD i d) := by
  induction h with
  | nil => exact ⟨[], List.Perm.refl _, rfl⟩
  | @cons x l₁ l₂ _ ih =>
    obtain ⟨σ, hσ, he⟩ := ih
    refine ⟨0 :: σ.map Nat.succ, ?_, ?_⟩
    · rw [List.length_cons, List.range_succ_eq_map]
      exact List.Perm.cons 0 (hσ.map _)
    · rw [List.map_cons, List.map_map]
      simp only [List.getD_cons_zero, Function.comp_def, Nat.succ_eq_add_one, List.getD_cons_succ]
      rw [← he]
  | swap x y l =>
    refine ⟨1 :: 0 :: (List.range l.length).map (fun i => i + 2), ?_, ?_⟩
    · rw [List.length_cons, List.length_cons, List.range_succ_eq_map, List.range_succ_eq_map,
        List.map_cons, List.map_map]
      exact List.Perm.swap _ _ _
    · simp only [List.map_cons, List.map_map, Function.comp_def, List.getD_cons_zero,
        List.getD_cons_succ]
      rw [List.map_getD_range]
  | @trans l₁ l₂ l₃ _ _ ih₁ ih₂ =>
    obtain ⟨σ₁, hσ₁, he₁⟩ := ih₁
    obtain ⟨σ₂, hσ₂, he₂⟩ := ih₂
    have hlen : l₂.length = σ₂.length := by rw [he₂, List.length_map]
    refine ⟨σ₁.map (fun i => σ₂.getD i 0), ?_, ?_⟩
    · refine (hσ₁.map _).trans ?_
      rw [hlen, List.map_getD_range]
      exact hσ₂
    · rw [he₁, List.map_map]
      apply List.map_congr_left
      intro i hi
      have hi' : i < σ₂.length := by
        have := hσ₁.mem_iff.mp hi
        rw [List.mem_range, hlen] at this
        exact this
      show l₂.getD i d = l₃.getD (σ₂.getD i 0) d
      conv_lhs => rw [he₂]
      exact c12_getD_map_lt _ σ₂ i hi' 0 d

/-- `σ` re-indexes `l` into `l'`: it permutes the index range, `l'[i] = l[σ i]`, and it maps every
block of tied scores to itself (`l[σ i]` has the score of `l[i]`). -/
structure c12_Reindex (l l' : List (Rat × Nat)) (σ : Nat → Nat) : Prop where
  perm : ((List.range l.length).map σ).Perm (List.range l.length)
  lt : ∀ i, i < l.length → σ i < l.length
  get : ∀ i, i < l.length → l'.getD i (0, 0) = l.getD (σ i) (0, 0)
  score : ∀ i, i < l.length → (l.getD (σ i) (0, 0)).1 = (l.getD i (0, 0)).1

/-- two admissible orders are related by a re-indexing -/
theorem c12_reindex_exists {l l' : List (Rat × Nat)} (hp : l'.Perm l)
    (h : l.Pairwise (fun a b => a.1 ≤ b.1)) (h' : l'.Pairwise (fun a b => a.1 ≤ b.1)) :
    ∃ σ, c12_Reindex l l' σ := by
  obtain ⟨σ, hσ, he⟩ := c12_perm_reindex ((0, 0) : Rat × Nat) hp
  have hlen : σ.length = l.length := by rw [hσ.length_eq, List.length_range]
  have hget : ∀ i, i < l.length → l'.getD i (0, 0) = l.getD (σ.getD i 0) (0, 0) := by
    intro i hi
    conv_lhs => rw [he]
    exact c12_getD_map_lt _ σ i (hlen ▸ hi) 0 _
  have hsc := c12_ties_scores hp h' h
  refine ⟨fun i => σ.getD i 0, ?_, ?_, hget, ?_⟩
  · rw [← hlen, List.map_getD_range, hlen]; exact hσ
  · intro i hi
    have : σ.getD i 0 ∈ σ := by
      rw [List.getD_eq_getElem?_getD, List.getElem?_eq_getElem (hlen ▸ hi), Option.getD_some]
      exact List.getElem_mem _
    exact List.mem_range.mp (hσ.mem_iff.mp this)
  · intro i hi
    rw [← hget i hi]
    have hi' : i < l'.length := by rw [hp.length_eq]; exact hi
    have e1 : (l'.getD i (0, 0)).1 = (l'.map (·.1)).getD i 0 :=
      (c12_getD_map_lt (·.1) l' i hi' (0, 0) 0).symm
    have e2 : (l.getD i (0, 0)).1 = (l.map (·.1)).getD i 0 :=
      (c12_getD_map_lt (·.1) l i hi (0, 0) 0).symm
    rw [e1, e2, hsc]

/-- fancy indexing of the order `l'` by `idx` = fancy indexing of the order `l` by the re-indexed
draws; the gathered score arrays are identical -/
theorem c12_gather_reindex {l l' : List (Rat × Nat)} {σ : Nat → Nat} (h : c12_Reindex l l' σ)
    (hlen : l'.length = l.length) (idx : List Nat) (hi : ∀ i ∈ idx, i < l.length) :
    c12_gatherPairs l' idx = c12_gatherPairs l (idx.map σ) ∧
    (∀ i ∈ idx.map σ, i < l.length) ∧
    (c12_gatherPairs l' idx).map (·.1) = (c12_gatherPairs l idx).map (·.1) := by
  have hi' : ∀ i ∈ idx.map σ, i < l.length := by
    intro i him
    obtain ⟨j, hj, rfl⟩ := List.mem_map.mp him
    exact h.lt j (hi j hj)
  have e : c12_gatherPairs l' idx = c12_gatherPairs l (idx.map σ) := by
    rw [c12_gatherPairs_getD l' idx (fun i h' => hlen ▸ hi i h'),
      c12_gatherPairs_getD l (idx.map σ) hi', List.map_map]
    exact List.map_congr_left (fun i h' => h.get i (hi i h'))
  refine ⟨e, hi', ?_⟩
  rw [e, c12_gatherPairs_getD l (idx.map σ) hi', c12_gatherPairs_getD l idx hi, List.map_map,
    List.map_map, List.map_map]
  exact List.map_congr_left (fun i h' => h.score i (hi i h'))

/-! ### sampling -/

theorem c12_tieEq_byGroupLoop {g g' : GScores} (h : c12_TieEq g g') (sp : Bool) (grps : List Nat)
    (st : RngState) : c12_byGroupLoop g' sp grps st = c12_byGroupLoop g sp grps st := by
  induction grps generalizing st with
  | nil => rfl
  | cons grp rest ih =>
    simp only [c12_byGroupLoop, c12_tieEq_groupScores h grp, ih]

theorem c12_tieEq_samplingMethod {g g' : GScores} (h : c12_TieEq g g') (c : GBootCfg) :
    g'.samplingMethod c = g.samplingMethod c := by
  unfold GScores.samplingMethod
  rw [h.pos.length_eq, h.neg.length_eq]

/-- by_group stratification samples the per-group objects, which are identical: the very same
result and RNG state -/
theorem c12_tieEq_resample_byGroup {g g' : GScores} (h : c12_TieEq g g') (sp : Bool)
    (st : RngState) : g'.resample .byGroup sp st = g.resample .byGroup sp st := by
  simp only [GScores.resample, c12_tieEq_byGroupLoop h, h.groups, h.cfg]

/-- without group stratification: the index lists are drawn from the score arrays alone -/
theorem c12_tieEq_resample_idx {g g' : GScores} (h : c12_TieEq g g') (strat : Strat)
    (hs : strat = .none ∨ strat = .byLabel) (sp : Bool) (st : RngState) :
    g'.resample strat sp st =
      (.ok (GScores.make
        (c12_gatherPairs g'.pos (sampleIndices g.toScores (strat == .byLabel) sp st).1.idxPos)
        (c12_gatherPairs g'.neg (sampleIndices g.toScores (strat == .byLabel) sp st).1.idxNeg)
        g.cfg (some g.groups) sp), (sampleIndices g.toScores (strat == .byLabel) sp st).2) := by
  rcases hs with rfl | rfl <;>
    simp only [GScores.resample, c12_tieEq_toScores h, h.groups, h.cfg]

/-- the RNG state after `bootstrap_sample` (requests issued, answers consumed, `ok` flag) does not
depend on the order inside tied blocks, and neither does an error -/
theorem c12_tieEq_sample_state {g g' : GScores} (h : c12_TieEq g g') (c : GBootCfg)
    (st : RngState) :
    (g'.bootstrapSample c st).2 = (g.bootstrapSample c st).2 ∧
    (∀ e, (g'.bootstrapSample c st).1 = .error e ↔ (g.bootstrapSample c st).1 = .error e) ∧
    (c.strat = .byGroup → g'.bootstrapSample c st = g.bootstrapSample c st) := by
  have key : ∀ sp, (g'.resample c.strat sp st).2 = (g.resample c.strat sp st).2 ∧
      (∀ e, (g'.resample c.strat sp st).1 = .error e ↔ (g.resample c.strat sp st).1 = .error e) ∧
      (c.strat = .byGroup → g'.resample c.strat sp st = g.resample c.strat sp st) := by
    intro sp
    cases hst : c.strat with
    | none | byLabel =>
      rw [c12_tieEq_resample_idx h _ (by simp),
        c12_tieEq_resample_idx (c12_TieEq.refl h.inv) _ (by simp)]
      exact ⟨rfl, fun e => by simp, fun hh => absurd hh (by simp)⟩
    | byGroup =>
      rw [c12_tieEq_resample_byGroup h]
      exact ⟨rfl, fun e => Iff.rfl, fun _ => rfl⟩
    | unknown => exact ⟨rfl, fun e => Iff.rfl, fun hh => absurd hh (by simp)⟩
  unfold GScores.bootstrapSample
  rw [c12_tieEq_samplingMethod h]
  by_cases hsm : c.smoothing = true
  · rw [if_pos hsm, if_pos hsm]
    exact ⟨rfl, fun e => Iff.rfl, fun _ => rfl⟩
  · rw [if_neg hsm, if_neg hsm]
    cases g.samplingMethod c with
    | replacement => exact key false
    | singlePass => exact key true
    | _ => exact ⟨rfl, fun e => Iff.rfl, fun _ => rfl⟩

/-- **Sampling under a different tie order.**  `σp`, `σn` re-index the positive / negative arrays
of `g` into those of `g'`.  On every in-support run that returns a sample `out` from `g`, the same
script makes `g'` return a sample `out'` with the same requests and RNG state, the same score
arrays, group list and flags; with by_group stratification `out' = out`; otherwise `out` holds the
pairs `g.pos[idxP]`, `g.neg[idxN]` for in-range index lists (the draws) and `out'` is an admissible
order of what the model builds from `g` for the RE-INDEXED draws `σp(idxP)`, `σn(idxN)` — hence the
same multiset of `(score, label)` pairs as that draw, and all observables of `out'` are those of
that sample of `g` (`c12_tieEq_obs`). -/
theorem c12_tieEq_sample {g g' : GScores} (h : c12_TieEq g g') {σp σn : Nat → Nat}
    (hσp : c12_Reindex g.pos g'.pos σp) (hσn : c12_Reindex g.neg g'.neg σn)
    (c : GBootCfg) (script : List (List Nat)) (out : GScores) (hr : GRun g c script out) :
    ∃ out', GRun g' c script out' ∧
      (g'.runSample c script).2 = (g.runSample c script).2 ∧
      out'.toScores = out.toScores ∧ out'.groups = out.groups ∧ out'.cfg = out.cfg ∧
      (c.strat = .byGroup → out' = out) ∧
      (c.strat ≠ .byGroup → ∃ idxP idxN : List Nat,
        (∀ i ∈ idxP, i < g.pos.length) ∧ (∀ i ∈ idxN, i < g.neg.length) ∧
        out.pos.Perm (c12_gatherPairs g.pos idxP) ∧ out.neg.Perm (c12_gatherPairs g.neg idxN) ∧
        out'.pos.Perm (c12_gatherPairs g.pos (idxP.map σp)) ∧
        out'.neg.Perm (c12_gatherPairs g.neg (idxN.map σn)) ∧
        c12_TieEq (GScores.make (c12_gatherPairs g.pos (idxP.map σp))
          (c12_gatherPairs g.neg (idxN.map σn)) g.cfg (some g.groups) false) out') := by
  obtain ⟨hst, herr, hby⟩ := c12_tieEq_sample_state h c (RngState.init script)
  obtain ⟨out', hr'⟩ : ∃ out', GRun g' c script out' := by
    cases e : (g'.runSample c script).1 with
    | ok o => exact ⟨o, e, hst ▸ hr.2⟩
    | error x => exact absurd (((herr x).mp e).symm.trans hr.1) nofun
  obtain ⟨hg, hc⟩ := C12_names g c script out hr
  obtain ⟨hg', hc'⟩ := C12_names g' c script out' hr'
  have hinv := C12_sample_inv g h.inv c script out hr
  have hinv' := C12_sample_inv g' h.inv' c script out' hr'
  have hgroups : out'.groups = out.groups := hg'.trans (h.groups.trans hg.symm)
  have hcfg : out'.cfg = out.cfg := hc'.trans (h.cfg.trans hc.symm)
  by_cases hbg : c.strat = .byGroup
  · obtain rfl : out = out' :=
      Except.ok.inj (hr.1.symm.trans ((congrArg Prod.fst (hby hbg)).symm.trans hr'.1))
    exact ⟨out, hr', hst, rfl, rfl, rfl, fun _ => rfl, fun hh => absurd hbg hh⟩
  · have hs : c.strat = .none ∨ c.strat = .byLabel := by
      obtain ⟨-, -, -, ⟨hs, -⟩ | ⟨hs, -⟩⟩ := c12_bootstrap_cases g c script out hr
      exacts [hs, absurd hs hbg]
    have e := (c12_run_resample hr).2.2.trans
      (c12_tieEq_resample_idx (c12_TieEq.refl h.inv) _ hs _ _)
    have e' := (c12_run_resample hr').2.2.trans (c12_tieEq_resample_idx h _ hs _ _)
    rw [c12_tieEq_samplingMethod h] at e'
    have facts := (sampleIndices_spec g.toScores (c.strat == .byLabel)
      (g.samplingMethod c == .singlePass) (RngState.init script)
      ((congrArg (·.2.ok) e).symm.trans hr.2)).2
    -- `r`: the common draw
    generalize sampleIndices g.toScores (c.strat == .byLabel) (g.samplingMethod c == .singlePass)
      (RngState.init script) = r at e e' facts
    have hperm := c12_make_perm (c12_gatherPairs g.pos r.1.idxPos)
      (c12_gatherPairs g.neg r.1.idxNeg) g.cfg (some g.groups) (g.samplingMethod c == .singlePass)
    have hperm' := c12_make_perm (c12_gatherPairs g'.pos r.1.idxPos)
      (c12_gatherPairs g'.neg r.1.idxNeg) g.cfg (some g.groups) (g.samplingMethod c == .singlePass)
    rw [Except.ok.inj ((congrArg Prod.fst e).symm.trans hr.1)] at hperm
    rw [Except.ok.inj ((congrArg Prod.fst e').symm.trans hr'.1)] at hperm'
    have hpr : ∀ i ∈ r.1.idxPos, i < g.pos.length := fun i hi =>
      (c12_toScores_length g).1 ▸ facts.posRange i hi
    have hnr : ∀ i ∈ r.1.idxNeg, i < g.neg.length := fun i hi =>
      (c12_toScores_length g).2 ▸ facts.negRange i hi
    -- `g'.pos[idx] = g.pos[σp idx]` (`gp`), with the same scores as `g.pos[idx]` (`gps`)
    obtain ⟨gp, -, gps⟩ := c12_gather_reindex hσp h.pos.length_eq r.1.idxPos hpr
    obtain ⟨gn, -, gns⟩ := c12_gather_reindex hσn h.neg.length_eq r.1.idxNeg hnr
    have hpermσ := c12_make_perm (c12_gatherPairs g.pos (r.1.idxPos.map σp))
      (c12_gatherPairs g.neg (r.1.idxNeg.map σn)) g.cfg (some g.groups) false
    have hscore : out'.toScores = out.toScores := by
      unfold GScores.toScores
      rw [c12_scores_eq ((hperm'.1.map _).trans (gps ▸ (hperm.1.map _).symm)) hinv'.1 hinv.1,
        c12_scores_eq ((hperm'.2.map _).trans (gns ▸ (hperm.2.map _).symm)) hinv'.2 hinv.2,
        hcfg]
    rw [gp, gn] at hperm'
    exact ⟨out', hr', hst, hscore, hgroups, hcfg, fun hh => absurd hh hbg,
      fun _ => ⟨r.1.idxPos, r.1.idxNeg, hpr, hnr, hperm.1, hperm.2, hperm'.1, hperm'.2,
        ⟨hperm'.1.trans hpermσ.1.symm, hperm'.2.trans hpermσ.2.symm,
          c12_make_inv _ _ _ _ false nofun, hinv',
          hc'.trans (h.cfg.trans (c12_make_cfg _ _ _ _ _).symm),
          hg'.trans (h.groups.trans (c12_make_groups_some _ _ _ _ _).symm)⟩⟩⟩

/-! ### the main theorem -/

/-- **C12 (tie order is irrelevant).**  Let `g` and `g'` hold ANY two admissible joint orders of the
same `(score, label)` pairs (permutation of the input, sorted by score — e.g. the model's stable sort
and whatever `np.argsort` produced), with the same flags and group list.  Then

1. every observable agrees (`c12_ObsEq`): score arrays, group list, flags, `gs[grp]` for every `grp`
   (equal as lists; same `ValueError` for unknown groups), the per-group confusion matrices and rates
   at every threshold, the overall matrix, `groupwise(metric)` for any metric, and the outputs of any
   history of queries through the cache;
2. the same holds for the two `swap()`s, which are again tie-equivalent;
3. sampling: `bootstrap_sample` issues the same requests and leaves the same RNG state on every
   script and fails with the same error; stratified by group it returns the same object; otherwise
   there are re-indexings `σp`, `σn` — permutations of the index ranges that map every block of tied
   scores to itself and satisfy `g'.pos[i] = g.pos[σp i]` — such that on every in-support run the
   sample drawn from `g'` has the same score arrays as the one drawn from `g` and is an admissible
   order of the sample of `g` for the re-indexed draws (`c12_tieEq_sample`): per draw, the
   index-carried labels give the same multiset of `(score, label)` pairs under `σ`. -/
theorem C12_tie_order_irrelevant (g g' : GScores) (h : c12_TieEq g g') :
    c12_ObsEq g g' ∧
    (c12_TieEq g.swap g'.swap ∧ c12_ObsEq g.swap g'.swap) ∧
    (∀ (c : GBootCfg) (st : RngState),
      (g'.bootstrapSample c st).2 = (g.bootstrapSample c st).2 ∧
      (∀ e, (g'.bootstrapSample c st).1 = .error e ↔ (g.bootstrapSample c st).1 = .error e) ∧
      (c.strat = .byGroup → g'.bootstrapSample c st = g.bootstrapSample c st)) ∧
    ∃ σp σn : Nat → Nat, c12_Reindex g.pos g'.pos σp ∧ c12_Reindex g.neg g'.neg σn ∧
      ∀ (c : GBootCfg) (script : List (List Nat)) (out : GScores), GRun g c script out →
        ∃ out', GRun g' c script out' ∧
          (g'.runSample c script).2 = (g.runSample c script).2 ∧
          out'.toScores = out.toScores ∧ out'.groups = out.groups ∧ out'.cfg = out.cfg ∧
          (c.strat = .byGroup → out' = out) ∧
          (c.strat ≠ .byGroup → ∃ idxP idxN : List Nat,
            (∀ i ∈ idxP, i < g.pos.length) ∧ (∀ i ∈ idxN, i < g.neg.length) ∧
            out.pos.Perm (c12_gatherPairs g.pos idxP) ∧
            out.neg.Perm (c12_gatherPairs g.neg idxN) ∧
            out'.pos.Perm (c12_gatherPairs g.pos (idxP.map σp)) ∧
            out'.neg.Perm (c12_gatherPairs g.neg (idxN.map σn)) ∧
            c12_TieEq (GScores.make (c12_gatherPairs g.pos (idxP.map σp))
              (c12_gatherPairs g.neg (idxN.map σn)) g.cfg (some g.groups) false) out') := by
  obtain ⟨σp, hσp⟩ := c12_reindex_exists h.pos h.inv.1 h.inv'.1
  obtain ⟨σn, hσn⟩ := c12_reindex_exists h.neg h.inv.2 h.inv'.2
  exact ⟨c12_tieEq_obs h, ⟨c12_tieEq_swap h, c12_tieEq_obs (c12_tieEq_swap h)⟩,
    fun c st => c12_tieEq_sample_state h c st, σp, σn, hσp, hσn,
    fun c script out hr => c12_tieEq_sample h hσp hσn c script out hr⟩

/-- **C12 (constructor form).**  For the constructor's input `pos`, `neg`: EVERY object whose arrays
are admissible joint orders of the input (with the constructor's flags and group list) has the
observables of the model's object, which sorts stably. -/
theorem C12_tie_order_irrelevant_make (pos neg : List (Rat × Nat)) (cfg : Cfg)
    (gn : Option (List Nat)) (g' : GScores) (hp : c12_Admissible pos g'.pos)
    (hn : c12_Admissible neg g'.neg) (hc : g'.cfg = cfg)
    (hg : g'.groups = (GScores.make pos neg cfg gn false).groups) :
    c12_TieEq (GScores.make pos neg cfg gn false) g' ∧
    c12_ObsEq (GScores.make pos neg cfg gn false) g' ∧
    c12_ObsEq (GScores.make pos neg cfg gn false).swap g'.swap :=
  have h := c12_tieEq_of_admissible pos neg cfg gn g' hp hn hc hg
  ⟨h, c12_tieEq_obs h, c12_tieEq_obs (c12_tieEq_swap h)⟩

/-! ### a tied block: two admissible orders that differ as pair lists -/

/-- input with a block of three tied scores (score 2) carrying the labels 1, 0, 1 -/
def c12_tiePos : List (Rat × Nat) := [(3, 0), (2, 1), (1, 0), (2, 0), (2, 1)]
def c12_tieNeg : List (Rat × Nat) := [(2, 1), (0, 1), (2, 0)]

/-- one admissible order: the tied blocks keep the input order of the labels (1, 0, 1 resp. 1, 0;
this is what a stable sort returns) -/
def c12_tieA : GScores :=
  ⟨[(1, 0), (2, 1), (2, 0), (2, 1), (3, 0)], [(0, 1), (2, 1), (2, 0)], ⟨.pos, .neg⟩, [0, 1]⟩

/-- another admissible order: the tied blocks in a different label order (what an unstable argsort
may return) -/
def c12_tieB : GScores :=
  ⟨[(1, 0), (2, 0), (2, 1), (2, 1), (3, 0)], [(0, 1), (2, 0), (2, 1)], ⟨.pos, .neg⟩, [0, 1]⟩

/-- both orders are admissible for the same input … -/
theorem c12_tieA_admissible :
    c12_Admissible c12_tiePos c12_tieA.pos ∧ c12_Admissible c12_tieNeg c12_tieA.neg := by
  refine ⟨⟨List.isPerm_iff.mp (by decide +kernel), by decide +kernel⟩,
    ⟨List.isPerm_iff.mp (by decide +kernel), by decide +kernel⟩⟩

theorem c12_tieB_admissible :
    c12_Admissible c12_tiePos c12_tieB.pos ∧ c12_Admissible c12_tieNeg c12_tieB.neg := by
  refine ⟨⟨List.isPerm_iff.mp (by decide +kernel), by decide +kernel⟩,
    ⟨List.isPerm_iff.mp (by decide +kernel), by decide +kernel⟩⟩

/-- the group list of the constructed object (`sorted(set(labels))`) -/
theorem c12_tie_groups :
    (GScores.make c12_tiePos c12_tieNeg ⟨.pos, .neg⟩ none false).groups = [0, 1] := by
  rw [c12_make_groups_none]; decide +kernel

/-- … they DIFFER as pair lists (in both classes) … -/
example : c12_tieA.pos ≠ c12_tieB.pos ∧ c12_tieA.neg ≠ c12_tieB.neg := by
  constructor <;> decide +kernel

/-- … so the hypothesis of `C12_tie_order_irrelevant` holds non-trivially … -/
theorem c12_tieAB : c12_TieEq c12_tieA c12_tieB :=
  (c12_tieEq_of_admissible c12_tiePos c12_tieNeg ⟨.pos, .neg⟩ none c12_tieA
    c12_tieA_admissible.1 c12_tieA_admissible.2 rfl c12_tie_groups.symm).symm.trans
  (c12_tieEq_of_admissible c12_tiePos c12_tieNeg ⟨.pos, .neg⟩ none c12_tieB
    c12_tieB_admissible.1 c12_tieB_admissible.2 rfl c12_tie_groups.symm)

/-- both have the observables of the constructor's (stably sorted) object -/
example : c12_ObsEq (GScores.make c12_tiePos c12_tieNeg ⟨.pos, .neg⟩ none false) c12_tieA ∧
    c12_ObsEq (GScores.make c12_tiePos c12_tieNeg ⟨.pos, .neg⟩ none false) c12_tieB :=
  ⟨(C12_tie_order_irrelevant_make _ _ _ none _ c12_tieA_admissible.1 c12_tieA_admissible.2 rfl
      c12_tie_groups.symm).2.1,
   (C12_tie_order_irrelevant_make _ _ _ none _ c12_tieB_admissible.1 c12_tieB_admissible.2 rfl
      c12_tie_groups.symm).2.1⟩

/-- … and all observables agree (by the theorem) -/
example : c12_ObsEq c12_tieA c12_tieB ∧ c12_ObsEq c12_tieA.swap c12_tieB.swap :=
  ⟨(C12_tie_order_irrelevant _ _ c12_tieAB).1, (C12_tie_order_irrelevant _ _ c12_tieAB).2.1.2⟩

/-- the same, kernel-checked on the concrete objects without the theorem: `gs[grp]` for both groups
and an unknown one, group matrices and the overall matrix at thresholds below / inside / above the
tied block and at ±inf, the group list, and the same for `swap()` -/
example :
    (∀ grp ∈ [0, 1, 2], (c12_tieB.groupScores grp).pos = (c12_tieA.groupScores grp).pos ∧
      (c12_tieB.groupScores grp).neg = (c12_tieA.groupScores grp).neg ∧
      c12_tieB.groups.contains grp = c12_tieA.groups.contains grp) ∧
    (∀ t ∈ [ERat.negInf, .fin 1, .fin 2, .fin (5 / 2), .fin 3, .posInf],
      c12_tieB.groupCm t = c12_tieA.groupCm t ∧ c12_tieB.overallCm t = c12_tieA.overallCm t ∧
      c12_tieB.swap.groupCm t = c12_tieA.swap.groupCm t ∧
      c12_tieB.swap.overallCm t = c12_tieA.swap.overallCm t) ∧
    c12_tieB.groups = c12_tieA.groups ∧ c12_tieB.swap.groups = c12_tieA.swap.groups ∧
    c12_tieB.toScores.pos = c12_tieA.toScores.pos ∧ c12_tieB.toScores.neg = c12_tieA.toScores.neg ∧
    c12_tieB.swap.pos ≠ c12_tieA.swap.pos := by
  refine ⟨?_, ?_, ?_, ?_, ?_, ?_, ?_⟩ <;> decide +kernel

/-- a re-indexing of the positive arrays: positions 1 and 2 of the tied block are exchanged -/
example : c12_Reindex c12_tieA.pos c12_tieB.pos (fun i => if i = 1 then 2 else if i = 2 then 1 else i) := by
  refine ⟨List.isPerm_iff.mp (by decide +kernel), ?_, ?_, ?_⟩ <;> decide +kernel

/-- sampling: a replacement run on the model's object exists, so the sampling part of the theorem
is not vacuous; the same script on the other order returns a sample (by the theorem) -/
theorem c12_tie_run : ∃ out, GRun c12_tieA ⟨.replacement, .none, false⟩
    [[5], [0], [0], [1, 2, 2, 3, 0], [1, 1, 2]] out :=
  GRun.exists_of_isOk (by decide +kernel) (by decide +kernel)

example : ∃ out', GRun c12_tieB ⟨.replacement, .none, false⟩
    [[5], [0], [0], [1, 2, 2, 3, 0], [1, 1, 2]] out' := by
  obtain ⟨out, hr⟩ := c12_tie_run
  obtain ⟨_, _, _, σp, σn, _, _, hs⟩ := C12_tie_order_irrelevant _ _ c12_tieAB
  obtain ⟨out', h', _⟩ := hs _ _ out hr
  exact ⟨out', h'⟩

end SA

/-
C13 — bootstrap confidence limits (`utils.bootstrap_ci`, one component, one alpha): the documented
quantile / BC / BCa formulas, ordering and nesting in `alpha`, range, invariance, affine
equivariance, the spec clauses; `Normal.toy` is the lawful oracle pair used as witness elsewhere.
-/
import SA.Proofs.Quantile
import SA.Spec.C13

namespace SA
open Spec.C13

/-- order on extended rationals -/
def ERat.le : ERat → ERat → Prop
  | .negInf, _ => True
  | _, .posInf => True
  | .fin a, .fin b => a ≤ b
  | _, _ => False

/-- hypotheses on the normal cdf / ppf oracles -/
structure Normal.Lawful (n : Normal) : Prop where
  cdf_mono : ∀ a b, ERat.le a b → n.cdf a ≤ n.cdf b
  cdf_nonneg : ∀ a, 0 ≤ n.cdf a
  ppf_mono : ∀ p q, p ≤ q → ERat.le (n.ppf p) (n.ppf q)
  ppf_fin : ∀ p, 0 < p → p < 1 → ∃ x, n.ppf p = .fin x

/-- **C13 (quantile).** The limits are the `alpha/2` and `1 - alpha/2` empirical quantiles. -/
theorem C13_quantile_levels (nrm : Normal) (p15 : ℚ → ℚ) (vals : List (Option ℚ)) (th al : ℚ) :
    bootstrapCI nrm p15 .quantile vals th al =
      (quantileLinear vals (al / 2), quantileLinear vals (1 - al / 2)) := rfl

/-- **C13 (BC).** The levels are shifted by twice the normal score of the fraction of finite
replicates not exceeding the estimate. -/
theorem C13_bc_levels (nrm : Normal) (p15 : ℚ → ℚ) (vals : List (Option ℚ)) (th al p0 : ℚ)
    (h : fracLe vals th = some p0) :
    bootstrapCI nrm p15 .bc vals th al =
      (quantileLinear vals (nrm.cdf (ERat.add (ERat.double (nrm.ppf p0)) (nrm.ppf (al / 2)))),
       quantileLinear vals (nrm.cdf (ERat.add (ERat.double (nrm.ppf p0)) (nrm.ppf (1 - al / 2))))) := by
  rw [bootstrapCI_of_frac nrm p15 .bc (by simp), h]
  rfl

/-- **C13 (BCa).** With finite `z0 = Φ⁻¹(p0)` the levels are `Φ(z0 + s/(1 - a s))`,
`s = z0 + z_alpha`, `a` the documented acceleration. -/
theorem C13_bca_levels (nrm : Normal) (p15 : ℚ → ℚ) (vals : List (Option ℚ)) (th al p0 z0 zl zu : ℚ)
    (h : fracLe vals th = some p0) (hz0 : nrm.ppf p0 = .fin z0)
    (hzl : nrm.ppf (al / 2) = .fin zl) (hzu : nrm.ppf (1 - al / 2) = .fin zu) :
    bootstrapCI nrm p15 .bca vals th al =
      (quantileLinear vals (nrm.cdf (.fin (z0 + (z0 + zl) / (1 - acceleration p15 vals th * (z0 + zl))))),
       quantileLinear vals (nrm.cdf (.fin (z0 + (z0 + zu) / (1 - acceleration p15 vals th * (z0 + zu)))))) := by
  rw [bootstrapCI_of_frac nrm p15 .bca (by simp), h]
  simp only [adjustedZ, hz0, hzl, hzu, if_true]

/-- the arithmetic behind every ordering / nesting result -/
theorem tail_levels {a1 a2 : ℚ} (h : a1 ≤ a2) (h1 : a2 ≤ 1) :
    a1 / 2 ≤ a2 / 2 ∧ a2 / 2 ≤ 1 - a2 / 2 ∧ 1 - a2 / 2 ≤ 1 - a1 / 2 :=
  have hl : a1 / 2 ≤ a2 / 2 := div_le_div_of_nonneg_right h zero_le_two
  ⟨hl, le_sub_iff_add_le.mpr ((add_halves a2).trans_le h1), sub_le_sub_left hl 1⟩

/-- **C13 (ordered, quantile).** -/
theorem C13_ordered_quantile (nrm : Normal) (p15 : ℚ → ℚ) (vals : List (Option ℚ)) (th al : ℚ)
    (h0 : 0 ≤ al) (h1 : al ≤ 1) :
    optLe (bootstrapCI nrm p15 .quantile vals th al).1 (bootstrapCI nrm p15 .quantile vals th al).2 :=
  quantile_mono vals _ _ (tail_levels le_rfl h1).2.1

/-- **C13 (nested, quantile).** A larger `alpha` gives an interval inside the one for a smaller. -/
theorem C13_nested_quantile (nrm : Normal) (p15 : ℚ → ℚ) (vals : List (Option ℚ)) (th a1 a2 : ℚ)
    (h0 : 0 ≤ a1) (h : a1 ≤ a2) (h1 : a2 ≤ 1) :
    optLe (bootstrapCI nrm p15 .quantile vals th a1).1 (bootstrapCI nrm p15 .quantile vals th a2).1 ∧
    optLe (bootstrapCI nrm p15 .quantile vals th a2).2 (bootstrapCI nrm p15 .quantile vals th a1).2 :=
  have ⟨hl, _, hu⟩ := tail_levels h h1
  ⟨quantile_mono vals _ _ hl,
    quantile_mono vals _ _ hu⟩

theorem Normal.Lawful.ppf_fin_le {nrm : Normal} (hn : nrm.Lawful) {p q x y : ℚ} (h : p ≤ q)
    (hx : nrm.ppf p = .fin x) (hy : nrm.ppf q = .fin y) : x ≤ y := by
  have := hn.ppf_mono p q h
  rwa [hx, hy] at this

theorem Normal.Lawful.ppf_fin_tails {nrm : Normal} (hn : nrm.Lawful) {al : ℚ} (h0 : 0 < al)
    (h1 : al < 1) : ∃ l u, nrm.ppf (al / 2) = .fin l ∧ nrm.ppf (1 - al / 2) = .fin u := by
  have hu : 1 - al / 2 < 1 := sub_lt_self 1 (half_pos h0)
  have hm := (tail_levels le_rfl h1.le).2.1
  obtain ⟨l, hl⟩ := hn.ppf_fin _ (half_pos h0) (lt_of_le_of_lt hm hu)
  obtain ⟨u, hu⟩ := hn.ppf_fin _ (lt_of_lt_of_le (half_pos h0) hm) hu
  exact ⟨l, u, hl, hu⟩

theorem bcLevel_mono {nrm : Normal} (hn : nrm.Lawful) (z : ERat) {p q : ℚ} (hp : 0 < p)
    (hpq : p ≤ q) (hq : q < 1) :
    nrm.cdf (ERat.add z (nrm.ppf p)) ≤ nrm.cdf (ERat.add z (nrm.ppf q)) := by
  obtain ⟨x, hx⟩ := hn.ppf_fin p hp (lt_of_le_of_lt hpq hq)
  obtain ⟨y, hy⟩ := hn.ppf_fin q (lt_of_lt_of_le hp hpq) hq
  have hxy := hn.ppf_fin_le hpq hx hy
  rw [hx, hy]
  exact hn.cdf_mono _ _ (by cases z <;> simp [ERat.add, ERat.le, hxy])

/-- **C13 (nested, BC).** -/
theorem C13_nested_bc (nrm : Normal) (hn : nrm.Lawful) (p15 : ℚ → ℚ) (vals : List (Option ℚ))
    (th a1 a2 : ℚ) (h0 : 0 < a1) (h : a1 ≤ a2) (h1 : a2 < 1) :
    optLe (bootstrapCI nrm p15 .bc vals th a1).1 (bootstrapCI nrm p15 .bc vals th a2).1 ∧
    optLe (bootstrapCI nrm p15 .bc vals th a2).2 (bootstrapCI nrm p15 .bc vals th a1).2 := by
  cases hf : fracLe vals th with
  | none =>
    simp only [bootstrapCI_of_frac nrm p15 .bc (by simp), hf]
    exact ⟨trivial, trivial⟩
  | some p0 =>
    rw [C13_bc_levels nrm p15 vals th a1 p0 hf, C13_bc_levels nrm p15 vals th a2 p0 hf]
    obtain ⟨hl, hmid, hu⟩ := tail_levels h h1.le
    have hu1 : 1 - a1 / 2 < 1 := sub_lt_self 1 (half_pos h0)
    exact ⟨quantile_mono vals _ _
        (bcLevel_mono hn _ (half_pos h0) hl (lt_of_le_of_lt (hmid.trans hu) hu1)),
      quantile_mono vals _ _
        (bcLevel_mono hn _ (lt_of_lt_of_le (half_pos h0) (hl.trans hmid)) hu hu1)⟩

/-- **C13 (ordered, BC).** With monotone cdf/ppf oracles the BC limits are ordered. -/
theorem C13_ordered_bc (nrm : Normal) (hn : nrm.Lawful) (p15 : ℚ → ℚ) (vals : List (Option ℚ))
    (th al : ℚ) (h0 : 0 < al) (h1 : al < 1) :
    optLe (bootstrapCI nrm p15 .bc vals th al).1 (bootstrapCI nrm p15 .bc vals th al).2 := by
  cases hf : fracLe vals th with
  | none =>
    rw [bootstrapCI_of_frac nrm p15 .bc (by simp), hf]
    trivial
  | some p0 =>
    rw [C13_bc_levels nrm p15 vals th al p0 hf]
    exact quantile_mono vals _ _
      (bcLevel_mono hn _ (half_pos h0) (tail_levels le_rfl h1.le).2.1 (sub_lt_self 1 (half_pos h0)))

/-- below the pole the BCa level map is increasing: cross-multiplied, the `a`-terms cancel -/
theorem bcaShift_mono (a z0 x y : ℚ) (hxy : x ≤ y)
    (hx : a * (z0 + x) < 1) (hy : a * (z0 + y) < 1) :
    z0 + (z0 + x) / (1 - a * (z0 + x)) ≤ z0 + (z0 + y) / (1 - a * (z0 + y)) := by
  have hst : z0 + x ≤ z0 + y := (add_le_add_iff_left z0).mpr hxy
  generalize z0 + x = s at *
  generalize z0 + y = t at *
  have e : s * (1 - a * t) = t * (1 - a * s) - (t - s) := by ring
  rw [add_le_add_iff_left, div_le_div_iff₀ (sub_pos.mpr hx) (sub_pos.mpr hy), e]
  exact sub_le_self _ (sub_nonneg.mpr hst)

/-- **C13 (ordered, BCa)** on the branch where the acceleration term stays below its pole for
both tails (`a (z0 + z_alpha) < 1`): `s ↦ s / (1 - a s)` is increasing there. -/
theorem C13_ordered_bca (nrm : Normal) (hn : nrm.Lawful) (p15 : ℚ → ℚ) (vals : List (Option ℚ))
    (th al p0 z0 zl zu : ℚ) (h : fracLe vals th = some p0) (hz0 : nrm.ppf p0 = .fin z0)
    (hzl : nrm.ppf (al / 2) = .fin zl) (hzu : nrm.ppf (1 - al / 2) = .fin zu)
    (hal0 : 0 ≤ al) (hal1 : al ≤ 1)
    (hb1 : acceleration p15 vals th * (z0 + zl) < 1) (hb2 : acceleration p15 vals th * (z0 + zu) < 1) :
    optLe (bootstrapCI nrm p15 .bca vals th al).1 (bootstrapCI nrm p15 .bca vals th al).2 := by
  rw [C13_bca_levels nrm p15 vals th al p0 z0 zl zu h hz0 hzl hzu]
  exact quantile_mono vals _ _ (hn.cdf_mono _ _
    (bcaShift_mono _ z0 zl zu (hn.ppf_fin_le (tail_levels le_rfl hal1).2.1 hzl hzu) hb1 hb2))

/-- **C13 (range).** Whatever the level, a defined limit lies within the range of the finite
replicates; it is NaN exactly when there is no finite replicate. -/
theorem C13_in_range (vals : List (Option ℚ)) (q : ℚ) :
    match quantileLinear vals q with
    | none => vals.filterMap id = []
    | some r => (∃ a ∈ vals.filterMap id, a ≤ r) ∧ (∃ b ∈ vals.filterMap id, r ≤ b) :=
  quantile_in_range vals q

/-- **C13 (NaN- and order-invariance).** The limits depend only on the multiset of finite
replicates: NaN replicates and any reordering leave them unchanged (all three methods). -/
theorem C13_invariant (nrm : Normal) (p15 : ℚ → ℚ) (m : BootMethod) (vals vals' : List (Option ℚ))
    (h : (vals.filterMap id).Perm (vals'.filterMap id)) (th al : ℚ) :
    bootstrapCI nrm p15 m vals th al = bootstrapCI nrm p15 m vals' th al := by
  have hq : ∀ q, quantileLinear vals q = quantileLinear vals' q := fun q => by
    rw [quantileLinear_eq, quantileLinear_eq, sortQ_eq_of_perm _ _ h]
  have hf : fracLe vals th = fracLe vals' th := by
    unfold fracLe; simp only [h.length_eq, h.countP_eq]
  have ha : acceleration p15 vals th = acceleration p15 vals' th := by
    unfold acceleration
    simp only [(h.map _).sum_eq]
  cases m <;> simp only [bootstrapCI, hq, hf, ha]

theorem fracLe_affine (vals : List (Option ℚ)) (th c d : ℚ) (hc : 0 < c) :
    fracLe (vals.map (Option.map fun x => c * x + d)) (c * th + d) = fracLe vals th := by
  unfold fracLe
  rw [filterMap_map_optionMap]
  simp only [List.length_map, List.countP_map, Function.comp_def, add_le_add_iff_right,
    mul_le_mul_iff_right₀ hc]

theorem sum_map_mul_left (l : List ℚ) (k : ℚ) (g : ℚ → ℚ) :
    (l.map fun x => k * g x).sum = k * (l.map g).sum := by
  induction l with
  | nil => simp
  | cons a l ih => simp only [List.map_cons, List.sum_cons, ih]; ring

/-- `acceleration`'s quotient with numerator and `pow15 den` both scaled by `k` (`k = c³`) -/
theorem acc_quot_scale (k N P : ℚ) (hk : k ≠ 0) :
    (if 6 * (k * P) = 0 then 0 else k * N / (6 * (k * P))) = if 6 * P = 0 then 0 else N / (6 * P) := by
  have e : 6 * (k * P) = k * (6 * P) := by ring
  rw [e, mul_div_mul_left _ _ hk]
  simp only [mul_eq_zero, hk, false_or]

theorem acceleration_affine (p15 : ℚ → ℚ) (vals : List (Option ℚ)) (th c d : ℚ) (hc : 0 < c)
    (hp : ∀ x, p15 (c * c * x) = c * c * c * p15 x) :
    acceleration p15 (vals.map (Option.map fun x => c * x + d)) (c * th + d) =
      acceleration p15 vals th := by
  unfold acceleration
  rw [filterMap_map_optionMap]
  simp only [List.map_map, Function.comp_def]
  have e3 : (fun x : ℚ => (c * x + d - (c * th + d)) * (c * x + d - (c * th + d)) *
      (c * x + d - (c * th + d))) = fun x => (c * c * c) * ((x - th) * (x - th) * (x - th)) := by
    funext x; ring
  have e2 : (fun x : ℚ => (c * x + d - (c * th + d)) * (c * x + d - (c * th + d))) =
      fun x => (c * c) * ((x - th) * (x - th)) := by funext x; ring
  rw [e3, e2, sum_map_mul_left, sum_map_mul_left, hp]
  exact acc_quot_scale _ _ _ (by positivity)

/-- **C13 (affine equivariance).** For `c > 0` the limits of `c θ + d` around `c θ̂ + d` are
`c·limit + d`, for all three methods (BCa needs `(c² x)^1.5 = c³ x^1.5` of the power oracle). -/
theorem C13_affine (nrm : Normal) (p15 : ℚ → ℚ) (m : BootMethod) (vals : List (Option ℚ))
    (th al c d : ℚ) (hc : 0 < c) (hp : ∀ x, p15 (c * c * x) = c * c * c * p15 x) :
    bootstrapCI nrm p15 m (vals.map (Option.map fun x => c * x + d)) (c * th + d) al =
      ((bootstrapCI nrm p15 m vals th al).1.map (fun x => c * x + d),
       (bootstrapCI nrm p15 m vals th al).2.map (fun x => c * x + d)) := by
  have hq := fun q => quantile_affine vals c d q hc
  have hf := fracLe_affine vals th c d hc
  have ha := acceleration_affine p15 vals th c d hc hp
  by_cases hm : m = .quantile
  · subst hm; simp only [bootstrapCI, hq]
  · rw [bootstrapCI_of_frac nrm p15 m hm, bootstrapCI_of_frac nrm p15 m hm vals, hf, ha]
    cases fracLe vals th with
    | none => rfl
    | some p0 => simp only [hq]

/-- spec form: the quantile-method limits of the model are ordered and in range -/
theorem C13_spec_quantile (nrm : Normal) (p15 : ℚ → ℚ) (vals : List (Option ℚ)) (th al : ℚ)
    (h0 : 0 ≤ al) (h1 : al ≤ 1) :
    orderedOK (bootstrapCI nrm p15 .quantile vals th al) = true ∧
    inRangeOK vals (bootstrapCI nrm p15 .quantile vals th al) = true := by
  have ho := C13_ordered_quantile nrm p15 vals th al h0 h1
  rw [C13_quantile_levels] at ho ⊢
  have r1 := C13_in_range vals (al / 2)
  have r2 := C13_in_range vals (1 - al / 2)
  -- the mixed cases close here: `optLe` of a number and a NaN is `False` in `ho`
  cases hlo : quantileLinear vals (al / 2) <;> cases hhi : quantileLinear vals (1 - al / 2) <;>
    simp only [hlo, hhi, optLe] at ho r1 r2 ⊢
  · simp only [orderedOK, inRangeOK, r1, List.isEmpty_nil, and_self]
  · simp only [orderedOK, inRangeOK, Bool.and_eq_true, decide_eq_true_eq, List.any_eq_true]
    obtain ⟨⟨a, ha, ha'⟩, _⟩ := r1
    obtain ⟨_, ⟨b, hb, hb'⟩⟩ := r2
    exact ⟨ho, ⟨a, ha, ha'⟩, ⟨b, hb, hb'⟩⟩

/-- Non-vacuity: a lawful pair of oracles exists. -/
def Normal.toy : Normal where
  cdf := fun z => match z with
    | .negInf => 0
    | .posInf => 1
    | .fin x => max 0 (min ((x + 1) / 2) 1)
  ppf := fun p => if p ≤ 0 then .negInf else if 1 ≤ p then .posInf else .fin (2 * p - 1)

theorem Normal.toy_lawful : Normal.toy.Lawful where
  cdf_mono := by
    have hr : ∀ x : ℚ, 0 ≤ max 0 (min ((x + 1) / 2) 1) ∧ max 0 (min ((x + 1) / 2) 1) ≤ 1 :=
      fun x => ⟨le_max_left _ _, max_le zero_le_one (min_le_right _ _)⟩
    exact fun a b h => match a, b, h with
      | .negInf, .negInf, _ => le_rfl
      | .negInf, .fin b, _ => (hr b).1
      | .negInf, .posInf, _ => zero_le_one
      | .fin a, .fin b, h =>
        max_le_max le_rfl
          (min_le_min (div_le_div_of_nonneg_right (add_le_add_left h 1) zero_le_two) le_rfl)
      | .fin a, .posInf, _ => (hr a).2
      | .posInf, .posInf, _ => le_rfl
  cdf_nonneg := fun a => match a with
    | .negInf => le_rfl
    | .fin _ => le_max_left _ _
    | .posInf => zero_le_one
  ppf_mono := by
    intro p q h
    simp only [Normal.toy]
    by_cases hp : p ≤ 0
    · rw [if_pos hp]; trivial
    · rw [if_neg hp, if_neg fun h' => hp (h.trans h')]
      by_cases hq1 : 1 ≤ q
      · rw [if_pos hq1]; split <;> trivial
      · rw [if_neg hq1, if_neg fun h' => hq1 (h'.trans h)]
        exact sub_le_sub_right (mul_le_mul_of_nonneg_left h zero_le_two) 1
  ppf_fin := fun p h0 h1 => ⟨2 * p - 1, by
    simp only [Normal.toy]
    rw [if_neg (not_le.mpr h0), if_neg (not_le.mpr h1)]⟩

end SA

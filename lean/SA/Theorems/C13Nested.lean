/-
C13 — nesting in `alpha` of the BCa limits on the branch where the acceleration term stays below
its pole (`a (z0 + z) < 1`, i.e. `1 - a (z0 + z) > 0`, for the normal scores `z` of the tails).

On that branch `z ↦ z0 + (z0 + z) / (1 - a (z0 + z))` is increasing (derivative
`1 / (1 - a (z0 + z))²`), the cdf oracle is monotone and the linear quantile is monotone in its
level, so a larger `alpha` gives an interval inside the one for a smaller `alpha`.

The remaining branches of the model are covered as well:
* no finite replicate (`fracLe = none`): all four limits are NaN (`C13_bca_nan`);
* `z0 = ±inf` (all / none of the finite replicates `≤ thetaHat`): the code keeps `z0` as the level
  for both tails, the interval is the single point `quantile(cdf z0)` whatever `alpha`
  (`C13_bca_inf`), hence nested.
Together: `C13_nested_bca_total`.  Off the branch nesting fails: `c13n_offBranch_counterexample`.
-/
import SA.Theorems.C13

namespace SA

/-- `1 - a (z0 + w)` is affine in `w`: positive at both ends of `[x, y]`, positive in between -/
theorem c13n_between (a z0 x w y : ℚ) (hxw : x ≤ w) (hwy : w ≤ y)
    (hx : a * (z0 + x) < 1) (hy : a * (z0 + y) < 1) : a * (z0 + w) < 1 := by
  rcases le_total 0 a with ha | ha
  · exact (mul_le_mul_of_nonneg_left ((add_le_add_iff_left z0).mpr hwy) ha).trans_lt hy
  · exact (mul_le_mul_of_nonpos_left ((add_le_add_iff_left z0).mpr hxw) ha).trans_lt hx

/-- side condition of the BCa ordering / nesting claims at level `al`, for whatever `z0` the data
give: if `z0` is finite, the acceleration term is below its pole for both tails.  (Vacuous when
there is no finite replicate or `z0 = ±inf`.) -/
def c13n_onBranch (nrm : Normal) (p15 : ℚ → ℚ) (vals : List (Option ℚ)) (th al : ℚ) : Prop :=
  ∀ p0 z0 z, fracLe vals th = some p0 → nrm.ppf p0 = .fin z0 →
    (nrm.ppf (al / 2) = .fin z ∨ nrm.ppf (1 - al / 2) = .fin z) →
    acceleration p15 vals th * (z0 + z) < 1

/-- **C13 (BCa, no finite replicate).** Both limits are NaN. -/
theorem C13_bca_nan (nrm : Normal) (p15 : ℚ → ℚ) (vals : List (Option ℚ)) (th al : ℚ)
    (h : fracLe vals th = none) :
    bootstrapCI nrm p15 .bca vals th al = (none, none) := by
  rw [bootstrapCI_of_frac nrm p15 .bca (by simp), h]

/-- an infinite `z0` absorbs the BCa adjustment -/
theorem adjustedZ_bca_inf (a : ℚ) {z0 : ERat} (hz0 : ∀ x, z0 ≠ .fin x) (za : ERat) :
    adjustedZ .bca a z0 za = z0 := by
  cases z0 with
  | fin x => exact absurd rfl (hz0 x)
  | negInf | posInf => cases za <;> rfl

/-- **C13 (BCa, infinite `z0`).** When `z0 = Φ⁻¹(p0)` is `±inf` the level of both tails is `z0`
itself: the interval is one point and does not depend on `alpha`. -/
theorem C13_bca_inf (nrm : Normal) (p15 : ℚ → ℚ) (vals : List (Option ℚ)) (th al p0 : ℚ)
    (h : fracLe vals th = some p0) (hz0 : ∀ x, nrm.ppf p0 ≠ .fin x) :
    bootstrapCI nrm p15 .bca vals th al =
      (quantileLinear vals (nrm.cdf (nrm.ppf p0)), quantileLinear vals (nrm.cdf (nrm.ppf p0))) := by
  rw [bootstrapCI_of_frac nrm p15 .bca (by simp), h]
  simp only [adjustedZ_bca_inf _ hz0]

/-- **C13 (nested, BCa), outer-level form.** Finite `z0`; the acceleration term is below its pole
for the two tails of the SMALLER `alpha` (the outer interval).  Then the same holds for the tails
of the larger `alpha` and the interval at `a2` lies inside the interval at `a1`. -/
theorem C13_nested_bca_outer (nrm : Normal) (hn : nrm.Lawful) (p15 : ℚ → ℚ)
    (vals : List (Option ℚ)) (th a1 a2 p0 z0 l1 u1 l2 u2 : ℚ)
    (h : fracLe vals th = some p0) (hz0 : nrm.ppf p0 = .fin z0)
    (hl1 : nrm.ppf (a1 / 2) = .fin l1) (hu1 : nrm.ppf (1 - a1 / 2) = .fin u1)
    (hl2 : nrm.ppf (a2 / 2) = .fin l2) (hu2 : nrm.ppf (1 - a2 / 2) = .fin u2)
    (h12 : a1 ≤ a2) (h1 : a2 ≤ 1)
    (hbl1 : acceleration p15 vals th * (z0 + l1) < 1)
    (hbu1 : acceleration p15 vals th * (z0 + u1) < 1) :
    optLe (bootstrapCI nrm p15 .bca vals th a1).1 (bootstrapCI nrm p15 .bca vals th a2).1 ∧
    optLe (bootstrapCI nrm p15 .bca vals th a2).2 (bootstrapCI nrm p15 .bca vals th a1).2 := by
  rw [C13_bca_levels nrm p15 vals th a1 p0 z0 l1 u1 h hz0 hl1 hu1,
    C13_bca_levels nrm p15 vals th a2 p0 z0 l2 u2 h hz0 hl2 hu2]
  -- `l1 ≤ l2 ≤ u2 ≤ u1`: the pole condition passes from the outer pair to the inner one
  obtain ⟨t1, t2, t3⟩ := tail_levels h12 h1
  have m1 : l1 ≤ l2 := hn.ppf_fin_le t1 hl1 hl2
  have m2 : l2 ≤ u2 := hn.ppf_fin_le t2 hl2 hu2
  have m3 : u2 ≤ u1 := hn.ppf_fin_le t3 hu2 hu1
  have hbl2 : acceleration p15 vals th * (z0 + l2) < 1 :=
    c13n_between _ z0 l1 l2 u1 m1 (m2.trans m3) hbl1 hbu1
  have hbu2 : acceleration p15 vals th * (z0 + u2) < 1 :=
    c13n_between _ z0 l1 u2 u1 (m1.trans m2) m3 hbl1 hbu1
  exact ⟨quantile_mono vals _ _
      (hn.cdf_mono _ _ (bcaShift_mono _ z0 l1 l2 m1 hbl1 hbl2)),
    quantile_mono vals _ _
      (hn.cdf_mono _ _ (bcaShift_mono _ z0 u2 u1 m3 hbu2 hbu1))⟩

/-- **C13 (nested, BCa)** on the branch where the acceleration term stays below its pole for both
tails and both levels (`a (z0 + z) < 1` for the four normal scores involved; same form of side
condition as `C13_ordered_bca`): the interval at the larger `alpha` lies inside the interval at
the smaller one. -/
theorem C13_nested_bca (nrm : Normal) (hn : nrm.Lawful) (p15 : ℚ → ℚ)
    (vals : List (Option ℚ)) (th a1 a2 p0 z0 l1 u1 l2 u2 : ℚ)
    (h : fracLe vals th = some p0) (hz0 : nrm.ppf p0 = .fin z0)
    (hl1 : nrm.ppf (a1 / 2) = .fin l1) (hu1 : nrm.ppf (1 - a1 / 2) = .fin u1)
    (hl2 : nrm.ppf (a2 / 2) = .fin l2) (hu2 : nrm.ppf (1 - a2 / 2) = .fin u2)
    (_h0 : 0 ≤ a1) (h12 : a1 ≤ a2) (h1 : a2 ≤ 1)
    (hbl1 : acceleration p15 vals th * (z0 + l1) < 1)
    (hbu1 : acceleration p15 vals th * (z0 + u1) < 1)
    (_hbl2 : acceleration p15 vals th * (z0 + l2) < 1)
    (_hbu2 : acceleration p15 vals th * (z0 + u2) < 1) :
    optLe (bootstrapCI nrm p15 .bca vals th a1).1 (bootstrapCI nrm p15 .bca vals th a2).1 ∧
    optLe (bootstrapCI nrm p15 .bca vals th a2).2 (bootstrapCI nrm p15 .bca vals th a1).2 :=
  C13_nested_bca_outer nrm hn p15 vals th a1 a2 p0 z0 l1 u1 l2 u2 h hz0 hl1 hu1 hl2 hu2
    h12 h1 hbl1 hbu1

/-- **C13 (nested, BCa), total form** (same shape as `C13_nested_bc`): for `0 < a1 ≤ a2 < 1`, lawful
normal oracles, and the side condition at the outer level `a1` only, the BCa interval at `a2` lies
inside the interval at `a1` — in every branch of the model: no finite replicate (all limits NaN),
`z0 = ±inf` (both intervals are the same single point), finite `z0` (below the pole). -/
theorem C13_nested_bca_total (nrm : Normal) (hn : nrm.Lawful) (p15 : ℚ → ℚ)
    (vals : List (Option ℚ)) (th a1 a2 : ℚ) (h0 : 0 < a1) (h : a1 ≤ a2) (h1 : a2 < 1)
    (hb : c13n_onBranch nrm p15 vals th a1) :
    optLe (bootstrapCI nrm p15 .bca vals th a1).1 (bootstrapCI nrm p15 .bca vals th a2).1 ∧
    optLe (bootstrapCI nrm p15 .bca vals th a2).2 (bootstrapCI nrm p15 .bca vals th a1).2 := by
  cases hf : fracLe vals th with
  | none =>
    rw [C13_bca_nan nrm p15 vals th a1 hf, C13_bca_nan nrm p15 vals th a2 hf]
    exact ⟨trivial, trivial⟩
  | some p0 =>
    by_cases hfin : ∃ z0, nrm.ppf p0 = .fin z0
    · obtain ⟨z0, hz0⟩ := hfin
      obtain ⟨l1, u1, hl1, hu1⟩ := hn.ppf_fin_tails h0 (lt_of_le_of_lt h h1)
      obtain ⟨l2, u2, hl2, hu2⟩ := hn.ppf_fin_tails (lt_of_lt_of_le h0 h) h1
      exact C13_nested_bca_outer nrm hn p15 vals th a1 a2 p0 z0 l1 u1 l2 u2 hf hz0 hl1 hu1 hl2 hu2
        h (le_of_lt h1) (hb p0 z0 l1 hf hz0 (Or.inl hl1))
        (hb p0 z0 u1 hf hz0 (Or.inr hu1))
    · have hinf : ∀ x, nrm.ppf p0 ≠ .fin x := fun x hx => hfin ⟨x, hx⟩
      rw [C13_bca_inf nrm p15 vals th a1 p0 hf hinf, C13_bca_inf nrm p15 vals th a2 p0 hf hinf]
      exact ⟨optLe_refl _, optLe_refl _⟩

/-! ### the hypotheses are satisfiable (non-trivial input: `z0 = 1/2`, acceleration `3/14`) -/

/-- replicates `0, 1, NaN, 2, 5` around the estimate `2`; toy power oracle `x ↦ x` -/
def c13n_vals : List (Option ℚ) := [some 0, some 1, none, some 2, some 5]

theorem c13n_ex_frac : fracLe c13n_vals 2 = some (3 / 4) := by decide +kernel

theorem c13n_ex_acc : acceleration (fun x => x) c13n_vals 2 = 3 / 14 := by decide +kernel

/-- the linear quantile of the example replicates (the sort is well-founded recursion and does not
reduce in the kernel, so it is discharged with `mergeSort_of_pairwise`) -/
theorem c13n_ex_quantile (q : ℚ) : quantileLinear c13n_vals q = some (qcore [0, 1, 2, 5] q) := by
  have hf : c13n_vals.filterMap id = [0, 1, 2, 5] := by decide +kernel
  have hs : sortQ [0, 1, 2, 5] = [0, 1, 2, 5] :=
    List.mergeSort_of_pairwise (by decide +kernel)
  rw [quantileLinear_eq, hf, hs]
  rfl

theorem c13n_ex_onBranch : c13n_onBranch Normal.toy (fun x => x) c13n_vals 2 (1 / 10) := by
  intro p0 z0 z hf hz0 hz
  obtain rfl : 3 / 4 = p0 := Option.some.inj (c13n_ex_frac.symm.trans hf)
  have e0 : Normal.toy.ppf (3 / 4) = .fin (1 / 2) := by decide +kernel
  have el : Normal.toy.ppf (1 / 10 / 2) = .fin (-9 / 10) := by decide +kernel
  have eu : Normal.toy.ppf (1 - 1 / 10 / 2) = .fin (9 / 10) := by decide +kernel
  obtain rfl : 1 / 2 = z0 := ERat.fin.inj (e0.symm.trans hz0)
  rw [c13n_ex_acc]
  rcases hz with hz | hz
  · obtain rfl : -9 / 10 = z := ERat.fin.inj (el.symm.trans hz)
    norm_num
  · obtain rfl : 9 / 10 = z := ERat.fin.inj (eu.symm.trans hz)
    norm_num

/-- hypotheses of `C13_nested_bca_total` hold for a concrete input with nonzero acceleration -/
example :
    optLe (bootstrapCI Normal.toy (fun x => x) .bca c13n_vals 2 (1 / 10)).1
        (bootstrapCI Normal.toy (fun x => x) .bca c13n_vals 2 (1 / 5)).1 ∧
    optLe (bootstrapCI Normal.toy (fun x => x) .bca c13n_vals 2 (1 / 5)).2
        (bootstrapCI Normal.toy (fun x => x) .bca c13n_vals 2 (1 / 10)).2 :=
  C13_nested_bca_total Normal.toy Normal.toy_lawful (fun x => x) c13n_vals 2 (1 / 10) (1 / 5)
    (by norm_num) (by norm_num) (by norm_num) c13n_ex_onBranch

/-- hypotheses of `C13_nested_bca` / `C13_nested_bca_outer` (explicit form) hold for the same
input: `z0 = 1/2`, tails `∓9/10` at `alpha = 1/10` and `∓4/5` at `alpha = 1/5`, `a = 3/14`. -/
example :
    optLe (bootstrapCI Normal.toy (fun x => x) .bca c13n_vals 2 (1 / 10)).1
        (bootstrapCI Normal.toy (fun x => x) .bca c13n_vals 2 (1 / 5)).1 ∧
    optLe (bootstrapCI Normal.toy (fun x => x) .bca c13n_vals 2 (1 / 5)).2
        (bootstrapCI Normal.toy (fun x => x) .bca c13n_vals 2 (1 / 10)).2 :=
  C13_nested_bca Normal.toy Normal.toy_lawful (fun x => x) c13n_vals 2 (1 / 10) (1 / 5)
    (3 / 4) (1 / 2) (-9 / 10) (9 / 10) (-4 / 5) (4 / 5)
    c13n_ex_frac (by decide +kernel) (by decide +kernel) (by decide +kernel) (by decide +kernel)
    (by decide +kernel) (by norm_num) (by norm_num) (by norm_num)
    (by rw [c13n_ex_acc]; norm_num) (by rw [c13n_ex_acc]; norm_num)
    (by rw [c13n_ex_acc]; norm_num) (by rw [c13n_ex_acc]; norm_num)

/-- Off the branch nesting fails.  Same replicates and lawful toy oracles, power oracle `_ ↦ 3`
(acceleration `1`, pole at `z0 + z = 1`): at `alpha = 1/10` the upper tail is beyond the pole
(`z0 + z = 7/5`) and the upper limit drops to the smallest replicate `0`; at `alpha = 3/5` it is
below the pole (`z0 + z = 9/10`) and the upper limit is the largest replicate `5`.  So the interval
at the larger `alpha` is NOT inside the one at the smaller `alpha`. -/
theorem c13n_offBranch_counterexample :
    acceleration (fun _ => 3) c13n_vals 2 = 1 ∧
    (bootstrapCI Normal.toy (fun _ => 3) .bca c13n_vals 2 (1 / 10)).2 = some 0 ∧
    (bootstrapCI Normal.toy (fun _ => 3) .bca c13n_vals 2 (3 / 5)).2 = some 5 ∧
    ¬ optLe (bootstrapCI Normal.toy (fun _ => 3) .bca c13n_vals 2 (3 / 5)).2
        (bootstrapCI Normal.toy (fun _ => 3) .bca c13n_vals 2 (1 / 10)).2 := by
  have hacc : acceleration (fun _ => 3) c13n_vals 2 = 1 := by decide +kernel
  have e1 : (bootstrapCI Normal.toy (fun _ => 3) .bca c13n_vals 2 (1 / 10)).2 = some 0 := by
    rw [C13_bca_levels Normal.toy (fun _ => 3) c13n_vals 2 (1 / 10) (3 / 4) (1 / 2) (-9 / 10)
      (9 / 10) c13n_ex_frac (by decide +kernel) (by decide +kernel) (by decide +kernel)]
    show quantileLinear c13n_vals _ = some 0
    rw [hacc, c13n_ex_quantile]
    decide +kernel
  have e2 : (bootstrapCI Normal.toy (fun _ => 3) .bca c13n_vals 2 (3 / 5)).2 = some 5 := by
    rw [C13_bca_levels Normal.toy (fun _ => 3) c13n_vals 2 (3 / 5) (3 / 4) (1 / 2) (-2 / 5)
      (2 / 5) c13n_ex_frac (by decide +kernel) (by decide +kernel) (by decide +kernel)]
    show quantileLinear c13n_vals _ = some 5
    rw [hacc, c13n_ex_quantile]
    decide +kernel
  refine ⟨hacc, e1, e2, ?_⟩
  rw [e1, e2]
  simp [optLe]

end SA

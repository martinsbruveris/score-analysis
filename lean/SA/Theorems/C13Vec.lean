/-
C13 — the axis bookkeeping of `utils.bootstrap_ci`: the whole-array model `bootstrapCIVec`
(`SA/Model/BootstrapVec.lean`, statement by statement: ravel of alpha, `np.stack(..., axis=0)`,
`np.nanquantile(theta, q=(2, Z'), axis=0)`, reshape, `np.moveaxis([0, 1] -> [-1, -2])`, reshape to
`Y + A + (2,)`; for bc / bca the flattening to `(N, M)`, the loop over components and the reshape to
`Y + (2,)`) agrees entry by entry with the one-component, one-alpha model `bootstrapCI`, for every
metric shape `Y` and alpha shape `A` (any ranks).  Hence every one-component theorem of
`C13.lean` / `C13Nested.lean` holds for every entry; "independent per component" and two lifted
instances are stated explicitly.  Two wrong versions of this bookkeeping (`swapaxes` for `moveaxis`;
no axis move) are shown to differ from the model on kernel-checked inputs.
-/
import SA.Proofs.NdArray
import SA.Model.BootstrapVec
import SA.Theorems.C13

namespace SA
open Spec.C13

/-- the `k`-th limit of a `(lower, upper)` pair -/
def limitK (k : ℕ) (p : Option ℚ × Option ℚ) : Option ℚ := if k = 0 then p.1 else p.2

/-- `alpha_joint = np.stack([alpha / 2, 1 - alpha / 2], axis=0)` -/
def alphaJointOf (alpha : Nd ℚ) : Nd ℚ :=
  Nd.ofFn [2, alpha.size] fun idx =>
    (([alpha.ravel.map (· / 2), alpha.ravel.map (1 - · / 2)] : List (Nd ℚ)).getD (idx.headD 0)
      (alpha.ravel.map (· / 2))).get idx.tail

theorem stack0_alpha (alpha : Nd ℚ) :
    stack0 [alpha.ravel.map (· / 2), alpha.ravel.map (1 - · / 2)] = .ok (alphaJointOf alpha) := by
  simp [stack0, alphaJointOf, Nd.map, Nd.ravel]

theorem alphaJoint_get (alpha : Nd ℚ) (hw : alpha.WF) (k z : ℕ) (hk : k < 2) (hz : z < alpha.size) :
    (alphaJointOf alpha).get [k, z] =
      if k = 0 then alpha.data.getD z 0 / 2 else 1 - alpha.data.getD z 0 / 2 := by
  unfold alphaJointOf
  rw [Nd.ofFn_get _ (show InRange [2, alpha.size] [k, z] from ⟨hk, hz, trivial⟩)]
  have hz' : z < alpha.data.length := lt_of_lt_of_eq hz (Eq.symm hw)
  rcases Nat.lt_succ_iff_lt_or_eq.mp hk with h0 | rfl
  · obtain rfl := Nat.lt_one_iff.mp h0
    simp [Nd.get, Nd.map, Nd.ravel, flatIndex, shapeProd, List.getD_eq_getElem?_getD, hz']
  · simp [Nd.get, Nd.map, Nd.ravel, flatIndex, shapeProd, List.getD_eq_getElem?_getD, hz']

/-- the range check of `np.nanquantile` on `alpha_joint` is the check `0 ≤ alpha ≤ 2` on `alpha` -/
theorem alphaJoint_valid_iff (alpha : Nd ℚ) (hw : alpha.WF) :
    (alphaJointOf alpha).data.all (fun x => decide (0 ≤ x) && decide (x ≤ 1)) = true ↔
      ∀ x ∈ alpha.data, 0 ≤ x ∧ x ≤ 2 := by
  rw [List.all_eq_true, Nd.forall_mem_data (alphaJointOf alpha) (Nd.ofFn_wf _ _)
    (fun x => (decide (0 ≤ x) && decide (x ≤ 1)) = true),
    Nd.forall_mem_data alpha hw (fun x => 0 ≤ x ∧ x ≤ 2)]
  simp only [Bool.and_eq_true, decide_eq_true_eq]
  constructor
  · intro h a ha
    have hz := flatIndex_lt ha
    have h0 := h [0, flatIndex alpha.shape a] ⟨Nat.two_pos, hz, trivial⟩
    have h1 := h [1, flatIndex alpha.shape a] ⟨Nat.one_lt_two, hz, trivial⟩
    rw [alphaJoint_get alpha hw _ _ (by decide) hz] at h0 h1
    exact ⟨not_lt.mp fun hb => absurd h0.1 (not_le.mpr (div_neg_of_neg_of_pos hb two_pos)),
      not_lt.mp fun hb => absurd h1.1 (not_le.mpr (sub_neg.mpr ((one_lt_div two_pos).mpr hb)))⟩
  · intro hal i hi
    match i, hi with
    | [k, z], hi =>
      obtain ⟨h0, h2⟩ := hal (unravel alpha.shape z) (unravel_inRange hi.2.1)
      rw [Nd.get, flatIndex_unravel hi.2.1] at h0 h2
      have l0 : 0 ≤ alpha.data.getD z 0 / 2 := div_nonneg h0 zero_le_two
      have l1 : alpha.data.getD z 0 / 2 ≤ 1 := (div_le_one two_pos).mpr h2
      rw [alphaJoint_get alpha hw k z hi.1 hi.2.1]
      split
      · exact ⟨l0, l1⟩
      · exact ⟨sub_nonneg.mpr l1, sub_le_self 1 l0⟩

theorem alphaJoint_nonempty (alpha : Nd ℚ) (hne : alpha.size ≠ 0) :
    (alphaJointOf alpha).data.isEmpty = false := by
  simp [alphaJointOf, Nd.ofFn, shapeProd, hne]

theorem npNanquantile_valid (theta : Nd (Option ℚ)) (q : Nd ℚ) (hne : q.data.isEmpty = false)
    (h : q.data.all (fun x => decide (0 ≤ x) && decide (x ≤ 1)) = true) (hr : theta.shape ≠ []) :
    npNanquantileAxis0 theta q =
      if theta.size = 0 then
        .ok ⟨theta.shape.tail, List.replicate (shapeProd theta.shape.tail) none⟩
      else .ok (nanquantileAxis0 theta q) := by
  unfold npNanquantileAxis0
  rw [if_neg (by rw [hne]; exact Bool.false_ne_true), if_neg (not_not.mpr h), if_neg hr]

theorem bootstrapCIVec_quantile_def (nrm : Normal) (p15 : ℚ → ℚ) (theta : Nd (Option ℚ))
    (thetaHat : Option (Nd ℚ)) (alpha : Nd ℚ) :
    bootstrapCIVec nrm p15 .quantile theta thetaHat alpha =
      ((npNanquantileAxis0 theta (alphaJointOf alpha)).bind fun ci =>
        ci.reshape ([2, alpha.size] ++ theta.shape.tail)).bind fun ci =>
          (ci.moveaxis [0, 1] [-1, -2]).bind fun ci =>
            ci.reshape (theta.shape.tail ++ alpha.shape ++ [2]) := by
  unfold bootstrapCIVec
  simp only [stack0_alpha, bind, Except.bind]
  cases npNanquantileAxis0 theta (alphaJointOf alpha) <;> rfl

theorem nanquantileJoint_shape (theta : Nd (Option ℚ)) (alpha : Nd ℚ) (N : ℕ) (Y : List ℕ)
    (hsh : theta.shape = N :: Y) :
    (nanquantileAxis0 theta (alphaJointOf alpha)).shape = 2 :: alpha.size :: Y := by
  show [2, alpha.size] ++ theta.shape.tail = _
  rw [hsh]; rfl

/-- the first two array statements of the quantile branch: `np.nanquantile` followed by the
reshape that undoes NumPy's short-circuit for a zero-size `theta` -/
theorem quantile_steps12 (theta : Nd (Option ℚ)) (alpha : Nd ℚ) (N : ℕ) (Y : List ℕ)
    (hsh : theta.shape = N :: Y) (hN : N ≠ 0 ∨ shapeProd Y = 0) (hw : alpha.WF)
    (hne : alpha.size ≠ 0) (hal : ∀ x ∈ alpha.data, 0 ≤ x ∧ x ≤ 2) :
    (npNanquantileAxis0 theta (alphaJointOf alpha)).bind (fun ci =>
      ci.reshape ([2, alpha.size] ++ theta.shape.tail)) =
      .ok (nanquantileAxis0 theta (alphaJointOf alpha)) := by
  rw [npNanquantile_valid _ _ (alphaJoint_nonempty alpha hne)
    ((alphaJoint_valid_iff alpha hw).mpr hal) (by rw [hsh]; exact List.cons_ne_nil _ _)]
  by_cases h0 : theta.size = 0
  · have hsz : N * shapeProd Y = 0 := by rw [← h0, Nd.size, hsh]; rfl
    have hP : shapeProd Y = 0 := hN.elim (Nat.mul_eq_zero.mp hsz).resolve_left id
    -- both arrays have the shape `(2, Z') + Y` and an empty buffer
    rw [if_pos h0]
    simp [Except.bind, Nd.reshape, Nd.size, nanquantileAxis0, Nd.ofFn, alphaJointOf, hsh, shapeProd, hP]
  · rw [if_neg h0]
    exact if_pos (Nd.ofFn_size _ _).symm

/-- **the quantile branch in closed form**: the buffer of the result is the buffer of the
transposed `(2, Z', *Y)` quantile array, relabelled with the shape `Y + A + (2,)`. -/
theorem bootstrapCIVec_quantile_eq (nrm : Normal) (p15 : ℚ → ℚ) (theta : Nd (Option ℚ))
    (thetaHat : Option (Nd ℚ)) (alpha : Nd ℚ) (N : ℕ) (Y : List ℕ)
    (hsh : theta.shape = N :: Y) (hN : N ≠ 0 ∨ shapeProd Y = 0) (hw : alpha.WF)
    (hne : alpha.size ≠ 0) (hal : ∀ x ∈ alpha.data, 0 ≤ x ∧ x ≤ 2) :
    bootstrapCIVec nrm p15 .quantile theta thetaHat alpha =
      .ok ⟨Y ++ alpha.shape ++ [2],
        ((nanquantileAxis0 theta (alphaJointOf alpha)).transpose (leadPerm Y)).data⟩ := by
  have hqs := nanquantileJoint_shape theta alpha N Y hsh
  have htsh := transpose_lead2_shape (nanquantileAxis0 theta (alphaJointOf alpha)) 2 alpha.size Y hqs
  rw [bootstrapCIVec_quantile_def, quantile_steps12 theta alpha N Y hsh hN hw hne hal]
  show (Nd.moveaxis _ _ _).bind _ = _
  rw [moveaxis_lead2 _ 2 alpha.size Y hqs]
  show Nd.reshape _ _ = _
  unfold Nd.reshape
  rw [if_pos (by rw [Nd.size, htsh, hsh, List.tail_cons]; exact shapeProd_merge Y alpha.shape [2]),
    hsh]
  rfl

theorem nanquantile_get (theta : Nd (Option ℚ)) (q : Nd ℚ) (qi y : List ℕ)
    (hq : InRange q.shape qi) (hy : InRange theta.shape.tail y) :
    (nanquantileAxis0 theta q).get (qi ++ y) = quantileLinear (theta.column y) (q.get qi) := by
  unfold nanquantileAxis0
  rw [Nd.ofFn_get _ (inRange_append hq hy)]
  have hl := hq.length_eq
  rw [← hl]; simp

/-- **C13 (vectorised, quantile method).** For every metric shape `Y`, alpha shape `A`, the result
of the whole-array computation has shape `Y + A + (2,)` and a full buffer, and its entry
`[y..., a..., k]` is the `k`-th limit of the one-component formula `bootstrapCI .quantile`
applied to the replicates `theta[:, y...]` at level `alpha[a...]`, for ANY estimate `th` (the
quantile method ignores it); both levels are in `[0, 1]` iff `0 ≤ alpha ≤ 2`. -/
theorem C13_vec_quantile (nrm : Normal) (p15 : ℚ → ℚ) (theta : Nd (Option ℚ))
    (thetaHat : Option (Nd ℚ)) (alpha : Nd ℚ) (N : ℕ) (Y : List ℕ)
    (hsh : theta.shape = N :: Y) (hN : N ≠ 0 ∨ shapeProd Y = 0) (hw : alpha.WF)
    (hne : alpha.size ≠ 0) (hal : ∀ x ∈ alpha.data, 0 ≤ x ∧ x ≤ 2) :
    ∃ r, bootstrapCIVec nrm p15 .quantile theta thetaHat alpha = .ok r ∧
      r.shape = Y ++ alpha.shape ++ [2] ∧ r.WF ∧
      ∀ (y a : List ℕ) (k : ℕ) (th : ℚ), InRange Y y → InRange alpha.shape a → k < 2 →
        r.get (y ++ a ++ [k]) =
          limitK k (bootstrapCI nrm p15 .quantile (theta.column y) th (alpha.get a)) := by
  have hqs := nanquantileJoint_shape theta alpha N Y hsh
  have htsh : ((nanquantileAxis0 theta (alphaJointOf alpha)).transpose (leadPerm Y)).shape =
      Y ++ [alpha.size, 2] := transpose_lead2_shape _ 2 alpha.size Y hqs
  refine ⟨_, bootstrapCIVec_quantile_eq nrm p15 theta thetaHat alpha N Y hsh hN hw hne hal, rfl, ?_, ?_⟩
  · exact ((Nd.ofFn_wf _ _).trans (congrArg shapeProd htsh)).trans
      (shapeProd_merge Y alpha.shape [2]).symm
  · intro y a k th hy ha hk
    have hfa : flatIndex alpha.shape a < alpha.size := flatIndex_lt ha
    have hget : ((nanquantileAxis0 theta (alphaJointOf alpha)).transpose (leadPerm Y)).get
        (y ++ [flatIndex alpha.shape a, k]) = _ :=
      transpose_lead2_get _ 2 alpha.size Y hqs y _ k hy hfa hk
    -- the flat position in the `Y + A + (2,)` labelling is the flat position in `Y + (Z', 2)`
    show List.getD _ (flatIndex (Y ++ alpha.shape ++ [2]) (y ++ a ++ [k])) default = _
    rw [flatIndex_merge Y alpha.shape [2] y a [k] hy.length_eq ha.length_eq]
    show List.getD _ (flatIndex (Y ++ [alpha.size, 2]) _) default = _
    rw [← htsh]
    show (Nd.transpose _ _).get _ = _
    rw [hget, show k :: flatIndex alpha.shape a :: y = [k, flatIndex alpha.shape a] ++ y from rfl,
      nanquantile_get theta (alphaJointOf alpha) [k, flatIndex alpha.shape a] y
        (show InRange [2, alpha.size] _ from ⟨hk, hfa, trivial⟩) (by rw [hsh]; exact hy),
      alphaJoint_get alpha hw k _ hk hfa]
    unfold limitK
    split <;> rfl

theorem reshapeInfer_lead {α : Type} (a : Nd α) (N : ℕ) (Y : List ℕ) (hsh : a.shape = N :: Y)
    (hN : N ≠ 0) : a.reshapeInfer N = .ok ⟨[N, shapeProd Y], a.data⟩ := by
  have hdiv : N * shapeProd Y / N = shapeProd Y := Nat.mul_div_cancel_left _ (Nat.pos_of_ne_zero hN)
  simp [Nd.reshapeInfer, hN, Nd.size, hsh, shapeProd, hdiv]

/-- **the bc / bca branch in closed form** -/
theorem bootstrapCIVec_bc_eq (nrm : Normal) (p15 : ℚ → ℚ) (m : BootMethod) (hm : m ≠ .quantile)
    (theta : Nd (Option ℚ)) (thetaHat : Nd ℚ) (alpha : Nd ℚ) (al : ℚ) (N : ℕ) (Y : List ℕ)
    (hsh : theta.shape = N :: Y) (hN : N ≠ 0) (hth : thetaHat.shape = Y) (hal : alpha.data = [al]) :
    bootstrapCIVec nrm p15 m theta (some thetaHat) alpha =
      .ok ⟨Y ++ [2], (bcRows nrm p15 m ⟨[N, shapeProd Y], theta.data⟩
        ⟨[1, shapeProd Y], thetaHat.data⟩ al (shapeProd Y)).data⟩ := by
  have h1 := reshapeInfer_lead theta N Y hsh hN
  have h2 : thetaHat.newaxis0.reshapeInfer 1 = .ok ⟨[1, shapeProd Y], thetaHat.data⟩ :=
    reshapeInfer_lead thetaHat.newaxis0 1 Y (congrArg (1 :: ·) hth) one_ne_zero
  have h3 : (⟨[1, shapeProd Y], thetaHat.data⟩ : Nd ℚ).size = shapeProd Y := by
    simp [Nd.size, shapeProd]
  unfold bootstrapCIVec
  cases m with
  | quantile => exact absurd rfl hm
  | bc | bca =>
    simp only [hsh, bind, Except.bind, h1, h2, h3, Nd.ravel, hal, List.getD_cons_succ,
      List.getD_cons_zero, ne_eq, not_true_eq_false, if_false]
    simp only [Nd.reshape, shapeProd_append, shapeProd, mul_one, Nd.size, bcRows, Nd.ofFn,
      ↓reduceIte]

theorem column_flatten {α : Type} [Inhabited α] (theta : Nd α) (N : ℕ) (Y y : List ℕ)
    (hsh : theta.shape = N :: Y) :
    (⟨[N, shapeProd Y], theta.data⟩ : Nd α).column [flatIndex Y y] = theta.column y := by
  unfold Nd.column
  rw [hsh]
  apply List.map_congr_left
  intro n _
  show theta.data.getD (flatIndex [N, shapeProd Y] [n, flatIndex Y y]) default =
    theta.data.getD (flatIndex theta.shape (n :: y)) default
  rw [hsh, flatIndex_flatten]

/-- **C13 (vectorised, bc / bca, scalar alpha).** The result has shape `Y + (2,)`, a full buffer,
and its entry `[y..., k]` is the `k`-th limit of the one-component formula on the replicates
`theta[:, y...]` with the estimate `theta_hat[y...]`. -/
theorem C13_vec_bc (nrm : Normal) (p15 : ℚ → ℚ) (m : BootMethod) (hm : m ≠ .quantile)
    (theta : Nd (Option ℚ)) (thetaHat : Nd ℚ) (alpha : Nd ℚ) (al : ℚ) (N : ℕ) (Y : List ℕ)
    (hsh : theta.shape = N :: Y) (hN : N ≠ 0) (hth : thetaHat.shape = Y) (hal : alpha.data = [al]) :
    ∃ r, bootstrapCIVec nrm p15 m theta (some thetaHat) alpha = .ok r ∧
      r.shape = Y ++ [2] ∧ r.WF ∧
      ∀ (y : List ℕ) (k : ℕ), InRange Y y → k < 2 →
        r.get (y ++ [k]) =
          limitK k (bootstrapCI nrm p15 m (theta.column y) (thetaHat.get y) al) := by
  refine ⟨_, bootstrapCIVec_bc_eq nrm p15 m hm theta thetaHat alpha al N Y hsh hN hth hal, rfl, ?_, ?_⟩
  · exact (show (bcRows nrm p15 m _ _ al (shapeProd Y)).WF from Nd.ofFn_wf _ _).trans
      (shapeProd_merge [] Y [2]).symm
  · intro y k hy hk
    -- the flat position in the `Y + (2,)` labelling is the flat position in `(M, 2)`
    show List.getD _ (flatIndex (Y ++ [2]) (y ++ [k])) default = _
    rw [show flatIndex (Y ++ [2]) (y ++ [k]) = _ from
      flatIndex_merge [] Y [2] [] y [k] rfl hy.length_eq]
    show (bcRows nrm p15 m ⟨[N, shapeProd Y], theta.data⟩ ⟨[1, shapeProd Y], thetaHat.data⟩ al
      (shapeProd Y)).get [flatIndex Y y, k] = _
    unfold bcRows
    rw [Nd.ofFn_get _ (show InRange [shapeProd Y, 2] [flatIndex Y y, k] from
      ⟨flatIndex_lt hy, hk, trivial⟩)]
    simp only [List.headD_cons, List.getD_cons_succ, List.getD_cons_zero]
    rw [column_flatten theta N Y y hsh]
    have hth' : (⟨[1, shapeProd Y], thetaHat.data⟩ : Nd ℚ).get [0, flatIndex Y y] = thetaHat.get y := by
      simp only [Nd.get, flatIndex, shapeProd, mul_one, zero_mul, add_zero, zero_add,
        List.getD_eq_getElem?_getD, hth]
    rw [hth']
    rfl

/-- bc / bca without the estimate: `ValueError("Must provide theta_hat ...")` -/
theorem C13_vec_bc_needs_estimate (nrm : Normal) (p15 : ℚ → ℚ) (m : BootMethod) (hm : m ≠ .quantile)
    (theta : Nd (Option ℚ)) (alpha : Nd ℚ) :
    bootstrapCIVec nrm p15 m theta none alpha = .error .valueError := by
  cases m with
  | quantile => exact absurd rfl hm
  | bc | bca => rfl

/-- **C13 (independent per component).** Two replicate arrays of the same shape that agree on the
replicates of component `y` give the same limits for component `y` (all alphas, both limits),
whatever the other components contain. -/
theorem C13_vec_independent_quantile (nrm : Normal) (p15 : ℚ → ℚ) (theta theta' : Nd (Option ℚ))
    (thetaHat : Option (Nd ℚ)) (alpha : Nd ℚ) (N : ℕ) (Y : List ℕ)
    (hsh : theta.shape = N :: Y) (hsh' : theta'.shape = N :: Y) (hN : N ≠ 0 ∨ shapeProd Y = 0)
    (hw : alpha.WF) (hne : alpha.size ≠ 0) (hal : ∀ x ∈ alpha.data, 0 ≤ x ∧ x ≤ 2)
    (y : List ℕ) (hy : InRange Y y) (hcol : theta.column y = theta'.column y) :
    ∃ r r', bootstrapCIVec nrm p15 .quantile theta thetaHat alpha = .ok r ∧
      bootstrapCIVec nrm p15 .quantile theta' thetaHat alpha = .ok r' ∧
      ∀ (a : List ℕ) (k : ℕ), InRange alpha.shape a → k < 2 →
        r.get (y ++ a ++ [k]) = r'.get (y ++ a ++ [k]) := by
  obtain ⟨r, hr, _, _, hg⟩ := C13_vec_quantile nrm p15 theta thetaHat alpha N Y hsh hN hw hne hal
  obtain ⟨r', hr', _, _, hg'⟩ := C13_vec_quantile nrm p15 theta' thetaHat alpha N Y hsh' hN hw hne hal
  refine ⟨r, r', hr, hr', ?_⟩
  intro a k ha hk
  rw [hg y a k 0 hy ha hk, hg' y a k 0 hy ha hk, hcol]

theorem C13_vec_independent_bc (nrm : Normal) (p15 : ℚ → ℚ) (m : BootMethod) (hm : m ≠ .quantile)
    (theta theta' : Nd (Option ℚ)) (thetaHat thetaHat' : Nd ℚ) (alpha : Nd ℚ) (al : ℚ) (N : ℕ)
    (Y : List ℕ) (hsh : theta.shape = N :: Y) (hsh' : theta'.shape = N :: Y) (hN : N ≠ 0)
    (hth : thetaHat.shape = Y) (hth' : thetaHat'.shape = Y) (hal : alpha.data = [al])
    (y : List ℕ) (hy : InRange Y y) (hcol : theta.column y = theta'.column y)
    (hest : thetaHat.get y = thetaHat'.get y) :
    ∃ r r', bootstrapCIVec nrm p15 m theta (some thetaHat) alpha = .ok r ∧
      bootstrapCIVec nrm p15 m theta' (some thetaHat') alpha = .ok r' ∧
      ∀ k : ℕ, k < 2 → r.get (y ++ [k]) = r'.get (y ++ [k]) := by
  obtain ⟨r, hr, _, _, hg⟩ := C13_vec_bc nrm p15 m hm theta thetaHat alpha al N Y hsh hN hth hal
  obtain ⟨r', hr', _, _, hg'⟩ := C13_vec_bc nrm p15 m hm theta' thetaHat' alpha al N Y hsh' hN hth' hal
  refine ⟨r, r', hr, hr', ?_⟩
  intro k hk
  rw [hg y k hy hk, hg' y k hy hk, hcol, hest]

/-- **C13 (vectorised, ordered).** Quantile method, every alpha in [0, 1]: in every slice
`[y..., a..., :]` the lower limit is at most the upper one (or both are NaN). -/
theorem C13_vec_ordered_quantile (nrm : Normal) (p15 : ℚ → ℚ) (theta : Nd (Option ℚ))
    (thetaHat : Option (Nd ℚ)) (alpha : Nd ℚ) (N : ℕ) (Y : List ℕ)
    (hsh : theta.shape = N :: Y) (hN : N ≠ 0 ∨ shapeProd Y = 0) (hw : alpha.WF)
    (hne : alpha.size ≠ 0) (hal : ∀ x ∈ alpha.data, 0 ≤ x ∧ x ≤ 1) :
    ∃ r, bootstrapCIVec nrm p15 .quantile theta thetaHat alpha = .ok r ∧
      ∀ (y a : List ℕ), InRange Y y → InRange alpha.shape a →
        optLe (r.get (y ++ a ++ [0])) (r.get (y ++ a ++ [1])) := by
  obtain ⟨r, hr, _, _, hg⟩ := C13_vec_quantile nrm p15 theta thetaHat alpha N Y hsh hN hw hne
    (fun x hx => ⟨(hal x hx).1, (hal x hx).2.trans one_le_two⟩)
  refine ⟨r, hr, ?_⟩
  intro y a hy ha
  rw [hg y a 0 0 hy ha Nat.two_pos, hg y a 1 0 hy ha Nat.one_lt_two]
  have hm : alpha.get a ∈ alpha.data := Nd.get_mem alpha hw a ha
  exact C13_ordered_quantile nrm p15 _ 0 _ (hal _ hm).1 (hal _ hm).2

/-- **C13 (vectorised, range).** Every defined entry lies within the range of the finite replicates
of its own component; an entry is NaN exactly when that component has no finite replicate. -/
theorem C13_vec_in_range_quantile (nrm : Normal) (p15 : ℚ → ℚ) (theta : Nd (Option ℚ))
    (thetaHat : Option (Nd ℚ)) (alpha : Nd ℚ) (N : ℕ) (Y : List ℕ)
    (hsh : theta.shape = N :: Y) (hN : N ≠ 0 ∨ shapeProd Y = 0) (hw : alpha.WF)
    (hne : alpha.size ≠ 0) (hal : ∀ x ∈ alpha.data, 0 ≤ x ∧ x ≤ 2) :
    ∃ r, bootstrapCIVec nrm p15 .quantile theta thetaHat alpha = .ok r ∧
      ∀ (y a : List ℕ) (k : ℕ), InRange Y y → InRange alpha.shape a → k < 2 →
        match r.get (y ++ a ++ [k]) with
        | none => (theta.column y).filterMap id = []
        | some v => (∃ lo ∈ (theta.column y).filterMap id, lo ≤ v) ∧
            (∃ hi ∈ (theta.column y).filterMap id, v ≤ hi) := by
  obtain ⟨r, hr, _, _, hg⟩ := C13_vec_quantile nrm p15 theta thetaHat alpha N Y hsh hN hw hne hal
  refine ⟨r, hr, ?_⟩
  intro y a k hy ha hk
  rw [hg y a k 0 hy ha hk, C13_quantile_levels]
  cases k <;> exact C13_in_range _ _

/-- an empty `alpha`: `np.nanquantile` raises (reduction of a zero-size array) -/
theorem C13_vec_quantile_empty_alpha (nrm : Normal) (p15 : ℚ → ℚ) (theta : Nd (Option ℚ))
    (thetaHat : Option (Nd ℚ)) (alpha : Nd ℚ) (h0 : alpha.size = 0) :
    bootstrapCIVec nrm p15 .quantile theta thetaHat alpha = .error .valueError := by
  have : (alphaJointOf alpha).data.isEmpty = true := by
    simp [alphaJointOf, Nd.ofFn, shapeProd, h0]
  rw [bootstrapCIVec_quantile_def, npNanquantileAxis0, if_pos this]
  rfl

/-- no replicate at all but a non-empty metric shape: NumPy's short-circuited all-NaN result of
shape `Y` cannot be reshaped to `(2, Z') + Y` — ValueError -/
theorem C13_vec_quantile_no_replicates (nrm : Normal) (p15 : ℚ → ℚ) (theta : Nd (Option ℚ))
    (thetaHat : Option (Nd ℚ)) (alpha : Nd ℚ) (Y : List ℕ) (hsh : theta.shape = 0 :: Y)
    (hP : shapeProd Y ≠ 0) (hw : alpha.WF) (hne : alpha.size ≠ 0)
    (hal : ∀ x ∈ alpha.data, 0 ≤ x ∧ x ≤ 2) :
    bootstrapCIVec nrm p15 .quantile theta thetaHat alpha = .error .valueError := by
  have hsz : theta.size = 0 := by rw [Nd.size, hsh]; exact Nat.zero_mul _
  -- `2 * Z' * prod Y = prod Y` is impossible for `Z', prod Y ≥ 1`
  have hne' : ¬ shapeProd ([2, alpha.size] ++ Y) = shapeProd Y := by
    rw [shapeProd_append]
    intro h
    have h2 : shapeProd [2, alpha.size] = 1 :=
      Nat.eq_of_mul_eq_mul_right (Nat.pos_of_ne_zero hP) (h.trans (Nat.one_mul _).symm)
    have h3 : 2 * (alpha.size * 1) = 1 := h2
    omega
  rw [bootstrapCIVec_quantile_def, npNanquantile_valid _ _ (alphaJoint_nonempty alpha hne)
    ((alphaJoint_valid_iff alpha hw).mpr hal) (by rw [hsh]; exact List.cons_ne_nil _ _), if_pos hsz]
  show (Nd.reshape _ _).bind _ = _
  unfold Nd.reshape
  rw [if_neg (by rw [hsh]; exact hne')]
  rfl

/-- a level outside [0, 1] (`alpha < 0` or `alpha > 2`): "Quantiles must be in the range [0, 1]" -/
theorem C13_vec_quantile_bad_level (nrm : Normal) (p15 : ℚ → ℚ) (theta : Nd (Option ℚ))
    (thetaHat : Option (Nd ℚ)) (alpha : Nd ℚ) (hw : alpha.WF) (x : ℚ) (hx : x ∈ alpha.data)
    (hbad : x < 0 ∨ 2 < x) :
    bootstrapCIVec nrm p15 .quantile theta thetaHat alpha = .error .valueError := by
  have hne : alpha.size ≠ 0 := by
    unfold Nd.size; rw [← hw]; exact List.length_pos_iff.mpr (List.ne_nil_of_mem hx) |>.ne'
  have hinv : ¬ (alphaJointOf alpha).data.all (fun x => decide (0 ≤ x) && decide (x ≤ 1)) = true :=
    fun h => hbad.elim (not_lt.mpr (((alphaJoint_valid_iff alpha hw).mp h) x hx).1)
      (not_lt.mpr (((alphaJoint_valid_iff alpha hw).mp h) x hx).2)
  rw [bootstrapCIVec_quantile_def, npNanquantileAxis0,
    if_neg (by rw [alphaJoint_nonempty alpha hne]; exact Bool.false_ne_true), if_pos hinv]
  rfl

/-! ### two wrong versions of the bookkeeping differ from the model -/

/-- first wrong version: lower / upper quantiles separately, `np.stack(axis=-1)` to `(Z', *Y, 2)`,
then `np.swapaxes(ci, 0, 1)` instead of moving the alpha axis behind ALL metric axes -/
def variantSwapaxes (theta : Nd (Option ℚ)) (alpha : Nd ℚ) : Except Err (Nd (Option ℚ)) := do
  let a := alpha.ravel
  let lo := nanquantileAxis0 theta (a.map (· / 2))       -- (Z', *Y)
  let hi := nanquantileAxis0 theta (a.map (1 - · / 2))   -- (Z', *Y)
  let ci ← stackLast [lo, hi]                            -- (Z', *Y, 2)
  let ci ← ci.swapaxes01
  ci.reshape (theta.shape.tail ++ alpha.shape ++ [2])

/-- second wrong version: the same without any axis move: a `(Z', *Y, 2)` buffer relabelled as
`Y + A + (2,)` -/
def variantNoMove (theta : Nd (Option ℚ)) (alpha : Nd ℚ) : Except Err (Nd (Option ℚ)) := do
  let a := alpha.ravel
  let lo := nanquantileAxis0 theta (a.map (· / 2))       -- (Z', *Y)
  let hi := nanquantileAxis0 theta (a.map (1 - · / 2))   -- (Z', *Y)
  let ci ← stackLast [lo, hi]                            -- (Z', *Y, 2)
  ci.reshape (theta.shape.tail ++ alpha.shape ++ [2])

def c13v_entryIs (x : Except Err (Nd (Option ℚ))) (idx : List ℕ) (v : Option ℚ) : Bool :=
  match x with
  | .ok r => r.get idx == v
  | .error _ => false

/-- one replicate of a 2x2 metric `[[1, 2], [3, 4]]`, two alphas -/
def c13v_theta : Nd (Option ℚ) := ⟨[1, 2, 2], [some 1, some 2, some 3, some 4]⟩
def c13v_alpha : Nd ℚ := ⟨[2], [1 / 10, 1 / 2]⟩
/-- one replicate of a 2-vector metric `[1, 2]` -/
def c13v_theta1 : Nd (Option ℚ) := ⟨[1, 2], [some 1, some 2]⟩
def c13v_thetaHat : Nd ℚ := ⟨[2, 2], [1, 2, 3, 4]⟩
def c13v_alpha0 : Nd ℚ := ⟨[], [1 / 10]⟩

/-- the model: entry `[0, 1, a, k]` is component `[0, 1]` of the single replicate, i.e. 2 -/
theorem c13v_model_entry :
    c13v_entryIs (bootstrapCIVec Normal.toy id .quantile c13v_theta none c13v_alpha) [0, 1, 0, 0] (some 2)
      = true := by decide +kernel

/-- with `swapaxes` the same entry is component `[0, 0]` (value 1) -/
theorem c13v_swapaxes_differs :
    c13v_entryIs (variantSwapaxes c13v_theta c13v_alpha) [0, 1, 0, 0] (some 1) = true ∧
    c13v_entryIs (bootstrapCIVec Normal.toy id .quantile c13v_theta none c13v_alpha) [0, 1, 0, 0] (some 1)
      = false := by
  constructor <;> decide +kernel

/-- already for the documented `(N, Y)` layout with a vector alpha: without the
axis move entry `[0, 1, k]` (component 0, second alpha) is component 1 (value 2) instead of 1 -/
theorem c13v_nomove_differs :
    c13v_entryIs (variantNoMove c13v_theta1 c13v_alpha) [0, 1, 0] (some 2) = true ∧
    c13v_entryIs (bootstrapCIVec Normal.toy id .quantile c13v_theta1 none c13v_alpha) [0, 1, 0] (some 1)
      = true := by
  constructor <;> decide +kernel

/-! ### the hypotheses are satisfiable -/

/-- `C13_vec_quantile` / `_independent_quantile` / `_ordered_` / `_in_range_`: 2x2 metric, vector alpha -/
example :=
  C13_vec_quantile Normal.toy id c13v_theta none c13v_alpha 1 [2, 2] rfl (Or.inl (by decide))
    rfl (by decide) (by decide +kernel)

example : ∀ x ∈ c13v_alpha.data, 0 ≤ x ∧ x ≤ 1 := by decide +kernel

/-- `C13_vec_bc` / `_independent_bc`: 2x2 metric, scalar alpha, bca -/
example :=
  C13_vec_bc Normal.toy id .bca (by decide) c13v_theta c13v_thetaHat c13v_alpha0 (1 / 10) 1 [2, 2]
    rfl (by decide) rfl rfl

/-- `C13_vec_quantile_no_replicates`: `theta` of shape `(0, 2)` -/
example : bootstrapCIVec Normal.toy id .quantile ⟨[0, 2], []⟩ none c13v_alpha = .error .valueError :=
  C13_vec_quantile_no_replicates Normal.toy id ⟨[0, 2], []⟩ none c13v_alpha [2] rfl (by decide)
    rfl (by decide) (by decide +kernel)

/-- `C13_vec_quantile_bad_level`: alpha = 5/2 -/
example : bootstrapCIVec Normal.toy id .quantile c13v_theta none ⟨[1], [5 / 2]⟩ = .error .valueError :=
  C13_vec_quantile_bad_level Normal.toy id c13v_theta none ⟨[1], [5 / 2]⟩ rfl (5 / 2)
    (by simp) (Or.inr (by decide +kernel))

/-- `C13_vec_quantile_empty_alpha` -/
example : bootstrapCIVec Normal.toy id .quantile c13v_theta none ⟨[0], []⟩ = .error .valueError :=
  C13_vec_quantile_empty_alpha Normal.toy id c13v_theta none ⟨[0], []⟩ rfl

end SA

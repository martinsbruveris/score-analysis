/-
C13 — the whole-array model passes the executable spec clauses of `SA/Spec/C13Vec.lean`
(`vecShapeOK`, `vecEntriesOK`) at tolerance 0: the array prescribed by the property, built directly
from the one-component formula, is exactly what the code-shaped model computes.
-/
import SA.Theorems.C13Vec
import SA.Spec.C13Vec

namespace SA
open Spec.C13

theorem vecSpec_of_get (e r : Nd (Option ℚ)) (hs : e.shape = r.shape) (he : e.WF) (hr : r.WF)
    (h : ∀ i, InRange e.shape i → e.get i = r.get i) :
    vecShapeOK e r.shape = true ∧ vecEntriesOK 0 e r.data = true := by
  rw [← Nd.ext_get e r hs he hr h, ← hs]
  refine ⟨beq_self_eq_true _, ?_⟩
  simp only [vecEntriesOK, beq_self_eq_true, Bool.true_and, List.all_eq_true]
  intro p hp
  rw [List.zip_eq_zipWith, List.zipWith_self, List.mem_map] at hp
  obtain ⟨x, _, rfl⟩ := hp
  exact nearO_self x

/-- **C13 (vectorised, spec form, quantile).** The whole-array model passes the executable
clauses `vecShapeOK` / `vecEntriesOK` at tolerance 0. -/
theorem C13_vec_spec_quantile (nrm : Normal) (p15 : ℚ → ℚ) (theta : Nd (Option ℚ))
    (thetaHat : Option (Nd ℚ)) (alpha : Nd ℚ) (N : ℕ) (Y : List ℕ)
    (hsh : theta.shape = N :: Y) (hN : N ≠ 0 ∨ shapeProd Y = 0) (hw : alpha.WF)
    (hne : alpha.size ≠ 0) (hal : ∀ x ∈ alpha.data, 0 ≤ x ∧ x ≤ 2) :
    ∃ r, bootstrapCIVec nrm p15 .quantile theta thetaHat alpha = .ok r ∧
      vecShapeOK (vecExpected nrm p15 .quantile theta thetaHat alpha) r.shape = true ∧
      vecEntriesOK 0 (vecExpected nrm p15 .quantile theta thetaHat alpha) r.data = true := by
  obtain ⟨r, hr, hs, hwf, hg⟩ := C13_vec_quantile nrm p15 theta thetaHat alpha N Y hsh hN hw hne hal
  have hes : (vecExpected nrm p15 .quantile theta thetaHat alpha).shape = Y ++ alpha.shape ++ [2] := by
    simp [vecExpected, Nd.ofFn, hsh]
  refine ⟨r, hr, vecSpec_of_get _ r (hes.trans hs.symm) (Nd.ofFn_wf _ _) hwf fun i hi => ?_⟩
  rw [hes] at hi
  obtain ⟨ya, kk, rfl, hya, hkk⟩ := inRange_split hi
  obtain ⟨y, a, rfl, hy, ha⟩ := inRange_split hya
  obtain ⟨k, rfl, hk⟩ := inRange_singleton hkk
  rw [hg y a k (match thetaHat with | some h => h.get y | none => 0) hy ha hk]
  unfold vecExpected
  simp only [hsh, List.tail_cons, if_true]
  rw [Nd.ofFn_get _ (inRange_append (inRange_append hy ha) (show InRange [2] [k] from ⟨hk, trivial⟩))]
  have l1 := hy.length_eq
  have l2 := ha.length_eq
  have t1 : (y ++ a ++ [k]).take Y.length = y := by rw [List.append_assoc, List.take_left' l1]
  have t2 : ((y ++ a ++ [k]).drop Y.length).take alpha.shape.length = a := by
    rw [List.append_assoc, List.drop_left' l1, List.take_left' l2]
  have t3 : (y ++ a ++ [k]).getLastD 0 = k := by simp
  simp only [t1, t2, t3]
  rfl

/-- **C13 (vectorised, spec form, bc / bca).** -/
theorem C13_vec_spec_bc (nrm : Normal) (p15 : ℚ → ℚ) (m : BootMethod) (hm : m ≠ .quantile)
    (theta : Nd (Option ℚ)) (thetaHat : Nd ℚ) (alpha : Nd ℚ) (al : ℚ) (N : ℕ) (Y : List ℕ)
    (hsh : theta.shape = N :: Y) (hN : N ≠ 0) (hth : thetaHat.shape = Y) (hal : alpha.data = [al]) :
    ∃ r, bootstrapCIVec nrm p15 m theta (some thetaHat) alpha = .ok r ∧
      vecShapeOK (vecExpected nrm p15 m theta (some thetaHat) alpha) r.shape = true ∧
      vecEntriesOK 0 (vecExpected nrm p15 m theta (some thetaHat) alpha) r.data = true := by
  obtain ⟨r, hr, hs, hwf, hg⟩ := C13_vec_bc nrm p15 m hm theta thetaHat alpha al N Y hsh hN hth hal
  have hes : (vecExpected nrm p15 m theta (some thetaHat) alpha).shape = Y ++ [2] := by
    simp [vecExpected, Nd.ofFn, hsh, hm]
  refine ⟨r, hr, vecSpec_of_get _ r (hes.trans hs.symm) (Nd.ofFn_wf _ _) hwf fun i hi => ?_⟩
  rw [hes] at hi
  obtain ⟨y, kk, rfl, hy, hkk⟩ := inRange_split hi
  obtain ⟨k, rfl, hk⟩ := inRange_singleton hkk
  rw [hg y k hy hk]
  unfold vecExpected
  simp only [hsh, List.tail_cons, hm, if_false, List.append_nil]
  rw [Nd.ofFn_get _ (inRange_append hy (show InRange [2] [k] from ⟨hk, trivial⟩))]
  have t3 : (y ++ [k]).getLastD 0 = k := by simp
  simp only [List.take_left' hy.length_eq, hal, List.headD_cons, t3]
  rfl

/-- the hypotheses are satisfiable (same instances as in `C13Vec.lean`) -/
example :=
  C13_vec_spec_quantile Normal.toy id c13v_theta none c13v_alpha 1 [2, 2] rfl (Or.inl (by decide))
    rfl (by decide) (by decide +kernel)

example :=
  C13_vec_spec_bc Normal.toy id .bca (by decide) c13v_theta c13v_thetaHat c13v_alpha0 (1 / 10) 1
    [2, 2] rfl (by decide) rfl rfl

end SA

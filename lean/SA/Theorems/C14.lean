/-
C14 — bootstrapped metrics / intervals are what the sampler and the CI formula produce.

`sampler j` is the j-th sample handed out by the configured sampler, `metric` the (name-resolved,
kwargs-applied) metric flattened to components, `original` the object itself.
What is NOT proved here (it is observed by the correspondence run on every check): Python
attribute resolution (`getattr(type(self), name)`), keyword forwarding, NumPy RNG determinism.
-/
import SA.Proofs.BootMetric
import SA.Theorems.C13

namespace SA
open Spec.C13 Spec.C14

variable {σ : Type}

/-- **C14 (rows).** `bootstrap_metric` returns `nb` rows; row `j` is the metric of the `j`-th
sample; when the metric has a constant number `n` of components every row has `n` components. -/
theorem C14_rows (sampler : ℕ → σ) (metric : σ → List (Option ℚ)) (nb : ℕ) :
    (bootstrapMetric sampler metric nb).length = nb ∧
    (∀ j, j < nb → (bootstrapMetric sampler metric nb)[j]? = some (metric (sampler j))) ∧
    (∀ n, (∀ s, (metric s).length = n) → ∀ r ∈ bootstrapMetric sampler metric nb, r.length = n) := by
  refine ⟨by simp [bootstrapMetric], fun j hj => by simp [bootstrapMetric, hj], ?_⟩
  intro n hn r hr
  obtain ⟨j, _, rfl⟩ := List.mem_map.mp hr
  exact hn _

/-- **C14 (rows, spec form).** The model's replicate matrix passes `rowsOK` (tolerance 0) against
"metric applied to sample `0, 1, ..., nb-1`". -/
theorem C14_rows_spec (sampler : ℕ → σ) (metric : σ → List (Option ℚ)) (nb : ℕ) :
    rowsOK 0 (bootstrapMetric sampler metric nb)
      ((List.range nb).map fun j => metric (sampler j)) = true :=
  c14_rowsOK_refl _

/-- **C14 (columns).** Column `k` of the replicate matrix lists component `k` of the metric of
sample `0, 1, ..., nb-1`. -/
theorem C14_column (sampler : ℕ → σ) (metric : σ → List (Option ℚ)) (nb k : ℕ) :
    column (bootstrapMetric sampler metric nb) k =
      (List.range nb).map fun j => (metric (sampler j)).getD k none :=
  c14_column_eq sampler metric nb k

/-- **C14 (CI).** `bootstrap_ci` has one interval per component of the point estimate
`metric original`, and component `k` (with a finite estimate `th`) is the C13 formula applied to
column `k` of the replicate matrix with `th` as the estimate. -/
theorem C14_ci (nrm : Normal) (p15 : ℚ → ℚ) (m : BootMethod) (sampler : ℕ → σ)
    (metric : σ → List (Option ℚ)) (original : σ) (nb : ℕ) (al : ℚ) :
    (bootstrapCIOf nrm p15 m sampler metric original nb al).length = (metric original).length ∧
    ∀ k th, (metric original)[k]? = some (some th) →
      (bootstrapCIOf nrm p15 m sampler metric original nb al)[k]? =
        some (bootstrapCI nrm p15 m (column (bootstrapMetric sampler metric nb) k) th al) := by
  constructor
  · simp [bootstrapCIOf]
  · intro k th hk
    have hlt : k < (metric original).length := (List.getElem?_eq_some_iff.mp hk).1
    have hget : (metric original).getD k none = some th := by
      simp [List.getD_eq_getElem?_getD, hk]
    simp only [bootstrapCIOf, List.getElem?_map, List.getElem?_range hlt, Option.map_some, hget,
      ciComponent]

/-- **C14 (CI, quantile method).** For the quantile method the estimate plays no role: component
`k` is the pair of `al/2`, `1 - al/2` quantiles of column `k`, NaN estimate or not. -/
theorem C14_ci_quantile (nrm : Normal) (p15 : ℚ → ℚ) (sampler : ℕ → σ)
    (metric : σ → List (Option ℚ)) (original : σ) (nb : ℕ) (al : ℚ) (k : ℕ)
    (hk : k < (metric original).length) :
    (bootstrapCIOf nrm p15 .quantile sampler metric original nb al)[k]? =
      some (quantileLinear (column (bootstrapMetric sampler metric nb) k) (al / 2),
            quantileLinear (column (bootstrapMetric sampler metric nb) k) (1 - al / 2)) := by
  simp only [bootstrapCIOf, List.getElem?_map, List.getElem?_range hk, Option.map_some]
  cases (metric original).getD k none <;> simp [ciComponent, bootstrapCI]

/-- **C14 (quantile of a constant list).** A list of `n ≥ 1` copies of the finite value `c` has
`c` as its linear quantile at EVERY level `q`. -/
theorem C14_quantile_const (n : ℕ) (c q : ℚ) (hn : 1 ≤ n) :
    quantileLinear (List.replicate n (some c)) q = some c := by
  apply c14_quantile_const_of_mem
  · intro h
    have := congrArg List.length h
    simp at this; omega
  · intro x hx; exact (List.mem_replicate.mp hx).2

/-- **C14 (identity, one component).** If the sampler hands out the original object every time
and `nb ≥ 1`, then for all three methods, every alpha and ANY normal / power oracles both limits of
a component with finite estimate `th` equal `th` (for bc / bca the adjusted levels are irrelevant:
every quantile of a constant list is that constant). -/
theorem C14_identity_component (nrm : Normal) (p15 : ℚ → ℚ) (m : BootMethod) (sampler : ℕ → σ)
    (metric : σ → List (Option ℚ)) (original : σ) (nb : ℕ) (al : ℚ)
    (hid : ∀ j, j < nb → sampler j = original) (hnb : 1 ≤ nb) (k : ℕ) (th : ℚ)
    (hk : (metric original)[k]? = some (some th)) :
    (bootstrapCIOf nrm p15 m sampler metric original nb al)[k]? = some (some th, some th) := by
  rw [(C14_ci nrm p15 m sampler metric original nb al).2 k th hk]
  have hget : (metric original).getD k none = some th := by
    simp [List.getD_eq_getElem?_getD, hk]
  have hconst := c14_column_identity sampler metric original nb k hid
  rw [hget] at hconst
  rw [c14_bootstrapCI_const nrm p15 m _ th th al (c14_column_ne_nil sampler metric nb k hnb) hconst]

/-- **C14 (identity).** Identity sampler, `nb ≥ 1`, all components of the estimate finite: the
whole interval collapses to the estimate — `(e, e)` for every component `e` of `metric original` —
for all three methods, every alpha and ANY oracles. -/
theorem C14_identity (nrm : Normal) (p15 : ℚ → ℚ) (m : BootMethod) (sampler : ℕ → σ)
    (metric : σ → List (Option ℚ)) (original : σ) (nb : ℕ) (al : ℚ)
    (hid : ∀ j, j < nb → sampler j = original) (hnb : 1 ≤ nb)
    (hfin : ∀ e ∈ metric original, e ≠ none) :
    bootstrapCIOf nrm p15 m sampler metric original nb al =
      (metric original).map fun e => (e, e) := by
  apply List.ext_getElem?
  intro k
  rcases Nat.lt_or_ge k (metric original).length with hk | hk
  · have hne := hfin _ (List.getElem_mem hk)
    obtain ⟨th, hth⟩ := Option.ne_none_iff_exists'.mp hne
    have hk' : (metric original)[k]? = some (some th) := by
      rw [List.getElem?_eq_getElem hk, hth]
    rw [C14_identity_component nrm p15 m sampler metric original nb al hid hnb k th hk']
    simp [List.getElem?_map, hk']
  · have h1 : (bootstrapCIOf nrm p15 m sampler metric original nb al).length ≤ k := by
      rw [(C14_ci nrm p15 m sampler metric original nb al).1]; exact hk
    rw [List.getElem?_eq_none h1, List.getElem?_eq_none (by simpa using hk)]

/-- **C14 (identity, spec form).** Under the hypotheses of `C14_identity` the model's interval
passes `identityOK` with tolerance 0. -/
theorem C14_identity_spec (nrm : Normal) (p15 : ℚ → ℚ) (m : BootMethod) (sampler : ℕ → σ)
    (metric : σ → List (Option ℚ)) (original : σ) (nb : ℕ) (al : ℚ)
    (hid : ∀ j, j < nb → sampler j = original) (hnb : 1 ≤ nb)
    (hfin : ∀ e ∈ metric original, e ≠ none) :
    identityOK 0 (metric original) (bootstrapCIOf nrm p15 m sampler metric original nb al) = true := by
  rw [C14_identity nrm p15 m sampler metric original nb al hid hnb hfin]
  exact c14_identityOK_diag _

/-- **C14 (deterministic).** Replicates and interval are functions of the sampler (on
`0 .. nb-1`) and the metric alone: two samplers that hand out the same samples give the same
replicate matrix and the same interval (so, for a reproducible sample stream — fixed RNG seed — all
bootstrap results are reproducible). -/
theorem C14_deterministic (nrm : Normal) (p15 : ℚ → ℚ) (m : BootMethod) (s1 s2 : ℕ → σ)
    (metric : σ → List (Option ℚ)) (original : σ) (nb : ℕ) (al : ℚ)
    (h : ∀ j, j < nb → s1 j = s2 j) :
    bootstrapMetric s1 metric nb = bootstrapMetric s2 metric nb ∧
    bootstrapCIOf nrm p15 m s1 metric original nb al =
      bootstrapCIOf nrm p15 m s2 metric original nb al := by
  have hr : bootstrapMetric s1 metric nb = bootstrapMetric s2 metric nb :=
    List.map_congr_left fun j hj => by rw [h j (List.mem_range.mp hj)]
  exact ⟨hr, by simp only [bootstrapCIOf, hr]⟩

/-! ### the hypotheses are satisfiable, and the statements are not vacuous -/

/-- a two-component metric on `ℕ`-valued "samples": `[s/2, s²]` -/
def c14_toyMetric (s : ℕ) : List (Option ℚ) := [some ((s : ℚ) / 2), some ((s : ℚ) * s)]

example : bootstrapMetric (fun j => j + 1) c14_toyMetric 3 =
    [[some (1 / 2), some 1], [some 1, some 4], [some (3 / 2), some 9]] := by
  decide +kernel

/-- identity sampler on the toy metric, BCa with the toy oracles: the interval is the estimate -/
example : bootstrapCIOf Normal.toy (fun x => x) .bca (fun _ => 3) c14_toyMetric 3 4 (1 / 20) =
    [(some (3 / 2), some (3 / 2)), (some 9, some 9)] := by
  rw [C14_identity Normal.toy (fun x => x) .bca (fun _ => 3) c14_toyMetric 3 4 (1 / 20)
    (fun _ _ => rfl) (by norm_num) (by simp [c14_toyMetric])]
  decide +kernel

example : quantileLinear (List.replicate 3 (some (5 / 8 : ℚ))) (7 / 3) = some (5 / 8) :=
  C14_quantile_const 3 (5 / 8) (7 / 3) (by norm_num)

/-- two different samplers agreeing on `0, 1, 2` -/
example : bootstrapMetric (fun j => j) c14_toyMetric 3 =
    bootstrapMetric (fun j => if j < 3 then j else 0) c14_toyMetric 3 :=
  (C14_deterministic Normal.toy (fun x => x) .bc (fun j => j) (fun j => if j < 3 then j else 0)
    c14_toyMetric 0 3 (1 / 20) (fun j hj => by simp [hj])).1

/-- the constant-length hypothesis of `C14_rows` -/
example : ∀ r ∈ bootstrapMetric (fun j => j + 1) c14_toyMetric 5, r.length = 2 :=
  (C14_rows (fun j => j + 1) c14_toyMetric 5).2.2 2 (fun _ => rfl)

/-- the component hypothesis of `C14_ci` / `C14_identity_component` -/
example : (bootstrapCIOf Normal.toy (fun x => x) .bc (fun j => j + 1) c14_toyMetric 0 3 (1 / 20))[1]? =
    some (bootstrapCI Normal.toy (fun x => x) .bc
      (column (bootstrapMetric (fun j => j + 1) c14_toyMetric 3) 1) 0 (1 / 20)) :=
  (C14_ci Normal.toy (fun x => x) .bc (fun j => j + 1) c14_toyMetric 0 3 (1 / 20)).2 1 0
    (by simp [c14_toyMetric])

example : (bootstrapCIOf Normal.toy (fun x => x) .bc (fun _ => 4) c14_toyMetric 4 2 (1 / 20))[0]? =
    some (some 2, some 2) :=
  C14_identity_component Normal.toy (fun x => x) .bc (fun _ => 4) c14_toyMetric 4 2 (1 / 20)
    (fun _ _ => rfl) (by norm_num) 0 2 (by simp [c14_toyMetric]; norm_num)

example : (bootstrapCIOf Normal.toy (fun x => x) .quantile (fun j => j) c14_toyMetric 7 3 (1 / 20))[1]? =
    some (quantileLinear (column (bootstrapMetric (fun j => j) c14_toyMetric 3) 1) (1 / 20 / 2),
          quantileLinear (column (bootstrapMetric (fun j => j) c14_toyMetric 3) 1) (1 - 1 / 20 / 2)) :=
  C14_ci_quantile Normal.toy (fun x => x) (fun j => j) c14_toyMetric 7 3 (1 / 20) 1 (by simp [c14_toyMetric])

end SA

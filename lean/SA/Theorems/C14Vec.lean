/-
C14 — `Scores.bootstrap_ci` hands the replicate array `theta` of shape `(nb,) + Y` (row `j` = the
metric of sample `j`, `res[j] = metric(sample)`, C order) and the point estimate to
`utils.bootstrap_ci`.  With the whole-array model `bootstrapCIVec` (C13Vec) the assembled interval
array is, entry by entry, the per-component interval list `bootstrapCIOf` of `C14.lean`: entry
`[y..., a..., k]` is limit `k` of component `flatIndex Y y` at level `alpha[a...]`.
-/
import SA.Theorems.C13Vec
import SA.Theorems.C14

namespace SA

variable {σ : Type}

/-- the replicate array `res` of `bootstrap_metric` for a metric of shape `Y`: `nb` rows, each the
row-major flattening of one metric value -/
def replicateArray (rows : List (List (Option ℚ))) (Y : List ℕ) : Nd (Option ℚ) :=
  ⟨rows.length :: Y, rows.flatten⟩

theorem c14v_flatten_getD {α : Type} (d : α) (P : ℕ) (rows : List (List α)) (n t : ℕ)
    (h : ∀ r ∈ rows, r.length = P) (hn : n < rows.length) (ht : t < P) :
    rows.flatten.getD (n * P + t) d = (rows.getD n []).getD t d := by
  rw [List.getD_eq_getElem?_getD, ← List.flatMap_id, Nat.mul_comm,
    List.getElem?_flatMap_const id P rows h n t ht, List.getElem?_eq_getElem hn,
    List.getD_eq_getElem _ _ hn, List.getD_eq_getElem?_getD]
  rfl

theorem c14v_column (rows : List (List (Option ℚ))) (Y y : List ℕ)
    (hlen : ∀ r ∈ rows, r.length = shapeProd Y) (hy : InRange Y y) :
    (replicateArray rows Y).column y = column rows (flatIndex Y y) := by
  have hfy := flatIndex_lt hy
  unfold Nd.column column replicateArray
  simp only [List.headD_cons, Nd.get, flatIndex]
  apply List.ext_getElem
  · simp
  · intro n h1 h2
    simp only [List.length_map, List.length_range] at h1
    simp only [List.getElem_map, List.getElem_range]
    rw [show (default : Option ℚ) = none from rfl,
      c14v_flatten_getD none (shapeProd Y) rows n _ hlen h1 hfy]
    simp [List.getD_eq_getElem?_getD, h1]

/-- **C14 (interval array, quantile method).** For a metric of shape `Y` (every sample's metric has
`prod Y` components) and an alpha array of any shape, `utils.bootstrap_ci` applied to the replicate
array succeeds, has shape `Y + A + (2,)`, and entry `[y..., a..., k]` is limit `k` of component
`flatIndex Y y` of the per-component interval list at level `alpha[a...]`. -/
theorem C14_ci_vec_quantile (nrm : Normal) (p15 : ℚ → ℚ) (sampler : ℕ → σ)
    (metric : σ → List (Option ℚ)) (original : σ) (nb : ℕ) (Y : List ℕ) (est : Option (Nd ℚ))
    (alpha : Nd ℚ) (hnb : nb ≠ 0) (hlen : ∀ s, (metric s).length = shapeProd Y)
    (hw : alpha.WF) (hne : alpha.size ≠ 0) (hal : ∀ x ∈ alpha.data, 0 ≤ x ∧ x ≤ 2) :
    ∃ r, bootstrapCIVec nrm p15 .quantile
        (replicateArray (bootstrapMetric sampler metric nb) Y) est alpha = .ok r ∧
      r.shape = Y ++ alpha.shape ++ [2] ∧
      ∀ (y a : List ℕ) (k : ℕ), InRange Y y → InRange alpha.shape a → k < 2 →
        ((bootstrapCIOf nrm p15 .quantile sampler metric original nb (alpha.get a))[flatIndex Y y]?).map
          (limitK k) = some (r.get (y ++ a ++ [k])) := by
  have hrows := (C14_rows sampler metric nb).2.2 _ hlen
  obtain ⟨r, hr, hs, _, hg⟩ := C13_vec_quantile nrm p15
    (replicateArray (bootstrapMetric sampler metric nb) Y) est alpha nb Y
    (by simp [replicateArray, bootstrapMetric]) (Or.inl hnb) hw hne hal
  refine ⟨r, hr, hs, ?_⟩
  intro y a k hy ha hk
  have hfy : flatIndex Y y < (metric original).length := by rw [hlen]; exact flatIndex_lt hy
  rw [C14_ci_quantile nrm p15 sampler metric original nb _ _ hfy, hg y a k 0 hy ha hk,
    c14v_column _ Y y hrows hy, C13_quantile_levels]
  rfl

/-- **C14 (interval array, bc / bca, scalar alpha).** With a finite point estimate of shape `Y`
(`metric original = est` flattened) the array has shape `Y + (2,)` and entry `[y..., k]` is limit
`k` of component `flatIndex Y y` of the per-component interval list. -/
theorem C14_ci_vec_bc (nrm : Normal) (p15 : ℚ → ℚ) (m : BootMethod) (hm : m ≠ .quantile)
    (sampler : ℕ → σ) (metric : σ → List (Option ℚ)) (original : σ) (nb : ℕ) (Y : List ℕ)
    (est : Nd ℚ) (alpha : Nd ℚ) (al : ℚ) (hnb : nb ≠ 0)
    (hlen : ∀ s, (metric s).length = shapeProd Y) (hest : est.shape = Y)
    (horig : metric original = est.data.map some) (hal : alpha.data = [al]) :
    ∃ r, bootstrapCIVec nrm p15 m
        (replicateArray (bootstrapMetric sampler metric nb) Y) (some est) alpha = .ok r ∧
      r.shape = Y ++ [2] ∧
      ∀ (y : List ℕ) (k : ℕ), InRange Y y → k < 2 →
        ((bootstrapCIOf nrm p15 m sampler metric original nb al)[flatIndex Y y]?).map
          (limitK k) = some (r.get (y ++ [k])) := by
  have hrows := (C14_rows sampler metric nb).2.2 _ hlen
  obtain ⟨r, hr, hs, _, hg⟩ := C13_vec_bc nrm p15 m hm
    (replicateArray (bootstrapMetric sampler metric nb) Y) est alpha al nb Y
    (by simp [replicateArray, bootstrapMetric]) hnb hest hal
  refine ⟨r, hr, hs, ?_⟩
  intro y k hy hk
  have hfy : flatIndex Y y < est.data.length := by
    have := hlen original; rw [horig, List.length_map] at this; rw [this]; exact flatIndex_lt hy
  have hk' : (metric original)[flatIndex Y y]? = some (some (est.get y)) := by
    rw [horig, List.getElem?_map, List.getElem?_eq_getElem hfy]
    simp [Nd.get, hest, List.getD_eq_getElem?_getD, hfy]
  rw [(C14_ci nrm p15 m sampler metric original nb al).2 _ _ hk', hg y k hy hk,
    c14v_column _ Y y hrows hy]
  rfl

/-- the hypotheses are satisfiable: a 2-component metric of shape `(2,)` on `ℕ`-valued samples -/
example :=
  C14_ci_vec_quantile Normal.toy id (fun j => j) (fun s => [some (s : ℚ), some ((s : ℚ) * s)]) 0 3 [2]
    none ⟨[2], [1 / 10, 1 / 2]⟩ (by decide) (fun _ => rfl) rfl (by decide) (by decide +kernel)

example :=
  C14_ci_vec_bc Normal.toy id .bc (by decide) (fun j => j)
    (fun s => [some (s : ℚ), some ((s : ℚ) * s)]) 1 3 [2] ⟨[2], [1, 1]⟩ ⟨[], [1 / 10]⟩ (1 / 10)
    (by decide) (fun _ => rfl) rfl (by simp) rfl

end SA

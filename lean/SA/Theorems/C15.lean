/-
C15 — ROC curves are genuine operating points, ordered along the chosen x-axis.
-/
import SA.Theorems.C02
import SA.Spec.C15
import SA.Proofs.ListGetD

namespace SA
open Spec

/-! ### structure of the model's result -/

theorem thresholdAtArr_ok (u : Ulp) (s : Scores) (metric : Metric) (rs ts : List ℚ) (m : Method)
    (h : s.thresholdAtArr u metric rs m = .ok ts) :
    (s.metricArray metric).length ≠ 0 ∧
    ts = rs.map fun r => thresholdAtRatio u s.cfg (s.metricArray metric) (s.rescale metric r)
      metric.increasing metric.ratioClass m := by
  unfold Scores.thresholdAtArr at h
  split at h
  · cases h
  · rename_i hne
    injection h with h
    exact ⟨hne, h.symm⟩

theorem thresholdAtArr_of_ne (u : Ulp) (s : Scores) (metric : Metric) (rs : List ℚ) (m : Method)
    (hne : (s.metricArray metric).length ≠ 0) :
    ∃ ts, s.thresholdAtArr u metric rs m = .ok ts := by
  unfold Scores.thresholdAtArr
  rw [if_neg hne]
  exact ⟨_, rfl⟩

/-- the array form is the scalar form applied to every target -/
theorem thresholdAtArr_forall2 (u : Ulp) (s : Scores) (metric : Metric) (rs ts : List ℚ)
    (m : Method) (h : s.thresholdAtArr u metric rs m = .ok ts) :
    List.Forall₂ (fun r t => s.thresholdAt u metric r m = .ok t) rs ts := by
  obtain ⟨hne, rfl⟩ := thresholdAtArr_ok u s metric rs ts m h
  rw [List.forall₂_map_right_iff, List.forall₂_same]
  intro r _
  unfold Scores.thresholdAt
  rw [if_neg hne]

theorem thresholdAtArr_length (u : Ulp) (s : Scores) (metric : Metric) (rs ts : List ℚ)
    (m : Method) (h : s.thresholdAtArr u metric rs m = .ok ts) : ts.length = rs.length := by
  obtain ⟨_, rfl⟩ := thresholdAtArr_ok u s metric rs ts m h
  simp

theorem thresholdAtArr_mem (u : Ulp) (s : Scores) (metric : Metric) (rs ts : List ℚ)
    (m : Method) (h : s.thresholdAtArr u metric rs m = .ok ts) (r : ℚ) (hr : r ∈ rs) :
    ∃ t, s.thresholdAt u metric r m = .ok t ∧ t ∈ ts := by
  obtain ⟨hne, rfl⟩ := thresholdAtArr_ok u s metric rs ts m h
  refine ⟨_, ?_, List.mem_map.mpr ⟨r, hr, rfl⟩⟩
  unfold Scores.thresholdAt; rw [if_neg hne]

theorem findSupport_ok (u : Ulp) (s : Scores) (fnr fpr thr : Option (List ℚ)) (nb : Option ℕ)
    (xa : String) (ts : List ℚ) (h : findSupportThresholds u s fnr fpr thr nb xa = .ok ts) :
    ∃ l x, supportPoints u s fnr fpr thr nb = .ok l ∧ XAxis.ofString xa = some x ∧
      ts = orient x s.cfg.scoreClass (sortQ l) := by
  unfold findSupportThresholds at h
  split at h
  · cases h
  · rename_i l hl
    simp only at h
    split at h
    · cases h
    · rename_i x hx
      injection h with h
      exact ⟨l, x, hl, hx, h.symm⟩

theorem suppliedPoints_ok (u : Ulp) (s : Scores) (fnr fpr thr : Option (List ℚ)) (l : List ℚ)
    (h : suppliedPoints u s fnr fpr thr = .ok l) :
    ∃ a b, optThresholds u s .fnr fnr = .ok a ∧ optThresholds u s .fpr fpr = .ok b ∧
      l = (thr.getD [] ++ a) ++ b := by
  unfold suppliedPoints at h
  split at h
  · cases h
  · rename_i a ha
    split at h
    · cases h
    · rename_i b hb
      injection h with h
      exact ⟨a, b, ha, hb, h.symm⟩

theorem supportPoints_ok (u : Ulp) (s : Scores) (fnr fpr thr : Option (List ℚ)) (nb : Option ℕ)
    (l : List ℚ) (h : supportPoints u s fnr fpr thr nb = .ok l) :
    ∃ l0, suppliedPoints u s fnr fpr thr = .ok l0 ∧
      ((l0.length ≠ 0 ∧ l = l0) ∨ (l0.length = 0 ∧ defaultPoints u s nb = .ok l)) := by
  unfold supportPoints at h
  split at h
  · cases h
  · rename_i l0 hl0
    refine ⟨l0, hl0, ?_⟩
    by_cases h0 : l0.length = 0
    · rw [if_pos h0] at h; exact Or.inr ⟨h0, h⟩
    · rw [if_neg h0] at h; injection h with h; exact Or.inl ⟨h0, h.symm⟩

theorem optThresholds_length (u : Ulp) (s : Scores) (metric : Metric) (o : Option (List ℚ))
    (a : List ℚ) (h : optThresholds u s metric o = .ok a) : a.length = C15.optLen o := by
  cases o with
  | none => simp only [optThresholds] at h; injection h with h; subst h; rfl
  | some rs => exact thresholdAtArr_length u s metric rs a .linear h

theorem length_linspace01 (k : ℕ) : (linspace01 k).length = k := by
  unfold linspace01
  split
  · rename_i h; subst h; rfl
  · simp

/-! ### orientation -/

/-- `true` when the returned thresholds are ascending -/
def ascending (x : XAxis) (sc : Label) : Bool := x.decreasing == decide (sc = .neg)

theorem orient_perm (x : XAxis) (sc : Label) (l : List ℚ) : (orient x sc l).Perm l := by
  unfold orient
  cases x.decreasing <;> cases sc <;> simp

theorem orient_pairwise (x : XAxis) (sc : Label) (l : List ℚ) (h : l.Pairwise (· ≤ ·)) :
    (orient x sc l).Pairwise (fun a b => if ascending x sc then a ≤ b else b ≤ a) := by
  unfold orient ascending
  cases x.decreasing <;> cases sc <;> simp [List.pairwise_reverse, h]

/-- the reversal table of roc_curve.py:305-308 is the direction in which the named metric grows
with the threshold -/
theorem ascending_eq (x : XAxis) (cfg : Cfg) :
    ascending x cfg.scoreClass = evenFlips cfg x.metric.increasing := by
  obtain ⟨sc, ec⟩ := cfg
  cases x <;> cases sc <;> rfl

/-- on sorted arrays each numerator is monotone in the threshold, in the direction given by the
metric and `score_class` -/
theorem rateNum_le_of (s : Scores) (hp : s.pos.Pairwise (· ≤ ·)) (hn : s.neg.Pairwise (· ≤ ·))
    (metric : Metric) (t t' : ℚ)
    (h : if evenFlips s.cfg metric.increasing then t ≤ t' else t' ≤ t) :
    (s.cm (.fin t)).rateNum metric ≤ (s.cm (.fin t')).rateNum metric := by
  rw [rateNum_eq s hp hn, rateNum_eq s hp hn]
  split_ifs at h ⊢
  · exact Nat.add_le_add_left (belowCount_mono _ _ _ _ h) _
  · exact Nat.add_le_add_left (Nat.sub_le_sub_left (belowCount_mono _ _ _ _ h) _) _

/-! ### the property theorems, each after the facts about the model it needs -/

theorem roc_ok (u : Ulp) (s : Scores) (fnr fpr thr : Option (List ℚ)) (nb : Option ℕ)
    (xa : String) (c : RocCurve) (h : roc u s fnr fpr thr nb xa = .ok c) :
    findSupportThresholds u s fnr fpr thr nb xa = .ok c.thresholds ∧
    c.fnr = c.thresholds.map (fun t => (s.cm (.fin t)).fnr) ∧
    c.fpr = c.thresholds.map (fun t => (s.cm (.fin t)).fpr) := by
  unfold roc at h
  split at h
  · cases h
  · rename_i ts hts
    injection h with h
    subst h
    exact ⟨hts, rfl, rfl⟩

/-- **C15 (rates match).** Whenever `roc` returns, its thresholds are those of
`_find_support_thresholds`, FNR and FPR have the same length as the thresholds, and entry `i`
of FNR / FPR is the object's FNR / FPR at threshold `i`. -/
theorem C15_rates_match (u : Ulp) (s : Scores) (fnr fpr thr : Option (List ℚ)) (nb : Option ℕ)
    (xa : String) (c : RocCurve) (h : roc u s fnr fpr thr nb xa = .ok c) :
    findSupportThresholds u s fnr fpr thr nb xa = .ok c.thresholds ∧
    c.fnr.length = c.thresholds.length ∧ c.fpr.length = c.thresholds.length ∧
    ∀ i (hi : i < c.thresholds.length),
      c.fnr[i]? = some (s.cm (.fin c.thresholds[i])).fnr ∧
      c.fpr[i]? = some (s.cm (.fin c.thresholds[i])).fpr := by
  obtain ⟨hts, hf, hg⟩ := roc_ok u s fnr fpr thr nb xa c h
  refine ⟨hts, by rw [hf, List.length_map], by rw [hg, List.length_map], fun i hi => ?_⟩
  rw [hf, hg, List.getElem?_map, List.getElem?_map, List.getElem?_eq_getElem hi]
  exact ⟨rfl, rfl⟩

/-- **C15 (monotone).** For each of the 8 `x_axis` names, both score directions and both
equality classes, the count behind the named metric (FN, FP, TN, TP; the denominators are
constant, `cm_totals_sorted`) is non-decreasing along the returned thresholds. -/
theorem C15_monotone (u : Ulp) (s : Scores) (hp : s.pos.Pairwise (· ≤ ·))
    (hn : s.neg.Pairwise (· ≤ ·)) (fnr fpr thr : Option (List ℚ)) (nb : Option ℕ)
    (xa : String) (x : XAxis) (hx : XAxis.ofString xa = some x) (ts : List ℚ)
    (h : findSupportThresholds u s fnr fpr thr nb xa = .ok ts) :
    (ts.map fun t => (s.cm (.fin t)).rateNum x.metric).Pairwise (· ≤ ·) := by
  obtain ⟨l, x', _, hx', rfl⟩ := findSupport_ok u s fnr fpr thr nb xa ts h
  rw [hx] at hx'
  injection hx' with hx'
  subst hx'
  rw [List.pairwise_map]
  have hs := orient_pairwise x s.cfg.scoreClass (sortQ l) (sortQ_pairwise l)
  rw [ascending_eq] at hs
  exact hs.imp (fun {a b} hab => rateNum_le_of s hp hn x.metric a b hab)

theorem C15_perm (u : Ulp) (s : Scores) (fnr fpr thr : Option (List ℚ)) (nb : Option ℕ)
    (xa : String) (ts : List ℚ) (h : findSupportThresholds u s fnr fpr thr nb xa = .ok ts) :
    ∃ l, supportPoints u s fnr fpr thr nb = .ok l ∧ ts.Perm l := by
  obtain ⟨l, x, hl, _, rfl⟩ := findSupport_ok u s fnr fpr thr nb xa ts h
  exact ⟨l, hl, (orient_perm x _ _).trans (sortQ_perm l)⟩

theorem mem_of_supplied (u : Ulp) (s : Scores) (fnr fpr thr : Option (List ℚ)) (nb : Option ℕ)
    (xa : String) (ts l0 : List ℚ) (h : findSupportThresholds u s fnr fpr thr nb xa = .ok ts)
    (h0 : suppliedPoints u s fnr fpr thr = .ok l0) (t : ℚ) (ht : t ∈ l0) : t ∈ ts := by
  obtain ⟨l, hl, hperm⟩ := C15_perm u s fnr fpr thr nb xa ts h
  obtain ⟨l0', hl0', hcase⟩ := supportPoints_ok u s fnr fpr thr nb l hl
  rw [h0] at hl0'
  injection hl0' with hl0'
  subst hl0'
  rcases hcase with ⟨_, rfl⟩ | ⟨hz, _⟩
  · exact hperm.mem_iff.mpr ht
  · have : l0 = [] := List.eq_nil_of_length_eq_zero hz
    rw [this] at ht
    cases ht

/-- **C15 (contains).** The returned thresholds contain every user-supplied threshold, and for
every supplied FNR (FPR) value the threshold that `threshold_at_fnr` (`threshold_at_fpr`)
assigns to it. -/
theorem C15_contains (u : Ulp) (s : Scores) (fnr fpr thr : Option (List ℚ)) (nb : Option ℕ)
    (xa : String) (ts : List ℚ) (h : findSupportThresholds u s fnr fpr thr nb xa = .ok ts) :
    (∀ l, thr = some l → ∀ t ∈ l, t ∈ ts) ∧
    (∀ f, fnr = some f → ∀ r ∈ f, ∃ t, s.thresholdAt u .fnr r .linear = .ok t ∧ t ∈ ts) ∧
    (∀ f, fpr = some f → ∀ r ∈ f, ∃ t, s.thresholdAt u .fpr r .linear = .ok t ∧ t ∈ ts) := by
  obtain ⟨l, hl, _⟩ := C15_perm u s fnr fpr thr nb xa ts h
  obtain ⟨l0, hl0, _⟩ := supportPoints_ok u s fnr fpr thr nb l hl
  obtain ⟨a, b, ha, hb, rfl⟩ := suppliedPoints_ok u s fnr fpr thr l0 hl0
  have key := mem_of_supplied u s fnr fpr thr nb xa ts _ h hl0
  refine ⟨?_, ?_, ?_⟩
  · intro l hthr t ht
    apply key
    subst hthr
    simp [ht]
  · intro f hf r hr
    subst hf
    obtain ⟨t, h1, h2⟩ := thresholdAtArr_mem u s .fnr f a .linear ha r hr
    exact ⟨t, h1, key t (by simp [h2])⟩
  · intro f hf r hr
    subst hf
    obtain ⟨t, h1, h2⟩ := thresholdAtArr_mem u s .fpr f b .linear hb r hr
    exact ⟨t, h1, key t (by simp [h2])⟩

theorem defaultPoints_length (u : Ulp) (s : Scores) (nb : Option ℕ) (l : List ℚ)
    (h : defaultPoints u s nb = .ok l) :
    l.length = match (generalizing := false) nb with
      | none => s.pos.length + s.neg.length
      | some n => n := by
  cases nb with
  | none =>
    simp only [defaultPoints] at h
    injection h with h
    subst h
    simp
  | some k =>
    simp only [defaultPoints] at h
    split at h
    · cases h
    · rename_i a ha
      split at h
      · cases h
      · rename_i b hb
        injection h with h
        subst h
        have h1 := thresholdAtArr_length u s _ _ _ _ ha
        have h2 := thresholdAtArr_length u s _ _ _ _ hb
        rw [length_linspace01] at h1 h2
        simp only [List.length_append, h1, h2]
        omega

theorem findSupport_length (u : Ulp) (s : Scores) (fnr fpr thr : Option (List ℚ)) (nb : Option ℕ)
    (xa : String) (ts : List ℚ) (h : findSupportThresholds u s fnr fpr thr nb xa = .ok ts) :
    ts.length = C15.expectedLength s fnr fpr thr nb := by
  obtain ⟨l, hl, hperm⟩ := C15_perm u s fnr fpr thr nb xa ts h
  obtain ⟨l0, hl0, hcase⟩ := supportPoints_ok u s fnr fpr thr nb l hl
  obtain ⟨a, b, ha, hb, rfl⟩ := suppliedPoints_ok u s fnr fpr thr l0 hl0
  have la := optThresholds_length u s _ _ _ ha
  have lb := optThresholds_length u s _ _ _ hb
  have lt : (thr.getD []).length = C15.optLen thr := by cases thr <;> rfl
  have l0len : (thr.getD [] ++ a ++ b).length =
      C15.optLen thr + C15.optLen fnr + C15.optLen fpr := by
    simp only [List.length_append, la, lb, lt]
  rw [hperm.length_eq]
  unfold C15.expectedLength
  simp only
  rcases hcase with ⟨hnz, rfl⟩ | ⟨hz, hd⟩
  · rw [l0len] at hnz ⊢
    rw [if_neg hnz]
  · rw [l0len] at hz
    rw [if_pos hz]
    exact defaultPoints_length u s nb l hd

/-- **C15 (length).** With supplied points the curve has `|thresholds| + |fnr| + |fpr|` points
(`nb_points` is ignored); with none supplied (`None` or empty arrays) it has exactly `nb_points`
points, or one per scored sample when `nb_points` is `None`. -/
theorem C15_length (u : Ulp) (s : Scores) (fnr fpr thr : Option (List ℚ)) (nb : Option ℕ)
    (xa : String) (ts : List ℚ) (h : findSupportThresholds u s fnr fpr thr nb xa = .ok ts) :
    let k := C15.optLen thr + C15.optLen fnr + C15.optLen fpr
    (k ≠ 0 → ts.length = k) ∧
    (k = 0 → ∀ n, nb = some n → ts.length = n) ∧
    (k = 0 → nb = none → ts.length = s.pos.length + s.neg.length) := by
  have hlen := findSupport_length u s fnr fpr thr nb xa ts h
  unfold C15.expectedLength at hlen
  simp only at hlen ⊢
  refine ⟨?_, ?_, ?_⟩
  · intro hk; rw [hlen, if_neg hk]
  · intro hk n hn; subst hn; rw [hlen, if_pos hk]
  · intro hk hn; subst hn; rw [hlen, if_pos hk]

theorem oneMinus_ratio (a b d : ℕ) (h : a + b = d) : oneMinus (ratio a d) = ratio b d := by
  subst h
  unfold ratio
  by_cases hd : a + b = 0
  · simp only [hd, if_true, oneMinus]
  · simp only [hd, if_false, oneMinus, Option.some.injEq]
    have : ((a + b : ℕ) : ℚ) ≠ 0 := Nat.cast_ne_zero.mpr hd
    rw [eq_div_iff this, sub_mul, div_mul_cancel₀ _ this]
    push_cast
    ring

/-- `1 - FNR = TPR` (and below `1 - FPR = TNR`) on every matrix, NaN exactly together. -/
theorem oneMinus_fnr (m : CM) : oneMinus m.fnr = m.tpr :=
  oneMinus_ratio m.fn m.tp m.p (Nat.add_comm _ _)

theorem oneMinus_fpr (m : CM) : oneMinus m.fpr = m.tnr :=
  oneMinus_ratio m.fp m.tn m.n rfl

theorem oneMinus_isNone (a : Option ℚ) : (oneMinus a).isNone = a.isNone := by
  cases a <;> rfl

/-- **C15 (views).** The TPR / TNR views of the returned curve are the object's TPR / TNR at
the returned thresholds (complements of FNR / FPR, NaN-preserving); FRR, FAR, TAR, TRR are
aliases of FNR, FPR, TPR, TNR. -/
theorem C15_views (u : Ulp) (s : Scores) (fnr fpr thr : Option (List ℚ)) (nb : Option ℕ)
    (xa : String) (c : RocCurve) (h : roc u s fnr fpr thr nb xa = .ok c) :
    c.tpr = c.thresholds.map (fun t => (s.cm (.fin t)).tpr) ∧
    c.tnr = c.thresholds.map (fun t => (s.cm (.fin t)).tnr) ∧
    c.frr = c.fnr ∧ c.far = c.fpr ∧ c.tar = c.tpr ∧ c.trr = c.tnr ∧
    c.tpr = c.fnr.map oneMinus ∧ c.tnr = c.fpr.map oneMinus := by
  obtain ⟨-, hf, hg⟩ := roc_ok u s fnr fpr thr nb xa c h
  refine ⟨?_, ?_, rfl, rfl, rfl, rfl, rfl, rfl⟩
  · rw [RocCurve.tpr, hf, List.map_map]
    exact List.map_congr_left fun t _ => oneMinus_fnr _
  · rw [RocCurve.tnr, hg, List.map_map]
    exact List.map_congr_left fun t _ => oneMinus_fpr _

theorem view_eq (u : Ulp) (s : Scores) (fnr fpr thr : Option (List ℚ)) (nb : Option ℕ)
    (xa : String) (c : RocCurve) (h : roc u s fnr fpr thr nb xa = .ok c) (x : XAxis) :
    c.view x = c.thresholds.map (fun t => (s.cm (.fin t)).rate x.metric) := by
  obtain ⟨h1, h2, -⟩ := C15_views u s fnr fpr thr nb xa c h
  obtain ⟨-, hf, hg⟩ := roc_ok u s fnr fpr thr nb xa c h
  cases x <;>
    simp only [RocCurve.view, RocCurve.tar, RocCurve.trr, RocCurve.frr, RocCurve.far,
      XAxis.metric, CM.rate, h1, h2, hf, hg]

/-- **C15 (no error).** With both classes non-empty and a valid axis name the function returns;
with an invalid name it raises `ValueError`. -/
theorem C15_total (u : Ulp) (s : Scores) (hp : s.pos.length ≠ 0) (hn : s.neg.length ≠ 0)
    (fnr fpr thr : Option (List ℚ)) (nb : Option ℕ) (xa : String) :
    match XAxis.ofString xa with
    | some _ => ∃ ts, findSupportThresholds u s fnr fpr thr nb xa = .ok ts
    | none => findSupportThresholds u s fnr fpr thr nb xa = .error .valueError := by
  obtain ⟨a, ha⟩ : ∃ a, optThresholds u s .fnr fnr = .ok a := by
    cases fnr
    exacts [⟨[], rfl⟩, thresholdAtArr_of_ne u s .fnr _ .linear hp]
  obtain ⟨b, hb⟩ : ∃ b, optThresholds u s .fpr fpr = .ok b := by
    cases fpr
    exacts [⟨[], rfl⟩, thresholdAtArr_of_ne u s .fpr _ .linear hn]
  obtain ⟨d, hd⟩ : ∃ d, defaultPoints u s nb = .ok d := by
    cases nb with
    | none => exact ⟨_, rfl⟩
    | some k =>
      obtain ⟨a', ha'⟩ := thresholdAtArr_of_ne u s .fnr (linspace01 (k / 2)) .linear hp
      obtain ⟨b', hb'⟩ := thresholdAtArr_of_ne u s .fpr (linspace01 (k - k / 2)) .linear hn
      exact ⟨a' ++ b', by simp only [defaultPoints, ha', hb']⟩
  obtain ⟨l, hl⟩ : ∃ l, supportPoints u s fnr fpr thr nb = .ok l := by
    simp only [supportPoints, suppliedPoints, ha, hb]
    split
    exacts [⟨d, hd⟩, ⟨_, rfl⟩]
  cases hx : XAxis.ofString xa <;> simp only [findSupportThresholds, hl, hx]
  exact ⟨_, rfl⟩

/-! ### the executable spec clauses hold of the model -/

theorem nearO_self_c15 (a : Option ℚ) : C15.nearO 0 a a = true := by
  cases a with
  | none => rfl
  | some x => simp [C15.nearO, absQ]

theorem C15_spec_rates (u : Ulp) (s : Scores) (fnr fpr thr : Option (List ℚ)) (nb : Option ℕ)
    (xa : String) (c : RocCurve) (h : roc u s fnr fpr thr nb xa = .ok c) :
    C15.ratesMatchOK 0 c.thresholds.length (c.thresholds.map fun t => s.cm (.fin t))
      c.fnr c.fpr = true := by
  obtain ⟨-, hf, hg⟩ := roc_ok u s fnr fpr thr nb xa c h
  rw [hf, hg]
  simp only [C15.ratesMatchOK, List.length_map, beq_self_eq_true, Bool.true_and,
    Bool.and_eq_true, List.all_eq_true]
  constructor <;>
  · intro p hp
    rw [List.zip_map', List.mem_map] at hp
    obtain ⟨t, _, rfl⟩ := hp
    exact nearO_self_c15 _

theorem monotoneOK_of_pairwise : ∀ l : List (Option ℚ),
    l.Pairwise (fun a b => C15.leO a b = true) → C15.monotoneOK l = true
  | [] => fun _ => rfl
  | [_] => fun _ => rfl
  | a :: b :: rest => by
    intro h
    rw [List.pairwise_cons] at h
    simp only [C15.monotoneOK, Bool.and_eq_true]
    exact ⟨h.1 b (by simp), monotoneOK_of_pairwise (b :: rest) h.2⟩

theorem rate_eq_ratio (m : CM) (metric : Metric) :
    m.rate metric = ratio (m.rateNum metric) (m.rateDen metric) := by
  cases metric <;> rfl

theorem leO_ratio (a b d : ℕ) (h : a ≤ b) : C15.leO (ratio a d) (ratio b d) = true := by
  unfold ratio
  by_cases hd : d = 0
  · simp [hd, C15.leO]
  · simp only [hd, if_false, C15.leO, decide_eq_true_eq]
    have hdq : (0 : ℚ) < (d : ℚ) := by exact_mod_cast Nat.pos_of_ne_zero hd
    have hq : (a : ℚ) ≤ (b : ℚ) := by exact_mod_cast h
    exact div_le_div_of_nonneg_right hq (le_of_lt hdq)

theorem rateDen_sorted (s : Scores) (hp : s.pos.Pairwise (· ≤ ·)) (hn : s.neg.Pairwise (· ≤ ·))
    (x : XAxis) (t : ERat) :
    (s.cm t).rateDen x.metric =
      match x.metric with
      | .tpr | .fnr => s.pos.length + s.easyPos
      | _ => s.neg.length + s.easyNeg := by
  obtain ⟨h1, h2⟩ := cm_totals_sorted s hp hn t
  cases x <;> simp only [XAxis.metric, CM.rateDen, h1, h2]

/-- the x-axis values of the model's curve satisfy the executable monotonicity predicate -/
theorem C15_spec_monotone (u : Ulp) (s : Scores) (hp : s.pos.Pairwise (· ≤ ·))
    (hn : s.neg.Pairwise (· ≤ ·)) (fnr fpr thr : Option (List ℚ)) (nb : Option ℕ)
    (xa : String) (x : XAxis) (hx : XAxis.ofString xa = some x) (c : RocCurve)
    (h : roc u s fnr fpr thr nb xa = .ok c) :
    C15.monotoneOK (c.view x) = true := by
  obtain ⟨hts, _⟩ := C15_rates_match u s fnr fpr thr nb xa c h
  have hmono := C15_monotone u s hp hn fnr fpr thr nb xa x hx c.thresholds hts
  rw [view_eq u s fnr fpr thr nb xa c h x]
  apply monotoneOK_of_pairwise
  rw [List.pairwise_map] at hmono ⊢
  refine hmono.imp ?_
  intro a b hab
  rw [rate_eq_ratio, rate_eq_ratio, rateDen_sorted s hp hn x, rateDen_sorted s hp hn x]
  exact leO_ratio _ _ _ hab

theorem C15_spec_contains (u : Ulp) (s : Scores) (fnr fpr thr : Option (List ℚ)) (nb : Option ℕ)
    (xa : String) (ts l0 : List ℚ) (h : findSupportThresholds u s fnr fpr thr nb xa = .ok ts)
    (h0 : suppliedPoints u s fnr fpr thr = .ok l0) :
    C15.containsOK 0 l0 ts = true := by
  simp only [C15.containsOK, List.all_eq_true, List.any_eq_true, decide_eq_true_eq]
  intro v hv
  refine ⟨v, mem_of_supplied u s fnr fpr thr nb xa ts l0 h h0 v hv, ?_⟩
  simp [absQ]

theorem C15_spec_length (u : Ulp) (s : Scores) (fnr fpr thr : Option (List ℚ)) (nb : Option ℕ)
    (xa : String) (ts : List ℚ) (h : findSupportThresholds u s fnr fpr thr nb xa = .ok ts) :
    C15.lengthOK s fnr fpr thr nb ts.length = true := by
  simp only [C15.lengthOK, beq_iff_eq]
  exact findSupport_length u s fnr fpr thr nb xa ts h

theorem C15_spec_views (c : RocCurve) : C15.viewsOK 0 c.fnr c.fpr c.tpr c.tnr = true := by
  simp only [C15.viewsOK, RocCurve.tpr, RocCurve.tnr, List.length_map, beq_self_eq_true,
    Bool.true_and, Bool.and_eq_true]
  exact ⟨List.all_zip_map _ _ _ fun _ _ => nearO_self_c15 _,
    List.all_zip_map _ _ _ fun _ _ => nearO_self_c15 _⟩

/-! ### non-vacuity: the hypotheses are satisfiable -/

/-- a successful call on data with ties (the constructor sorts them), easy samples and
`score_class = neg` -/
example : ∃ ts, findSupportThresholds Ulp.half (Scores.make [3, 1, 2, 2] [2, 0] 4 1 ⟨.neg, .pos⟩ false)
    (some [0, 1 / 2]) none (some [5]) (some 7) "tar" = .ok ts := by
  have := C15_total Ulp.half (Scores.make [3, 1, 2, 2] [2, 0] 4 1 ⟨.neg, .pos⟩ false)
    (by simp [Scores.make, length_sortQ]) (by simp [Scores.make, length_sortQ])
    (some [0, 1 / 2]) none (some [5]) (some 7) "tar"
  rwa [show XAxis.ofString "tar" = some .tar from rfl] at this

example : XAxis.ofString "tar" = some .tar := rfl

example : (Scores.make [3, 1, 2, 2] [2, 0] 4 1 ⟨.neg, .pos⟩ false).pos.Pairwise (· ≤ ·) :=
  sortQ_pairwise [3, 1, 2, 2]

end SA

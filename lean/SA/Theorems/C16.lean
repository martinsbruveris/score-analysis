/-
C16 — ROC confidence bands are well-formed envelopes of pointwise rectangles.

Modelled and proved: `roc_with_ci`, `pointwise_band_ci`, `simultaneous_joint_region_ci`
(SA/Model/RocCI.lean).  `fixed_width_band_ci`: see SA/Model/FixedWidth.lean and
SA/Theorems/C16Fwb.lean.
-/
import SA.Theorems.C14
import SA.Theorems.C15
import SA.Proofs.RocCI
import SA.Spec.C16

namespace SA
open Spec

/-! ### `_aggregate_rectangles` -/

/-- **C16 (envelope).** With `N` points and `N` rectangles, row `j` of the result is the min / max
over rectangle `j` itself and all rectangles `i` whose x-interval covers `x_j`
(`dxp[i].lo ≤ x_j ≤ dxp[i].hi`): its lower entry is a lower bound of all their lower entries and
is one of them; its upper entry is an upper bound of all their upper entries and is one of them. -/
theorem C16_aggregate_envelope (x : List ℚ) (dxp dyp : List Iv) (hx : x.length = dyp.length)
    (hd : dxp.length = dyp.length) (j : ℕ) (hj : j < dyp.length) :
    ∃ b, (aggregateRectangles x dxp dyp)[j]? = some b ∧
      (b.1 ≤ (dyp[j]).1 ∧
       (∀ i, ∀ hi : i < dyp.length,
          coversQ (dxp[i]'(by omega)) (x[j]'(by omega)) = true → b.1 ≤ (dyp[i]).1) ∧
       (b.1 = (dyp[j]).1 ∨ ∃ i, ∃ hi : i < dyp.length,
          coversQ (dxp[i]'(by omega)) (x[j]'(by omega)) = true ∧ b.1 = (dyp[i]).1)) ∧
      ((dyp[j]).2 ≤ b.2 ∧
       (∀ i, ∀ hi : i < dyp.length,
          coversQ (dxp[i]'(by omega)) (x[j]'(by omega)) = true → (dyp[i]).2 ≤ b.2) ∧
       (b.2 = (dyp[j]).2 ∨ ∃ i, ∃ hi : i < dyp.length,
          coversQ (dxp[i]'(by omega)) (x[j]'(by omega)) = true ∧ b.2 = (dyp[i]).2)) := by
  have h := envelopeAt_spec (x[j]'(hx ▸ hj)) dyp[j] (dxp.zip dyp)
  simp only [List.forall_mem_iff_forall_getElem, List.exists_mem_iff_exists_getElem, List.getElem_zip,
    List.length_zip, hd, min_self] at h
  exact ⟨_, getElem?_aggregateRectangles x dxp dyp j (hx ▸ hj) hj, h⟩

/-- **C16 (ordered).** If every rectangle has `lo ≤ hi` then every row of the band has
`lower ≤ upper` (whatever the x-intervals are). -/
theorem C16_ordered (x : List ℚ) (dxp dyp : List Iv) (h : ∀ r ∈ dyp, r.1 ≤ r.2) :
    ∀ b ∈ aggregateRectangles x dxp dyp, b.1 ≤ b.2 := by
  intro b hb
  obtain ⟨xj, own, hown, rfl⟩ := mem_aggregateRectangles x dxp dyp b hb
  obtain ⟨⟨l1, _, _⟩, ⟨u1, _, _⟩⟩ := envelopeAt_spec xj own (dxp.zip dyp)
  exact le_trans l1 (le_trans (h own hown) u1)

theorem c16_aggregate_entries (x : List ℚ) (dxp dyp : List Iv) (b : Iv)
    (hb : b ∈ aggregateRectangles x dxp dyp) :
    (∃ r ∈ dyp, b.1 = r.1) ∧ (∃ r ∈ dyp, b.2 = r.2) := by
  obtain ⟨xj, own, hown, rfl⟩ := mem_aggregateRectangles x dxp dyp b hb
  obtain ⟨⟨_, _, l3⟩, ⟨_, _, u3⟩⟩ := envelopeAt_spec xj own (dxp.zip dyp)
  constructor
  · rcases l3 with h | ⟨r, hr, _, he⟩
    · exact ⟨own, hown, h⟩
    · exact ⟨r.2, (List.of_mem_zip hr).2, he⟩
  · rcases u3 with h | ⟨r, hr, _, he⟩
    · exact ⟨own, hown, h⟩
    · exact ⟨r.2, (List.of_mem_zip hr).2, he⟩

/-- **C16 (unit interval).** If all y-limits of the rectangles lie in `[0, 1]`, so does the band. -/
theorem C16_unit_interval (x : List ℚ) (dxp dyp : List Iv)
    (h : ∀ r ∈ dyp, (0 ≤ r.1 ∧ r.1 ≤ 1) ∧ (0 ≤ r.2 ∧ r.2 ≤ 1)) :
    ∀ b ∈ aggregateRectangles x dxp dyp, (0 ≤ b.1 ∧ b.1 ≤ 1) ∧ (0 ≤ b.2 ∧ b.2 ≤ 1) := by
  intro b hb
  obtain ⟨⟨r1, hr1, e1⟩, ⟨r2, hr2, e2⟩⟩ := c16_aggregate_entries x dxp dyp b hb
  rw [e1, e2]
  exact ⟨(h r1 hr1).1, (h r2 hr2).2⟩

theorem c16_nanFreeOK_lift (l : List Iv) : C16.nanFreeOK (l.map Iv.lift) = true := by
  simp [C16.nanFreeOK, Iv.lift]

/-- **C16 (no NaN).** On defined inputs (no NaN among the points and the rectangle limits) the
float computation — NumPy's NaN-propagating `min` / `max` reductions, comparisons that are false on
NaN, Python's builtin `min` / `max` — is total: it returns the rational band, one defined row per
point. -/
theorem C16_no_nan (x : List ℚ) (dxp dyp : List Iv) :
    aggregateRectanglesO (x.map some) (dxp.map Iv.lift) (dyp.map Iv.lift) =
      (aggregateRectangles x dxp dyp).map Iv.lift ∧
    C16.nanFreeOK (aggregateRectanglesO (x.map some) (dxp.map Iv.lift) (dyp.map Iv.lift)) = true ∧
    (aggregateRectanglesO (x.map some) (dxp.map Iv.lift) (dyp.map Iv.lift)).length =
      min x.length dyp.length := by
  rw [aggregateRectanglesO_lift]
  refine ⟨rfl, c16_nanFreeOK_lift _, ?_⟩
  rw [List.length_map, length_aggregateRectangles]

/-! ### `_apply_rule_of_three` -/

/-- **C16 (rule of three, the code's form).** A row is replaced by `(powA, 1)` exactly when
`p > (n-1)/n`; otherwise by `(0, 1 - powA)` exactly when `p < 1/n`; otherwise it is kept.
`p` is the rate over ALL samples of the class, `n` the number of SCORED samples. -/
theorem C16_rule_of_three (powA : ℚ) (n : ℕ) (p : ℚ) (c : Iv) :
    (p > ((n : ℚ) - 1) / (n : ℚ) → ruleOfThreeRow powA n p c = (powA, 1)) ∧
    (¬ p > ((n : ℚ) - 1) / (n : ℚ) → p < 1 / (n : ℚ) → ruleOfThreeRow powA n p c = (0, 1 - powA)) ∧
    (¬ p > ((n : ℚ) - 1) / (n : ℚ) → ¬ p < 1 / (n : ℚ) → ruleOfThreeRow powA n p c = c) := by
  unfold ruleOfThreeRow
  refine ⟨?_, ?_, ?_⟩
  · intro h; simp only [h, if_true]
  · intro h1 h2; simp only [h1, h2, if_true, if_false]
  · intro h1 h2; simp only [h1, h2, if_false]

/-- for a rate `k / n` with `0 ≤ k ≤ n` (an object without easy samples) the two triggers are
"`k = 0`" and "`k = n`" -/
theorem c16_rule_of_three_triggers (n k : ℕ) (hn : n ≠ 0) (hk : k ≤ n) :
    (((k : ℚ) / (n : ℚ) < 1 / (n : ℚ)) ↔ k = 0) ∧
    (((k : ℚ) / (n : ℚ) > ((n : ℚ) - 1) / (n : ℚ)) ↔ k = n) := by
  have hq : (0 : ℚ) < (n : ℚ) := Nat.cast_pos.mpr (Nat.pos_of_ne_zero hn)
  constructor
  · rw [div_lt_div_iff_of_pos_right hq, ← Nat.cast_one, Nat.cast_lt, Nat.lt_one_iff]
  · rw [gt_iff_lt, div_lt_div_iff_of_pos_right hq, sub_lt_iff_lt_add, ← Nat.cast_one, ← Nat.cast_add,
      Nat.cast_lt, Nat.lt_succ_iff]
    exact ⟨fun h => le_antisymm hk h, fun h => h ▸ le_refl _⟩

/-- **C16 (rule of three, exactly 0 or 1).** For a rate `k / n`, `0 ≤ k ≤ n`, the row is replaced
exactly when the rate is `1` (by `(powA, 1)`) resp. `0` (by `(0, 1 - powA)`); rates `1/n`, …,
`(n-1)/n` keep their bootstrap interval. -/
theorem C16_rule_of_three_exact (powA : ℚ) (n k : ℕ) (hn : n ≠ 0) (hk : k ≤ n) (c : Iv) :
    ruleOfThreeRow powA n ((k : ℚ) / (n : ℚ)) c =
      if k = n then (powA, 1) else if k = 0 then (0, 1 - powA) else c := by
  obtain ⟨h0, h1⟩ := c16_rule_of_three_triggers n k hn hk
  obtain ⟨r1, r2, r3⟩ := C16_rule_of_three powA n ((k : ℚ) / (n : ℚ)) c
  by_cases hkn : k = n
  · rw [if_pos hkn]; exact r1 (h1.mpr hkn)
  · rw [if_neg hkn]
    have hn1 : ¬ (k : ℚ) / (n : ℚ) > ((n : ℚ) - 1) / (n : ℚ) := fun h => hkn (h1.mp h)
    by_cases hk0 : k = 0
    · rw [if_pos hk0]; exact r2 hn1 (h0.mpr hk0)
    · rw [if_neg hk0]; exact r3 hn1 (fun h => hk0 (h0.mp h))

theorem C16_rule_of_three_zero_one (powA : ℚ) (n k : ℕ) (hn : n ≠ 0) (hk : k ≤ n) (c : Iv) :
    ruleOfThreeRow powA n ((k : ℚ) / (n : ℚ)) c =
      if (k : ℚ) / (n : ℚ) = 1 then (powA, 1)
      else if (k : ℚ) / (n : ℚ) = 0 then (0, 1 - powA) else c := by
  have hq : (n : ℚ) ≠ 0 := Nat.cast_ne_zero.mpr hn
  rw [C16_rule_of_three_exact powA n k hn hk c]
  simp only [div_eq_one_iff_eq hq, Nat.cast_inj, div_eq_zero_iff, Nat.cast_eq_zero, hn, or_false]

/-- the substituted rows are ordered and lie in `[0, 1]` when `0 ≤ powA ≤ 1` -/
theorem c16_rule_of_three_rows (powA : ℚ) (h0 : 0 ≤ powA) (h1 : powA ≤ 1) :
    ((0 : ℚ) ≤ 1 - powA ∧ 1 - powA ≤ 1) ∧ ((0 : ℚ) ≤ 1 - powA) ∧ (powA ≤ 1) :=
  ⟨⟨sub_nonneg.mpr h1, sub_le_self 1 h0⟩, sub_nonneg.mpr h1, h1⟩

theorem ruleOfThreeRow_cases (powA : ℚ) (n : ℕ) (p : ℚ) (c : Iv) :
    ruleOfThreeRow powA n p c = c ∨ ruleOfThreeRow powA n p c = (0, 1 - powA) ∨
      ruleOfThreeRow powA n p c = (powA, 1) := by
  obtain ⟨r1, r2, r3⟩ := C16_rule_of_three powA n p c
  by_cases h2 : p > ((n : ℚ) - 1) / (n : ℚ)
  · exact Or.inr (Or.inr (r1 h2))
  · by_cases h1 : p < 1 / (n : ℚ)
    · exact Or.inr (Or.inl (r2 h2 h1))
    · exact Or.inl (r3 h2 h1)

/-- the rule of three keeps rows ordered and within `[0, 1]` (for `0 ≤ powA ≤ 1`) -/
theorem ruleOfThreeRow_wf (powA : ℚ) (h0 : 0 ≤ powA) (h1 : powA ≤ 1) (n : ℕ) (p : ℚ) (c : Iv) :
    (c.1 ≤ c.2 → (ruleOfThreeRow powA n p c).1 ≤ (ruleOfThreeRow powA n p c).2) ∧
    (((0 ≤ c.1 ∧ c.1 ≤ 1) ∧ (0 ≤ c.2 ∧ c.2 ≤ 1)) →
      ((0 ≤ (ruleOfThreeRow powA n p c).1 ∧ (ruleOfThreeRow powA n p c).1 ≤ 1) ∧
       (0 ≤ (ruleOfThreeRow powA n p c).2 ∧ (ruleOfThreeRow powA n p c).2 ≤ 1))) := by
  rcases ruleOfThreeRow_cases powA n p c with h | h | h <;> rw [h]
  · exact ⟨id, id⟩
  · exact ⟨fun _ => sub_nonneg.mpr h1,
      fun _ => ⟨⟨le_refl _, zero_le_one⟩, sub_nonneg.mpr h1, sub_le_self 1 h0⟩⟩
  · exact ⟨fun _ => h1, fun _ => ⟨⟨h0, h1⟩, zero_le_one, le_refl _⟩⟩

theorem length_ruleOfThreeRows (powA : ℚ) (n : ℕ) (p : List ℚ) (ci : List Iv) :
    (ruleOfThreeRows powA n p ci).length = min p.length ci.length := by
  simp [ruleOfThreeRows]

/-- with easy samples the code's trigger also fires for a non-zero rate: FNR `1/10` of an object
with 2 scored and 8 easy positives is below `1/2` (finding F7 of the design) -/
example (powA : ℚ) (c : Iv) : ruleOfThreeRow powA 2 (1 / 10) c = (0, 1 - powA) := by
  unfold ruleOfThreeRow; norm_num

/-! ### support thresholds of `roc_with_ci` -/

theorem findSupportCI_ok (u : Ulp) (s : Scores) (fnr fpr thr : Option (List ℚ)) (nb : Option ℕ)
    (nbExtra : ℕ) (xa : String) (ts : List ℚ)
    (h : findSupportThresholdsCI u s fnr fpr thr nb nbExtra xa = .ok ts) :
    ∃ l t0 t1 a b x, supportPoints u s fnr fpr thr nb = .ok l ∧
      (sortQ l).head? = some t0 ∧ (sortQ l).getLast? = some t1 ∧
      s.thresholdAtArr u .fnr (extraTargets s .fnr t0 t1 ((nbExtra - 4) / 2)) .linear = .ok a ∧
      s.thresholdAtArr u .fpr (extraTargets s .fpr t0 t1 (nbExtra - 4 - (nbExtra - 4) / 2)) .linear
        = .ok b ∧
      XAxis.ofString xa = some x ∧
      ts = orient x s.cfg.scoreClass (sortQ (((sortQ l ++ a) ++ b) ++ sentinelThresholds u s)) := by
  unfold findSupportThresholdsCI at h
  split at h
  · cases h
  · rename_i l hl
    unfold extendSupport at h
    simp only at h
    split at h
    · rename_i t0 t1 h0 h1
      split at h
      · cases h
      · rename_i a ha
        split at h
        · cases h
        · rename_i b hb
          split at h
          · cases h
          · rename_i x hx
            injection h with h
            exact ⟨l, t0, t1, a, b, x, hl, h0, h1, ha, hb, hx, h.symm⟩
    · cases h

/-- **C16 (support).** The thresholds of `roc_with_ci` are a permutation of: the plain support
points of `roc` (C15), the thresholds of the extra FNR and FPR targets beyond the range spanned by
them, and the four thresholds just outside the score ranges. -/
theorem C16_support_perm (u : Ulp) (s : Scores) (fnr fpr thr : Option (List ℚ)) (nb : Option ℕ)
    (nbExtra : ℕ) (xa : String) (ts : List ℚ)
    (h : findSupportThresholdsCI u s fnr fpr thr nb nbExtra xa = .ok ts) :
    ∃ l t0 t1 a b, supportPoints u s fnr fpr thr nb = .ok l ∧
      (sortQ l).head? = some t0 ∧ (sortQ l).getLast? = some t1 ∧
      s.thresholdAtArr u .fnr (extraTargets s .fnr t0 t1 ((nbExtra - 4) / 2)) .linear = .ok a ∧
      s.thresholdAtArr u .fpr (extraTargets s .fpr t0 t1 (nbExtra - 4 - (nbExtra - 4) / 2)) .linear
        = .ok b ∧
      ts.Perm (((l ++ a) ++ b) ++ sentinelThresholds u s) := by
  obtain ⟨l, t0, t1, a, b, x, hl, h0, h1, ha, hb, _, rfl⟩ :=
    findSupportCI_ok u s fnr fpr thr nb nbExtra xa ts h
  refine ⟨l, t0, t1, a, b, hl, h0, h1, ha, hb, ?_⟩
  refine (orient_perm x _ _).trans ((sortQ_perm _).trans ?_)
  exact (((sortQ_perm l).append_right a).append_right b).append_right _

/-- the four sentinel thresholds and every plain support point are among the thresholds -/
theorem C16_support_contains (u : Ulp) (s : Scores) (fnr fpr thr : Option (List ℚ)) (nb : Option ℕ)
    (nbExtra : ℕ) (xa : String) (ts : List ℚ)
    (h : findSupportThresholdsCI u s fnr fpr thr nb nbExtra xa = .ok ts) :
    (∀ t ∈ sentinelThresholds u s, t ∈ ts) ∧
    (∀ l, supportPoints u s fnr fpr thr nb = .ok l → ∀ t ∈ l, t ∈ ts) := by
  obtain ⟨l, _, _, a, b, hl, _, _, _, _, hperm⟩ :=
    C16_support_perm u s fnr fpr thr nb nbExtra xa ts h
  constructor
  · intro t ht
    exact hperm.mem_iff.mpr (List.mem_append_right _ ht)
  · intro l' hl' t ht
    rw [hl] at hl'
    injection hl' with hl'
    subst hl'
    exact hperm.mem_iff.mpr
      (List.mem_append_left _ (List.mem_append_left _ (List.mem_append_left _ ht)))

theorem c16_supportPoints_length (u : Ulp) (s : Scores) (fnr fpr thr : Option (List ℚ)) (nb : Option ℕ)
    (l : List ℚ) (hl : supportPoints u s fnr fpr thr nb = .ok l) :
    l.length = C15.expectedLength s fnr fpr thr nb := by
  -- `findSupport_length` (C15) counts the oriented, sorted support of `roc`: a permutation of `l`
  have hf : findSupportThresholds u s fnr fpr thr nb "fnr" =
      .ok (orient .fnr s.cfg.scoreClass (sortQ l)) := by
    simp only [findSupportThresholds, hl, XAxis.ofString]
  have := findSupport_length u s fnr fpr thr nb "fnr" _ hf
  rw [← this, ((orient_perm _ _ _).trans (sortQ_perm l)).length_eq]

/-- **C16 (number of points).** `n = (points of the plain support, C15_length) + (extra FNR
targets) + (extra FPR targets) + 4`. -/
theorem C16_support_length (u : Ulp) (s : Scores) (fnr fpr thr : Option (List ℚ)) (nb : Option ℕ)
    (nbExtra : ℕ) (xa : String) (ts : List ℚ)
    (h : findSupportThresholdsCI u s fnr fpr thr nb nbExtra xa = .ok ts) :
    ∃ l t0 t1, supportPoints u s fnr fpr thr nb = .ok l ∧
      (sortQ l).head? = some t0 ∧ (sortQ l).getLast? = some t1 ∧
      C16.supportLengthOK s fnr fpr thr nb
        ((extraTargets s .fnr t0 t1 ((nbExtra - 4) / 2)).length +
         (extraTargets s .fpr t0 t1 (nbExtra - 4 - (nbExtra - 4) / 2)).length) ts.length = true := by
  obtain ⟨l, t0, t1, a, b, hl, h0, h1, ha, hb, hperm⟩ :=
    C16_support_perm u s fnr fpr thr nb nbExtra xa ts h
  refine ⟨l, t0, t1, hl, h0, h1, ?_⟩
  have la := thresholdAtArr_length u s _ _ _ _ ha
  have lb := thresholdAtArr_length u s _ _ _ _ hb
  have ll := c16_supportPoints_length u s fnr fpr thr nb l hl
  simp only [C16.supportLengthOK, beq_iff_eq]
  rw [hperm.length_eq]
  simp only [List.length_append, la, lb, ll, sentinelThresholds, List.length_cons, List.length_nil]
  omega

/-- **C16 (monotone).** As for `roc`, the count behind the named x-axis metric is non-decreasing
along the thresholds of `roc_with_ci`. -/
theorem C16_monotone (u : Ulp) (s : Scores) (hp : s.pos.Pairwise (· ≤ ·))
    (hn : s.neg.Pairwise (· ≤ ·)) (fnr fpr thr : Option (List ℚ)) (nb : Option ℕ) (nbExtra : ℕ)
    (xa : String) (x : XAxis) (hx : XAxis.ofString xa = some x) (ts : List ℚ)
    (h : findSupportThresholdsCI u s fnr fpr thr nb nbExtra xa = .ok ts) :
    (ts.map fun t => (s.cm (.fin t)).rateNum x.metric).Pairwise (· ≤ ·) := by
  obtain ⟨l, t0, t1, a, b, x', _, _, _, _, _, hx', rfl⟩ :=
    findSupportCI_ok u s fnr fpr thr nb nbExtra xa ts h
  rw [hx] at hx'
  injection hx' with hx'
  subst hx'
  rw [List.pairwise_map]
  have hs := orient_pairwise x s.cfg.scoreClass _
    (sortQ_pairwise (((sortQ l ++ a) ++ b) ++ sentinelThresholds u s))
  rw [ascending_eq] at hs
  exact hs.imp (fun {a b} hab => rateNum_le_of s hp hn x.metric a b hab)

/-- **C16 (accepts its arguments).** With both classes non-empty, a non-empty plain support (any
supplied point, or `nb_points ≥ 1`, or all scores) and a valid axis name the support computation
returns; with an invalid name it raises `ValueError`. -/
theorem C16_total (u : Ulp) (s : Scores) (hp : s.pos.length ≠ 0) (hn : s.neg.length ≠ 0)
    (fnr fpr thr : Option (List ℚ)) (nb : Option ℕ) (nbExtra : ℕ) (xa : String)
    (hne : C15.expectedLength s fnr fpr thr nb ≠ 0) :
    match XAxis.ofString xa with
    | some _ => ∃ ts, findSupportThresholdsCI u s fnr fpr thr nb nbExtra xa = .ok ts
    | none => findSupportThresholdsCI u s fnr fpr thr nb nbExtra xa = .error .valueError := by
  have hsup := C15_total u s hp hn fnr fpr thr nb "fnr"
  rw [show XAxis.ofString "fnr" = some .fnr from rfl] at hsup
  obtain ⟨ts0, hts0⟩ := hsup
  obtain ⟨l, _, hl, _, _⟩ := findSupport_ok u s fnr fpr thr nb "fnr" ts0 hts0
  have hnil : sortQ l ≠ [] := fun h => hne (by
    rw [← c16_supportPoints_length u s fnr fpr thr nb l hl, ← length_sortQ, h]; rfl)
  obtain ⟨t0, h0⟩ : ∃ t0, (sortQ l).head? = some t0 := ⟨_, List.head?_eq_some_head hnil⟩
  obtain ⟨t1, h1⟩ : ∃ t1, (sortQ l).getLast? = some t1 := ⟨_, List.getLast?_eq_some_getLast hnil⟩
  obtain ⟨a, ha⟩ := thresholdAtArr_of_ne u s .fnr
    (extraTargets s .fnr t0 t1 ((nbExtra - 4) / 2)) .linear hp
  obtain ⟨b, hb⟩ := thresholdAtArr_of_ne u s .fpr
    (extraTargets s .fpr t0 t1 (nbExtra - 4 - (nbExtra - 4) / 2)) .linear hn
  cases hx : XAxis.ofString xa with
  | none => simp only [findSupportThresholdsCI, extendSupport, hl, h0, h1, ha, hb, hx]
  | some x =>
    refine ⟨orient x s.cfg.scoreClass
      (sortQ (((sortQ l ++ a) ++ b) ++ sentinelThresholds u s)), ?_⟩
    simp only [findSupportThresholdsCI, extendSupport, hl, h0, h1, ha, hb, hx]

/-! ### `roc_with_ci` -/

theorem c16_cm_p_ge (s : Scores) (t : ERat) :
    s.pos.length ≤ (s.cm t).p ∧ s.neg.length ≤ (s.cm t).n := by
  unfold Scores.cm CM.p CM.n
  cases s.cfg.scoreClass <;> simp only <;> omega

/-- exact FNR / FPR of the object at a threshold, as rationals -/
def Scores.fnrQ (s : Scores) (t : ℚ) : ℚ := ((s.cm (.fin t)).fn : ℚ) / ((s.cm (.fin t)).p : ℚ)
def Scores.fprQ (s : Scores) (t : ℚ) : ℚ := ((s.cm (.fin t)).fp : ℚ) / ((s.cm (.fin t)).n : ℚ)

/-- with a scored positive (negative) the FNR (FPR) is never NaN -/
theorem c16_rates_defined (s : Scores) (t : ℚ) :
    (s.pos.length ≠ 0 → (s.cm (.fin t)).fnr = some (s.fnrQ t)) ∧
    (s.neg.length ≠ 0 → (s.cm (.fin t)).fpr = some (s.fprQ t)) := by
  obtain ⟨h1, h2⟩ := c16_cm_p_ge s (.fin t)
  constructor
  · intro h
    have : (s.cm (.fin t)).p ≠ 0 := by omega
    simp only [CM.fnr, ratio, this, if_false, Scores.fnrQ]
  · intro h
    have : (s.cm (.fin t)).n ≠ 0 := by omega
    simp only [CM.fpr, ratio, this, if_false, Scores.fprQ]

theorem c16_rates_some (s : Scores) (hp : s.pos.length ≠ 0) (hn : s.neg.length ≠ 0) (ts : List ℚ) :
    (ts.map fun t => (s.cm (.fin t)).fnr) = (ts.map s.fnrQ).map some ∧
    (ts.map fun t => (s.cm (.fin t)).fpr) = (ts.map s.fprQ).map some := by
  constructor
  · rw [List.map_map]
    exact List.map_congr_left fun t _ => (c16_rates_defined s t).1 hp
  · rw [List.map_map]
    exact List.map_congr_left fun t _ => (c16_rates_defined s t).2 hn

theorem rocCIFrom_ok (s : Scores) (ts : List ℚ) (powPos powNeg : ℚ) (boot : BootCI)
    (c : RocCICurve) (h : rocCIFrom s ts powPos powNeg boot = .ok c) :
    s.pos.length ≠ 0 ∧ s.neg.length ≠ 0 ∧ c.thresholds = ts ∧
    c.fnr = ts.map (fun t => (s.cm (.fin t)).fnr) ∧ c.fpr = ts.map (fun t => (s.cm (.fin t)).fpr) ∧
    ∃ cf cg, applyRuleOfThreeO powPos c.fnr (boot c.fnr c.fpr).1 s.pos.length = .ok cf ∧
      applyRuleOfThreeO powNeg c.fpr (boot c.fnr c.fpr).2 s.neg.length = .ok cg ∧
      c.fnrCI = aggregateRectanglesO c.fpr cg cf ∧ c.fprCI = aggregateRectanglesO c.fnr cf cg := by
  unfold rocCIFrom at h
  simp only at h
  split at h
  · cases h
  · rename_i hne
    split at h
    · cases h
    · rename_i cf hcf
      split at h
      · cases h
      · rename_i cg hcg
        injection h with h
        subst h
        refine ⟨fun h0 => hne (Or.inr h0), fun h0 => hne (Or.inl h0), rfl, rfl, rfl, cf, cg, hcf, hcg,
          rfl, rfl⟩

/-- **C16 (rule of three on an object without easy samples).** For a `Scores` object with
`nb_easy_pos = 0` (resp. `nb_easy_neg = 0`) — the objects C16 quantifies over — the FNR (FPR) row at
any threshold is replaced exactly when the observed rate is exactly `1` (by `(powA, 1)`) or exactly
`0` (by `(0, 1 - powA)`), and keeps its bootstrap interval otherwise. -/
theorem C16_rule_of_three_scores (s : Scores) (hp : s.pos.Pairwise (· ≤ ·))
    (hn : s.neg.Pairwise (· ≤ ·)) (t : ℚ) (powA : ℚ) (c : Iv) :
    (s.easyPos = 0 → s.pos.length ≠ 0 →
      ruleOfThreeRow powA s.pos.length (s.fnrQ t) c =
        if s.fnrQ t = 1 then (powA, 1) else if s.fnrQ t = 0 then (0, 1 - powA) else c) ∧
    (s.easyNeg = 0 → s.neg.length ≠ 0 →
      ruleOfThreeRow powA s.neg.length (s.fprQ t) c =
        if s.fprQ t = 1 then (powA, 1) else if s.fprQ t = 0 then (0, 1 - powA) else c) := by
  obtain ⟨h1, h2⟩ := cm_totals_sorted s hp hn (.fin t)
  constructor
  · intro he hne
    have hpn : (s.cm (.fin t)).p = s.pos.length := by rw [h1, he, Nat.add_zero]
    have hle : (s.cm (.fin t)).fn ≤ s.pos.length := by
      rw [← hpn]; unfold CM.p; omega
    unfold Scores.fnrQ
    rw [hpn]
    exact C16_rule_of_three_zero_one powA s.pos.length _ hne hle c
  · intro he hne
    have hpn : (s.cm (.fin t)).n = s.neg.length := by rw [h2, he, Nat.add_zero]
    have hle : (s.cm (.fin t)).fp ≤ s.neg.length := by
      rw [← hpn]; unfold CM.n; omega
    unfold Scores.fprQ
    rw [hpn]
    exact C16_rule_of_three_zero_one powA s.neg.length _ hne hle c

/-- **C16 (rates match).** Whenever `roc_with_ci` returns, its thresholds are those of the support
computation and entry `i` of FNR / FPR is the object's FNR / FPR at threshold `i` (never NaN). -/
theorem C16_rates_match (u : Ulp) (s : Scores) (fnr fpr thr : Option (List ℚ)) (nb : Option ℕ)
    (xa : String) (powPos powNeg : ℚ) (boot : BootCI) (c : RocCICurve)
    (h : rocWithCI u s fnr fpr thr nb xa powPos powNeg boot = .ok c) :
    findSupportThresholdsCI u s fnr fpr thr nb rocCIExtraPoints xa = .ok c.thresholds ∧
    c.fnr = c.thresholds.map (fun t => (s.cm (.fin t)).fnr) ∧
    c.fpr = c.thresholds.map (fun t => (s.cm (.fin t)).fpr) ∧
    c.fnr = (c.thresholds.map s.fnrQ).map some ∧ c.fpr = (c.thresholds.map s.fprQ).map some := by
  unfold rocWithCI at h
  split at h
  · cases h
  · rename_i ts hts
    obtain ⟨hp, hn, ht, hf, hg, _⟩ := rocCIFrom_ok s ts powPos powNeg boot c h
    subst ht
    obtain ⟨hf', hg'⟩ := c16_rates_some s hp hn c.thresholds
    exact ⟨hts, hf, hg, hf.trans hf', hg.trans hg'⟩

/-- **C16 (envelope of pointwise rectangles; the closed form).** With defined bootstrap intervals
`bf` (FNR) and `bg` (FPR), `roc_with_ci` returns
`fnr_band = aggregate(fpr, R(fpr, bg, n_neg), R(fnr, bf, n_pos))` and
`fpr_band = aggregate(fnr, R(fnr, bf, n_pos), R(fpr, bg, n_neg))`, where `R` substitutes the
rule-of-three rows: a pointwise interval is the bootstrap interval unless the rule of three fires,
and the band at a point is the envelope (`C16_aggregate_envelope`) of the rectangles
`[fnr interval] x [fpr interval]` covering it.  All rows are defined (no NaN). -/
theorem C16_closed_form (s : Scores) (ts : List ℚ) (powPos powNeg : ℚ) (boot : BootCI)
    (c : RocCICurve) (h : rocCIFrom s ts powPos powNeg boot = .ok c) (bf bg : List Iv)
    (hb : boot c.fnr c.fpr = (bf.map Iv.lift, bg.map Iv.lift)) :
    c.fnr = (ts.map s.fnrQ).map some ∧ c.fpr = (ts.map s.fprQ).map some ∧
    c.fnrCI = (aggregateRectangles (ts.map s.fprQ)
        (ruleOfThreeRows powNeg s.neg.length (ts.map s.fprQ) bg)
        (ruleOfThreeRows powPos s.pos.length (ts.map s.fnrQ) bf)).map Iv.lift ∧
    c.fprCI = (aggregateRectangles (ts.map s.fnrQ)
        (ruleOfThreeRows powPos s.pos.length (ts.map s.fnrQ) bf)
        (ruleOfThreeRows powNeg s.neg.length (ts.map s.fprQ) bg)).map Iv.lift := by
  obtain ⟨hp, hn, _, hf, hg, cf, cg, hcf, hcg, e1, e2⟩ := rocCIFrom_ok s ts powPos powNeg boot c h
  have hf' := hf.trans (c16_rates_some s hp hn ts).1
  have hg' := hg.trans (c16_rates_some s hp hn ts).2
  rw [hb] at hcf hcg
  simp only at hcf hcg
  rw [hf', (applyRuleOfThreeO_lift powPos _ bf _ hp).2] at hcf
  rw [hg', (applyRuleOfThreeO_lift powNeg _ bg _ hn).2] at hcg
  injection hcf with hcf
  injection hcg with hcg
  refine ⟨hf', hg', ?_, ?_⟩
  · rw [e1, hg', ← hcf, ← hcg, aggregateRectanglesO_lift]
  · rw [e2, hf', ← hcf, ← hcg, aggregateRectanglesO_lift]

/-- **C16 (length / shape).** If the bootstrap returns one interval per point, both bands have
exactly one row per threshold (the `(n, 2)` shape). -/
theorem C16_length (s : Scores) (ts : List ℚ) (powPos powNeg : ℚ) (boot : BootCI)
    (c : RocCICurve) (h : rocCIFrom s ts powPos powNeg boot = .ok c) (bf bg : List Iv)
    (hb : boot c.fnr c.fpr = (bf.map Iv.lift, bg.map Iv.lift))
    (lf : bf.length = ts.length) (lg : bg.length = ts.length) :
    C16.shapeOK c.thresholds.length c.fnrCI = true ∧ C16.shapeOK c.thresholds.length c.fprCI = true ∧
    c.fnr.length = c.thresholds.length ∧ c.fpr.length = c.thresholds.length := by
  obtain ⟨e1, e2, e3, e4⟩ := C16_closed_form s ts powPos powNeg boot c h bf bg hb
  obtain ⟨_, _, ht, _⟩ := rocCIFrom_ok s ts powPos powNeg boot c h
  simp only [C16.shapeOK, beq_iff_eq, e1, e2, e3, e4, ht, List.length_map,
    length_aggregateRectangles, length_ruleOfThreeRows, lf, lg, Nat.min_self, and_self]

/-- in `[0,1]`, and ordered under `ord`: ONE proposition for the whole run (`True`, "quantile method",
"every interval of the script run is ordered"), not a property of the row -/
def RowGood (ord : Prop) (r : Iv) : Prop :=
  ((0 ≤ r.1 ∧ r.1 ≤ 1) ∧ (0 ≤ r.2 ∧ r.2 ≤ 1)) ∧ (ord → r.1 ≤ r.2)

theorem c16_orderedOK_lift (l : List Iv) (h : ∀ b ∈ l, b.1 ≤ b.2) :
    C16.orderedOK (l.map Iv.lift) = true := by
  simp only [C16.orderedOK, List.all_map, List.all_eq_true, Function.comp, Iv.lift, leN,
    decide_eq_true_eq]
  exact h

theorem c16_lift_good (ord : Prop) (l : List Iv) (h : ∀ r ∈ l, RowGood ord r) :
    C16.nanFreeOK (l.map Iv.lift) = true ∧ C16.unitOK 0 (l.map Iv.lift) = true ∧
    (ord → C16.orderedOK (l.map Iv.lift) = true) := by
  refine ⟨c16_nanFreeOK_lift l, ?_, fun ho => c16_orderedOK_lift l fun b hb => (h b hb).2 ho⟩
  simp only [C16.unitOK, List.all_map, List.all_eq_true, Function.comp, Iv.lift, leN,
    decide_eq_true_eq, Bool.and_eq_true, neg_zero, add_zero]
  intro b hb
  obtain ⟨⟨a1, a2⟩, ⟨a3, a4⟩⟩ := (h b hb).1
  exact ⟨⟨⟨a1, a2⟩, a3⟩, a4⟩

theorem forall_ruleOfThreeRows {powA : ℚ} {n : ℕ} {P : Iv → Prop}
    (hP : ∀ p c, P c → P (ruleOfThreeRow powA n p c)) (p : List ℚ) {ci : List Iv}
    (h : ∀ r ∈ ci, P r) : ∀ r ∈ ruleOfThreeRows powA n p ci, P r := by
  intro r hr
  obtain ⟨q, hq, rfl⟩ := List.mem_map.mp hr
  exact hP _ _ (h _ (List.of_mem_zip hq).2)

theorem ruleOfThreeRows_good {powA : ℚ} (h0 : 0 ≤ powA) (h1 : powA ≤ 1) (n : ℕ) (p : List ℚ)
    (ord : Prop) {ci : List Iv} (h : ∀ r ∈ ci, RowGood ord r) :
    ∀ r ∈ ruleOfThreeRows powA n p ci, RowGood ord r := by
  refine forall_ruleOfThreeRows (fun pj cj hc => ?_) p h
  obtain ⟨w1, w2⟩ := ruleOfThreeRow_wf powA h0 h1 n pj cj
  exact ⟨w2 hc.1, fun ho => w1 (hc.2 ho)⟩

theorem aggregateRectangles_good (x : List ℚ) (dxp : List Iv) (ord : Prop) {dyp : List Iv}
    (h : ∀ r ∈ dyp, RowGood ord r) : ∀ b ∈ aggregateRectangles x dxp dyp, RowGood ord b :=
  fun b hb => ⟨C16_unit_interval x dxp dyp (fun r hr => (h r hr).1) b hb,
    fun ho => C16_ordered x dxp dyp (fun r hr => (h r hr).2 ho) b hb⟩

theorem c16_bands_good (s : Scores) (ts : List ℚ) (powPos powNeg : ℚ) (boot : BootCI)
    (c : RocCICurve) (h : rocCIFrom s ts powPos powNeg boot = .ok c) (bf bg : List Iv)
    (hb : boot c.fnr c.fpr = (bf.map Iv.lift, bg.map Iv.lift))
    (hp0 : 0 ≤ powPos) (hp1 : powPos ≤ 1) (hn0 : 0 ≤ powNeg) (hn1 : powNeg ≤ 1) (ord : Prop)
    (gf : ∀ r ∈ bf, RowGood ord r) (gg : ∀ r ∈ bg, RowGood ord r) :
    (C16.nanFreeOK c.fnrCI = true ∧ C16.unitOK 0 c.fnrCI = true ∧
      (ord → C16.orderedOK c.fnrCI = true)) ∧
    (C16.nanFreeOK c.fprCI = true ∧ C16.unitOK 0 c.fprCI = true ∧
      (ord → C16.orderedOK c.fprCI = true)) := by
  obtain ⟨_, _, e3, e4⟩ := C16_closed_form s ts powPos powNeg boot c h bf bg hb
  rw [e3, e4]
  exact ⟨c16_lift_good ord _ (aggregateRectangles_good _ _ ord
      (ruleOfThreeRows_good hp0 hp1 _ _ ord gf)),
    c16_lift_good ord _ (aggregateRectangles_good _ _ ord (ruleOfThreeRows_good hn0 hn1 _ _ ord gg))⟩

/-- **C16 (well-formed bands of `roc_with_ci`).** If the bootstrap intervals are defined, ordered
and within `[0, 1]` (C13: quantile limits are ordered and lie within the range of the replicates,
which are rates) and `0 ≤ pow(alpha, 1/n) ≤ 1`, then both bands are NaN-free, ordered and within
`[0, 1]`. -/
theorem C16_roc_wellformed (s : Scores) (ts : List ℚ) (powPos powNeg : ℚ) (boot : BootCI)
    (c : RocCICurve) (h : rocCIFrom s ts powPos powNeg boot = .ok c) (bf bg : List Iv)
    (hb : boot c.fnr c.fpr = (bf.map Iv.lift, bg.map Iv.lift))
    (hp0 : 0 ≤ powPos) (hp1 : powPos ≤ 1) (hn0 : 0 ≤ powNeg) (hn1 : powNeg ≤ 1)
    (of : ∀ r ∈ bf, r.1 ≤ r.2) (og : ∀ r ∈ bg, r.1 ≤ r.2)
    (uf : ∀ r ∈ bf, (0 ≤ r.1 ∧ r.1 ≤ 1) ∧ (0 ≤ r.2 ∧ r.2 ≤ 1))
    (ug : ∀ r ∈ bg, (0 ≤ r.1 ∧ r.1 ≤ 1) ∧ (0 ≤ r.2 ∧ r.2 ≤ 1)) :
    (C16.nanFreeOK c.fnrCI = true ∧ C16.orderedOK c.fnrCI = true ∧ C16.unitOK 0 c.fnrCI = true) ∧
    (C16.nanFreeOK c.fprCI = true ∧ C16.orderedOK c.fprCI = true ∧ C16.unitOK 0 c.fprCI = true) := by
  obtain ⟨⟨n1, u1, o1⟩, ⟨n2, u2, o2⟩⟩ := c16_bands_good s ts powPos powNeg boot c h bf bg hb
    hp0 hp1 hn0 hn1 True (fun r hr => ⟨uf r hr, fun _ => of r hr⟩) (fun r hr => ⟨ug r hr, fun _ => og r hr⟩)
  exact ⟨⟨n1, o1 trivial, u1⟩, ⟨n2, o2 trivial, u2⟩⟩

theorem rocCIFrom_total (s : Scores) (ts : List ℚ) (powPos powNeg : ℚ) (boot : BootCI)
    (hp : s.pos.length ≠ 0) (hn : s.neg.length ≠ 0) :
    ∃ c, rocCIFrom s ts powPos powNeg boot = .ok c := by
  unfold rocCIFrom applyRuleOfThreeO
  simp only [hp, hn, or_self, if_false]
  exact ⟨_, rfl⟩

/-- **C16 (accepts its arguments, `roc_with_ci`).** Under the hypotheses of `C16_total` and a
valid axis name, `roc_with_ci` returns a curve. -/
theorem C16_roc_total (u : Ulp) (s : Scores) (hp : s.pos.length ≠ 0) (hn : s.neg.length ≠ 0)
    (fnr fpr thr : Option (List ℚ)) (nb : Option ℕ) (xa : String) (x : XAxis)
    (hx : XAxis.ofString xa = some x) (hne : C15.expectedLength s fnr fpr thr nb ≠ 0)
    (powPos powNeg : ℚ) (boot : BootCI) :
    ∃ c, rocWithCI u s fnr fpr thr nb xa powPos powNeg boot = .ok c := by
  have := C16_total u s hp hn fnr fpr thr nb rocCIExtraPoints xa hne
  rw [hx] at this
  obtain ⟨ts, hts⟩ := this
  obtain ⟨c, hc⟩ := rocCIFrom_total s ts powPos powNeg boot hp hn
  exact ⟨c, by simp only [rocWithCI, hts, hc]⟩

/-! ### identity sampler -/

/-- **C16 (identity sampler, pointwise interval).** If every bootstrap replicate equals the point
estimate — the identity sampler — the quantile, BC and BCa limits are all `(estimate, estimate)`,
whatever the normal cdf / ppf and power oracles return. -/
theorem C16_identity_interval (nrm : Normal) (p15 : ℚ → ℚ) (m : BootMethod) (N : ℕ) (hN : N ≠ 0)
    (th alpha : ℚ) :
    bootstrapCI nrm p15 m (List.replicate N (some th)) th alpha = (some th, some th) := by
  obtain ⟨q1, q2, h⟩ := bootstrapCI_eq_quantiles nrm p15 m (List.replicate N (some th)) th alpha
  rw [h, C14_quantile_const N th _ (Nat.pos_of_ne_zero hN),
    C14_quantile_const N th _ (Nat.pos_of_ne_zero hN)]

/-- **C16 (identity sampler, closed form).** Under the identity sampler the pointwise intervals
are `(e, e)` with `e` the point estimate (`eF = fnr(threshold_at_fpr(fpr))`,
`eG = fpr(threshold_at_fnr(fnr))` of the object), except for the rule-of-three rows, and
`roc_with_ci` returns exactly
`fnr_band = aggregate(fpr, R(fpr, (eG, eG), n_neg), R(fnr, (eF, eF), n_pos))`,
`fpr_band = aggregate(fnr, R(fnr, (eF, eF), n_pos), R(fpr, (eG, eG), n_neg))`. -/
theorem C16_identity_closed_form (s : Scores) (ts : List ℚ) (powPos powNeg : ℚ) (eF eG : List ℚ)
    (c : RocCICurve)
    (h : rocCIFrom s ts powPos powNeg (identityBoot (eF.map some) (eG.map some)) = .ok c) :
    c.fnrCI = (aggregateRectangles (ts.map s.fprQ)
        (ruleOfThreeRows powNeg s.neg.length (ts.map s.fprQ) (eG.map fun e => (e, e)))
        (ruleOfThreeRows powPos s.pos.length (ts.map s.fnrQ) (eF.map fun e => (e, e)))).map Iv.lift ∧
    c.fprCI = (aggregateRectangles (ts.map s.fnrQ)
        (ruleOfThreeRows powPos s.pos.length (ts.map s.fnrQ) (eF.map fun e => (e, e)))
        (ruleOfThreeRows powNeg s.neg.length (ts.map s.fprQ) (eG.map fun e => (e, e)))).map Iv.lift := by
  have hb : identityBoot (eF.map some) (eG.map some) c.fnr c.fpr =
      ((eF.map fun e => (e, e)).map Iv.lift, (eG.map fun e => (e, e)).map Iv.lift) := by
    simp only [identityBoot, List.map_map]
    rfl
  obtain ⟨_, _, e3, e4⟩ := C16_closed_form s ts powPos powNeg _ c h _ _ hb
  exact ⟨e3, e4⟩

/-! ### the experimental band functions -/

theorem c16_map_sjrRow (delta : ℚ) (p : List ℚ) :
    (p.map some).map (sjrRow delta) = (p.map fun v => ((v - delta, v + delta) : Iv)).map Iv.lift := by
  rw [List.map_map, List.map_map]
  rfl

/-- **C16 (simultaneous joint region).** With `delta ≥ 0` for both classes every rectangle
`(p - delta, p + delta)` is ordered, so both bands are NaN-free, ordered and have one row per
threshold; the bands are the envelopes of those rectangles. -/
theorem C16_sjr_ordered (u : Ulp) (s : Scores) (hp : s.pos.length ≠ 0) (hn : s.neg.length ≠ 0)
    (fnr fpr thr : Option (List ℚ)) (nb : Option ℕ) (dPos dNeg : ℚ) (h0 : 0 ≤ dPos) (h1 : 0 ≤ dNeg)
    (c : RocCICurve) (h : simultaneousJointRegionCI u s fnr fpr thr nb dPos dNeg = .ok c) :
    findSupportThresholds u s fnr fpr thr nb "fnr" = .ok c.thresholds ∧
    c.fnr = (c.thresholds.map s.fnrQ).map some ∧ c.fpr = (c.thresholds.map s.fprQ).map some ∧
    c.fnrCI = (aggregateRectangles (c.thresholds.map s.fprQ)
      ((c.thresholds.map s.fprQ).map fun v => (v - dNeg, v + dNeg))
      ((c.thresholds.map s.fnrQ).map fun v => (v - dPos, v + dPos))).map Iv.lift ∧
    c.fprCI = (aggregateRectangles (c.thresholds.map s.fnrQ)
      ((c.thresholds.map s.fnrQ).map fun v => (v - dPos, v + dPos))
      ((c.thresholds.map s.fprQ).map fun v => (v - dNeg, v + dNeg))).map Iv.lift ∧
    (C16.nanFreeOK c.fnrCI = true ∧ C16.orderedOK c.fnrCI = true ∧
      C16.shapeOK c.thresholds.length c.fnrCI = true) ∧
    (C16.nanFreeOK c.fprCI = true ∧ C16.orderedOK c.fprCI = true ∧
      C16.shapeOK c.thresholds.length c.fprCI = true) := by
  unfold simultaneousJointRegionCI at h
  split at h
  · cases h
  · rename_i ts hts
    injection h with h
    subst h
    simp only
    obtain ⟨hf, hg⟩ := c16_rates_some s hp hn ts
    have ord : ∀ (d : ℚ) (l : List ℚ), 0 ≤ d →
        ∀ r ∈ l.map (fun v => ((v - d, v + d) : Iv)), r.1 ≤ r.2 := by
      intro d l hd r hr
      obtain ⟨v, _, rfl⟩ := List.mem_map.mp hr
      exact (sub_le_self v hd).trans (le_add_of_nonneg_right hd)
    rw [hf, hg, c16_map_sjrRow, c16_map_sjrRow, aggregateRectanglesO_lift, aggregateRectanglesO_lift]
    refine ⟨hts, rfl, rfl, rfl, rfl,
      ⟨c16_nanFreeOK_lift _, c16_orderedOK_lift _ (C16_ordered _ _ _ (ord dPos _ h0)), ?_⟩,
      ⟨c16_nanFreeOK_lift _, c16_orderedOK_lift _ (C16_ordered _ _ _ (ord dNeg _ h1)), ?_⟩⟩ <;>
    simp only [C16.shapeOK, beq_iff_eq, List.length_map, length_aggregateRectangles, Nat.min_self]

/-- **C16 (pointwise band).** `pointwise_band_ci` returns, on the plain support with
`x_axis = "fnr"`, the pointwise intervals themselves: the bootstrap intervals with the
rule-of-three rows substituted; they are NaN-free, and ordered if the bootstrap intervals are
ordered and `0 ≤ pow ≤ 1`. -/
theorem C16_pointwise_band (u : Ulp) (s : Scores) (fnr fpr thr : Option (List ℚ)) (nb : Option ℕ)
    (powPos powNeg : ℚ) (boot : BootCI) (c : RocCICurve)
    (h : pointwiseBandCI u s fnr fpr thr nb powPos powNeg boot = .ok c) (bf bg : List Iv)
    (hb : boot c.fnr c.fpr = (bf.map Iv.lift, bg.map Iv.lift)) :
    findSupportThresholds u s fnr fpr thr nb "fnr" = .ok c.thresholds ∧
    c.fnr = (c.thresholds.map s.fnrQ).map some ∧ c.fpr = (c.thresholds.map s.fprQ).map some ∧
    c.fnrCI = (ruleOfThreeRows powPos s.pos.length (c.thresholds.map s.fnrQ) bf).map Iv.lift ∧
    c.fprCI = (ruleOfThreeRows powNeg s.neg.length (c.thresholds.map s.fprQ) bg).map Iv.lift ∧
    (0 ≤ powPos → powPos ≤ 1 → (∀ r ∈ bf, r.1 ≤ r.2) → C16.orderedOK c.fnrCI = true) ∧
    (0 ≤ powNeg → powNeg ≤ 1 → (∀ r ∈ bg, r.1 ≤ r.2) → C16.orderedOK c.fprCI = true) := by
  unfold pointwiseBandCI at h
  split at h
  · cases h
  · rename_i ts hts
    simp only at h
    split at h
    · cases h
    · rename_i hne
      obtain ⟨hn, hp⟩ := not_or.mp hne
      obtain ⟨hf, hg⟩ := c16_rates_some s hp hn ts
      split at h
      · cases h
      · rename_i cf hcf
        split at h
        · cases h
        · rename_i cg hcg
          injection h with h
          subst h
          simp only at hb ⊢
          rw [hb] at hcf hcg
          simp only at hcf hcg
          rw [hf, (applyRuleOfThreeO_lift powPos _ bf _ hp).2] at hcf
          rw [hg, (applyRuleOfThreeO_lift powNeg _ bg _ hn).2] at hcg
          injection hcf with hcf
          injection hcg with hcg
          subst hcf
          subst hcg
          refine ⟨hts, hf, hg, rfl, rfl, ?_, ?_⟩
          · exact fun a0 a1 ho => c16_orderedOK_lift _
              (forall_ruleOfThreeRows (fun p c => (ruleOfThreeRow_wf powPos a0 a1 _ p c).1) _ ho)
          · exact fun a0 a1 ho => c16_orderedOK_lift _
              (forall_ruleOfThreeRows (fun p c => (ruleOfThreeRow_wf powNeg a0 a1 _ p c).1) _ ho)

/-! ### the executable spec clauses hold of the model (eps = 0) -/

theorem c16_rowNear_self (a : OIv) : C16.rowNear 0 a a = true := by
  simp only [C16.rowNear, nearO_self_c15, Bool.and_self]

theorem c16_bandNear_self (m : List OIv) : C16.bandNear 0 m m = true := by
  simp only [C16.bandNear, beq_self_eq_true, Bool.true_and, List.zip, List.zipWith_self, List.all_map,
    List.all_eq_true]
  exact fun a _ => c16_rowNear_self a

theorem C16_spec_envelope (x : List (Option ℚ)) (dxp dyp : List OIv) :
    C16.envelopeOK 0 x dxp dyp (aggregateRectanglesO x dxp dyp) = true := c16_bandNear_self _

theorem C16_spec_rule_of_three (powA : ℚ) (n : ℕ) (p : List (Option ℚ)) (ci out : List OIv)
    (h : applyRuleOfThreeO powA p ci n = .ok out) : C16.ruleOfThreeOK 0 powA n p ci out = true := by
  simp only [C16.ruleOfThreeOK, h]
  exact c16_bandNear_self _

/-- the curve returned by the model of `roc_with_ci` satisfies the executable closed-form clause -/
theorem C16_spec_closed_form (s : Scores) (ts : List ℚ) (powPos powNeg : ℚ) (boot : BootCI)
    (c : RocCICurve) (h : rocCIFrom s ts powPos powNeg boot = .ok c) :
    C16.closedFormOK 0 powPos powNeg s.pos.length s.neg.length c.fnr c.fpr c.fnr c.fpr
      (boot c.fnr c.fpr).1 (boot c.fnr c.fpr).2 c.fnrCI c.fprCI = true := by
  obtain ⟨_, _, _, _, _, cf, cg, hcf, hcg, e1, e2⟩ := rocCIFrom_ok s ts powPos powNeg boot c h
  simp only [C16.closedFormOK, hcf, hcg, e1, e2, c16_bandNear_self, Bool.and_self]

/-- the thresholds of the model of `roc_with_ci` satisfy the executable support clauses -/
theorem C16_spec_support (u : Ulp) (s : Scores) (fnr fpr thr : Option (List ℚ)) (nb : Option ℕ)
    (nbExtra : ℕ) (xa : String) (ts : List ℚ)
    (h : findSupportThresholdsCI u s fnr fpr thr nb nbExtra xa = .ok ts) :
    C16.sentinelsOK u s ts = true := by
  simp only [C16.sentinelsOK, List.all_eq_true, List.contains_iff_mem]
  exact (C16_support_contains u s fnr fpr thr nb nbExtra xa ts h).1

/-! ### non-vacuity: the hypotheses are satisfiable -/

/-- a `Scores` object with ties, both classes non-empty, `score_class = neg` -/
def c16Example : Scores := Scores.make [3, 1, 2, 2] [2, 0] 0 0 ⟨.neg, .pos⟩ false

theorem c16Example_pos : c16Example.pos.length ≠ 0 := by simp [c16Example, Scores.make, length_sortQ]
theorem c16Example_neg : c16Example.neg.length ≠ 0 := by simp [c16Example, Scores.make, length_sortQ]

theorem c16Example_support : C15.expectedLength c16Example none none none none ≠ 0 := by
  simp [C15.expectedLength, C15.optLen, c16Example, Scores.make, length_sortQ]

/-- `roc_with_ci` returns on it (all scores as support, identity sampler) -/
example : ∃ c, rocWithCI Ulp.half c16Example none none none none "tar" (1 / 2) (1 / 3)
    (identityBoot [] []) = .ok c :=
  C16_roc_total Ulp.half c16Example c16Example_pos c16Example_neg none none none none "tar" .tar rfl
    c16Example_support _ _ _

example : ∃ c, rocCIFrom c16Example [1, 2] (1 / 2) (1 / 3)
    (identityBoot ([0, 1 / 2].map some) ([1, 1 / 2].map some)) = .ok c :=
  rocCIFrom_total _ _ _ _ _ c16Example_pos c16Example_neg

/-- rectangles that are ordered and within `[0, 1]`, three points -/
example : ∀ r ∈ ([(0, 1 / 2), (1 / 4, 1), (1 / 2, 1 / 2)] : List Iv),
    r.1 ≤ r.2 ∧ (0 ≤ r.1 ∧ r.1 ≤ 1) ∧ (0 ≤ r.2 ∧ r.2 ≤ 1) := by
  intro r hr
  simp only [List.mem_cons, List.not_mem_nil, or_false] at hr
  rcases hr with rfl | rfl | rfl <;> norm_num

example : (3 : ℕ) ≠ 0 ∧ (2 : ℕ) ≤ 3 := by omega

/-- `C16_aggregate_envelope`: three points, three rectangles -/
example : ([0, 1 / 2, 1] : List ℚ).length = ([(1 / 2, 1), (1 / 4, 1 / 2), (0, 1 / 4)] : List Iv).length ∧
    ([(0, 1 / 2), (1 / 4, 3 / 4), (1 / 2, 1)] : List Iv).length =
      ([(1 / 2, 1), (1 / 4, 1 / 2), (0, 1 / 4)] : List Iv).length ∧
    1 < ([(1 / 2, 1), (1 / 4, 1 / 2), (0, 1 / 4)] : List Iv).length := ⟨rfl, rfl, by decide⟩

/-- the support computation of `roc_with_ci` returns on the example (hypothesis of `C16_support_*`,
`C16_monotone`) -/
example : ∃ ts, findSupportThresholdsCI Ulp.half c16Example (some [0, 1 / 2]) none (some [5]) (some 7)
    rocCIExtraPoints "tar" = .ok ts := by
  have := C16_total Ulp.half c16Example c16Example_pos c16Example_neg (some [0, 1 / 2]) none (some [5])
    (some 7) rocCIExtraPoints "tar" (by simp [C15.expectedLength, C15.optLen])
  rwa [show XAxis.ofString "tar" = some .tar from rfl] at this

example : c16Example.pos.Pairwise (· ≤ ·) := by
  simpa [c16Example, Scores.make] using sortQ_pairwise [3, 1, 2, 2]

/-- `C16_closed_form` / `C16_length` / `C16_roc_wellformed`: a bootstrap that returns defined,
ordered intervals within `[0, 1]`, one per point (here: the identity sampler's) -/
example (f g : List (Option ℚ)) :
    identityBoot ([0, 1 / 2].map some) ([1, 1 / 2].map some) f g =
      (([(0, 0), (1 / 2, 1 / 2)] : List Iv).map Iv.lift, ([(1, 1), (1 / 2, 1 / 2)] : List Iv).map Iv.lift) ∧
    (∀ r ∈ ([(0, 0), (1 / 2, 1 / 2)] : List Iv), r.1 ≤ r.2 ∧ (0 ≤ r.1 ∧ r.1 ≤ 1) ∧ (0 ≤ r.2 ∧ r.2 ≤ 1)) ∧
    ((0 : ℚ) ≤ 1 / 2 ∧ (1 / 2 : ℚ) ≤ 1) := by
  refine ⟨rfl, ?_, by norm_num⟩
  intro r hr
  simp only [List.mem_cons, List.not_mem_nil, or_false] at hr
  rcases hr with rfl | rfl <;> norm_num

/-- `C16_identity_interval`: three replicates -/
example : (3 : ℕ) ≠ 0 := by decide

theorem sjr_total (u : Ulp) (s : Scores) (hp : s.pos.length ≠ 0) (hn : s.neg.length ≠ 0)
    (fnr fpr thr : Option (List ℚ)) (nb : Option ℕ) (dPos dNeg : ℚ) :
    ∃ c, simultaneousJointRegionCI u s fnr fpr thr nb dPos dNeg = .ok c := by
  have := C15_total u s hp hn fnr fpr thr nb "fnr"
  rw [show XAxis.ofString "fnr" = some .fnr from rfl] at this
  obtain ⟨ts, hts⟩ := this
  unfold simultaneousJointRegionCI
  simp only [hts]
  exact ⟨_, rfl⟩

theorem pointwise_total (u : Ulp) (s : Scores) (hp : s.pos.length ≠ 0) (hn : s.neg.length ≠ 0)
    (fnr fpr thr : Option (List ℚ)) (nb : Option ℕ) (powPos powNeg : ℚ) (boot : BootCI) :
    ∃ c, pointwiseBandCI u s fnr fpr thr nb powPos powNeg boot = .ok c := by
  have := C15_total u s hp hn fnr fpr thr nb "fnr"
  rw [show XAxis.ofString "fnr" = some .fnr from rfl] at this
  obtain ⟨ts, hts⟩ := this
  unfold pointwiseBandCI applyRuleOfThreeO
  simp only [hts, hp, hn, or_self, if_false]
  exact ⟨_, rfl⟩

/-- the two experimental functions return on the example (hypotheses of `C16_sjr_ordered`,
`C16_pointwise_band`) -/
example : ∃ c, simultaneousJointRegionCI Ulp.half c16Example none (some [1 / 2]) none (some 5)
    (1 / 4) (1 / 3) = .ok c := sjr_total _ _ c16Example_pos c16Example_neg _ _ _ _ _ _

example : ∃ c, pointwiseBandCI Ulp.half c16Example none none none none (1 / 2) (1 / 3)
    (identityBoot [] []) = .ok c := pointwise_total _ _ c16Example_pos c16Example_neg _ _ _ _ _ _ _

/-- a concrete band: three points on `[0, 1]`, each covered by its own rectangle only -/
example : aggregateRectangles [0, 1 / 2, 1] [(0, 1 / 4), (1 / 4, 3 / 4), (3 / 4, 1)]
    [(1 / 2, 1), (1 / 4, 1 / 2), (0, 1 / 4)] = [(1 / 2, 1), (1 / 4, 1 / 2), (0, 1 / 4)] := by
  decide +kernel

/-- the middle point is covered by all three rectangles -/
example : aggregateRectangles [0, 1 / 2, 1] [(0, 1 / 2), (1 / 4, 3 / 4), (1 / 2, 1)]
    [(1 / 2, 1), (1 / 4, 1 / 2), (0, 1 / 4)] = [(1 / 2, 1), (0, 1), (0, 1 / 4)] := by
  decide +kernel

/-- the rule of three at `n = 4`, `powA = 1/2`: rates `0, 1/4, 3/4, 1` -/
example : ruleOfThreeRows (1 / 2) 4 [0, 1 / 4, 3 / 4, 1] [(1 / 8, 1 / 4), (1 / 8, 1 / 2), (1 / 2, 7 / 8), (3 / 4, 7 / 8)] =
    [(0, 1 / 2), (1 / 8, 1 / 2), (1 / 2, 7 / 8), (1 / 2, 1)] := by
  decide +kernel

end SA

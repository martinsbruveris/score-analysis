/-
C16 — `roc_curve._apply_rule_of_three` regenerated from the source (`SA/Model/DsDefs.lean`,
`harness/dsdefs.py`).

* `rule3_eq_model`: the model's row (two nested `ite`, the width `1 - pow(alpha, 1/n)` with an
  UNINTERPRETED `pow`) is `SA.ruleOfThreeRow` for every alpha, n, rate, interval and every
  interpretation of `pow`: the tests are on the RATE array (`p < 1/n` -> `(0, 1 - alpha^(1/n))`, `p
  > (n-1)/n` -> `(alpha^(1/n), 1)`, the second wins where both hold).
* `rule3_bridge`: a translated row the checker accepts computes `SA.ruleOfThreeRow`, so
  `C16_rule_of_three*` apply to the translated code.  Soundness of `ok` / `mismatch`:
  `SA.DsDefs.checkRow_ok_sound` / `checkRow_mismatch_sound`.
-/
import SA.Theorems.C20Defs

namespace SA.DsDefs
open SA SA.MetricExpr

theorem rule3_eq_model (F1 : ℕ → ℚ → ℚ) (F2 : ℕ → ℚ → ℚ → ℚ) (alpha : ℚ) (n : ℕ) (p : ℚ) (c : Iv) :
    modelRule3.exprs.map (fun e => e.eval [alpha, (n : ℚ), p, c.1, c.2] F1 F2) =
      [(ruleOfThreeRow (F2 0 alpha (1 / (n : ℚ))) n p c).1, (ruleOfThreeRow (F2 0 alpha (1 / (n : ℚ))) n p c).2] := by
  -- both sides are the same two nested conditionals once the projections are pushed into the
  -- branches
  simp only [modelRule3, mPow, mLowT, mUpT, List.map_cons, List.map_nil, DExpr.eval, eval_c1,
    cmpOp, List.getD_cons_zero,
    List.getD_cons_succ, ruleOfThreeRow, apply_ite Prod.fst, apply_ite Prod.snd, decide_eq_true_eq,
      gt_iff_lt,
    Int.cast_zero, zero_div]

theorem rule3_bridge (got : Row) (h : checkRow modelRule3 got rule3Probes = .ok) (F1 : ℕ → ℚ → ℚ) (F2 : ℕ → ℚ → ℚ → ℚ)
    (alpha : ℚ) (n : ℕ) (p : ℚ) (c : Iv) :
    got.exprs.map (fun e => e.eval [alpha, (n : ℚ), p, c.1, c.2] F1 F2) =
      [(ruleOfThreeRow (F2 0 alpha (1 / (n : ℚ))) n p c).1, (ruleOfThreeRow (F2 0 alpha (1 / (n : ℚ))) n p c).2] := by
  obtain ⟨_, _, he⟩ := checkRow_ok_sound _ _ _ h
  rw [he, rule3_eq_model]

example : checkRow modelRule3 modelRule3 rule3Probes = .ok := by decide +kernel
/-- the tests as exact equalities `p == 0` / `p == 1`: differs from the model at a rate strictly
between 0 and 1/n -/
example : checkRow modelRule3
    ⟨[.ite 4 (.var 2) c1 mPow (.ite 4 (.var 2) (.const 0 1) (.const 0 1) (.var 3)),
      .ite 4 (.var 2) c1 c1 (.ite 4 (.var 2) (.const 0 1) (.sub c1 mPow) (.var 4))], []⟩ rule3Probes = .mismatch 7 := by decide +kernel
/-- the first `np.where` wins (wrong priority): differs at n = 1, p = 1/2 where both tests hold -/
example : checkRow modelRule3
    ⟨[.ite 0 (.var 2) mLowT (.const 0 1) (.ite 2 (.var 2) mUpT mPow (.var 3)),
      .ite 0 (.var 2) mLowT (.sub c1 mPow) (.ite 2 (.var 2) mUpT c1 (.var 4))], []⟩ rule3Probes = .mismatch 11 := by decide +kernel
/-- counts instead of rates (`p*n < 1`, seeded C16_1: differs only in floating point) is
`undecided` -/
example : checkRow modelRule3
    ⟨[.ite 2 (.mul (.var 2) (.var 1)) (.sub (.var 1) c1) mPow (.ite 0 (.mul (.var 2) (.var 1)) c1 (.const 0 1) (.var 3)),
      .ite 2 (.mul (.var 2) (.var 1)) (.sub (.var 1) c1) c1 (.ite 0 (.mul (.var 2) (.var 1)) c1 (.sub c1 mPow) (.var 4))], []⟩
    rule3Probes = .undecided := by decide +kernel

end SA.DsDefs

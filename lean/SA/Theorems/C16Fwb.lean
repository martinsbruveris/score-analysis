/-
C16, `fixed_width_band_ci` — the band of the model (SA/Model/FixedWidth.lean) is well formed for
ALL inputs: shape `(n, 2)`, NaN-free on NaN-free rates, ordered `lower ≤ upper`; further structural
facts (inside `[0, nextafter(1, inf)]`, monotone in the radius, zero width at radius 0, the tube
radius is `0` or a bisection midpoint in `(0, 1)`, containment is monotone in the radius, the
bisection never needs more than the 7 iterations the model allows).  `C16_fwb_not_contains_curve` is a kernel-checked
counterexample to "the band contains the curve".

Hypotheses of the band theorems: the curve is monotone (FNR non-decreasing, FPR non-increasing along
the thresholds; proved for every curve of a `Scores` object, `C16_fwb_curve_monotone`); the tube radii
are `≥ 0` (`C16_fwb_radius_grid`); `1 ≤ top` for `top = np.nextafter(1.0, np.inf)` and `0 ≤ k` for
`k = np.sqrt(len(neg)/len(pos))` are oracle facts, not discharged.
-/
import SA.Theorems.C16
import SA.Proofs.FixedWidth
import SA.Spec.C16Fwb

namespace SA
open Spec

/-! ### `_displace_curve` -/

/-- **`_displace_curve` returns exactly for two non-empty arrays** (`IndexError` otherwise). -/
theorem C16_fwb_displace_total (top : ℚ) (x y : List ℚ) (v0 v1 : ℚ) :
    (x.length ≠ 0 ∧ y.length ≠ 0 → ∃ r, c16f_displaceCurve top x y v0 v1 = .ok r) ∧
    (x.length = 0 ∨ y.length = 0 → c16f_displaceCurve top x y v0 v1 = .error .other) := by
  rw [c16f_displaceCurve_eq]
  exact ⟨fun h => ⟨_, if_neg (not_or.mpr h)⟩, fun h => if_pos h⟩

/-- **the displaced curve, entry by entry**: same lengths; the last point is `(top, 0)`, the first
(if it is not also the last) `(0, top)`, every other point the clipped translate. -/
theorem C16_fwb_displace_entries (top : ℚ) (x y : List ℚ) (v0 v1 : ℚ) (x' y' : List ℚ)
    (h : c16f_displaceCurve top x y v0 v1 = .ok (x', y')) :
    x'.length = x.length ∧ y'.length = y.length ∧ x.length ≠ 0 ∧ y.length ≠ 0 ∧
    (∀ i (_ : i < x'.length) (_ : i < x.length),
      x'[i] = if x.length - 1 = i then top else if 0 = i then 0 else c16f_clip01 (x[i] + v0)) ∧
    (∀ i (_ : i < y'.length) (_ : i < y.length),
      y'[i] = if y.length - 1 = i then 0 else if 0 = i then top else c16f_clip01 (y[i] + v1)) := by
  obtain ⟨⟨hx, hy⟩, rfl, rfl⟩ := (c16f_displace_ok_iff ..).mp h
  refine ⟨c16f_dispX_length .., c16f_dispY_length .., hx, hy, fun i _ _ => ?_, fun i _ _ => ?_⟩
  · simp only [c16f_dispX, c16f_ends_getElem, List.length_map, List.getElem_map]
  · simp only [c16f_dispY, c16f_ends_getElem, List.length_map, List.getElem_map]

/-- **a displaced monotone curve is a valid interpolation table in both directions**: abscissae
non-decreasing, ordinates non-increasing, everything inside `[0, top]`. -/
theorem C16_fwb_displace_sorted (top : ℚ) (x y : List ℚ) (v0 v1 : ℚ) (x' y' : List ℚ)
    (h : c16f_displaceCurve top x y v0 v1 = .ok (x', y'))
    (hx : x.Pairwise (· ≤ ·)) (hy : y.Pairwise (· ≥ ·)) (ht : 1 ≤ top) :
    x'.Pairwise (· ≤ ·) ∧ y'.Pairwise (· ≥ ·) ∧
    (∀ a ∈ x', 0 ≤ a ∧ a ≤ top) ∧ (∀ b ∈ y', 0 ≤ b ∧ b ≤ top) := by
  obtain ⟨_, rfl, rfl⟩ := (c16f_displace_ok_iff ..).mp h
  exact ⟨c16f_dispX_sorted ht hx v0, c16f_dispY_sorted ht hy v1, (c16f_disp_range ht x v0).1,
    (c16f_disp_range ht y v1).2⟩

/-! ### the band -/

/-- **total exactly on curves with `len(fnr) = len(fpr) ≥ 1`.** -/
theorem C16_fwb_total (top : ℚ) (f g : List ℚ) (k delta : ℚ) :
    (∃ b, c16f_bandFromDelta top f g k delta = .ok b) ↔ (f.length = g.length ∧ f.length ≠ 0) :=
  ⟨fun ⟨b, h⟩ => c16f_band_inv top f g k delta b h,
   fun ⟨hl, hn⟩ => ⟨_, c16f_band_ok top f g k delta hl hn⟩⟩

theorem c16f_band_of_ok {top : ℚ} {f g : List ℚ} {k delta : ℚ} {b : List Iv × List Iv}
    (h : c16f_bandFromDelta top f g k delta = .ok b) :
    (f.length = g.length ∧ f.length ≠ 0) ∧
    b = (g.map (fun q => (c16f_interp1 q (c16f_tabYX top f g (-delta) (-(delta * k))),
                          c16f_interp1 q (c16f_tabYX top f g delta (delta * k)))),
         f.map (fun q => (c16f_interp1 q (c16f_tabXY top f g (-delta) (-(delta * k))),
                          c16f_interp1 q (c16f_tabXY top f g delta (delta * k))))) := by
  have hlen := c16f_band_inv top f g k delta b h
  rw [c16f_band_ok top f g k delta hlen.1 hlen.2] at h
  injection h with h
  exact ⟨hlen, h.symm⟩

/-- **C16 (shape), fixed-width band.** Whenever the band function returns, both bands have one
`(lower, upper)` row per point of the curve. -/
theorem C16_fwb_shape (top : ℚ) (f g : List ℚ) (k delta : ℚ) (b : List Iv × List Iv)
    (h : c16f_bandFromDelta top f g k delta = .ok b) :
    b.1.length = f.length ∧ b.2.length = f.length ∧ f.length = g.length := by
  obtain ⟨⟨hl, _⟩, rfl⟩ := c16f_band_of_ok h
  exact ⟨(List.length_map _).trans hl.symm, List.length_map _, hl⟩

/-- **C16 (ordered), fixed-width band.** For a monotone curve (FNR non-decreasing, FPR
non-increasing), `1 ≤ top`, slope `k ≥ 0` and radius `delta ≥ 0`, every row of both bands has
`lower ≤ upper`. -/
theorem C16_fwb_ordered (top : ℚ) (f g : List ℚ) (k delta : ℚ) (b : List Iv × List Iv)
    (hf : f.Pairwise (· ≤ ·)) (hg : g.Pairwise (· ≥ ·)) (ht : 1 ≤ top) (hk : 0 ≤ k)
    (hd : 0 ≤ delta) (h : c16f_bandFromDelta top f g k delta = .ok b) :
    (∀ r ∈ b.1, r.1 ≤ r.2) ∧ (∀ r ∈ b.2, r.1 ≤ r.2) := by
  obtain ⟨_, rfl⟩ := c16f_band_of_ok h
  have key := c16f_tab_interp_mono ht hf hg (neg_le_self hd) (neg_le_self (mul_nonneg hd hk))
  constructor
  · intro r hr
    obtain ⟨q, _, rfl⟩ := List.mem_map.mp hr
    exact (key q).2
  · intro r hr
    obtain ⟨q, _, rfl⟩ := List.mem_map.mp hr
    exact (key q).1

/-- **inside `[0, top]`.** Every entry of both bands lies between `0` and
`top = nextafter(1, inf)` (not `1`: the displaced curves start at ordinate `top`). -/
theorem C16_fwb_range (top : ℚ) (f g : List ℚ) (k delta : ℚ) (b : List Iv × List Iv)
    (hf : f.Pairwise (· ≤ ·)) (hg : g.Pairwise (· ≥ ·)) (ht : 1 ≤ top)
    (h : c16f_bandFromDelta top f g k delta = .ok b) :
    ∀ r, r ∈ b.1 ∨ r ∈ b.2 → (0 ≤ r.1 ∧ r.1 ≤ top) ∧ (0 ≤ r.2 ∧ r.2 ≤ top) := by
  obtain ⟨⟨hl, hn⟩, rfl⟩ := c16f_band_of_ok h
  have key := c16f_tab_interp_range ht hf hg hl hn
  intro r hr
  rcases hr with hr | hr
  · obtain ⟨q, _, rfl⟩ := List.mem_map.mp hr
    exact ⟨(key _ _ q).2, (key _ _ q).2⟩
  · obtain ⟨q, _, rfl⟩ := List.mem_map.mp hr
    exact ⟨(key _ _ q).1, (key _ _ q).1⟩

/-- **monotone in the radius.** For `delta₁ ≤ delta₂` (any signs) and `k ≥ 0` the band of `delta₂`
contains the band of `delta₁`: row by row, its lower limits are smaller and its upper limits
larger. -/
theorem C16_fwb_monotone_delta (top : ℚ) (f g : List ℚ) (k d1 d2 : ℚ) (b1 b2 : List Iv × List Iv)
    (hf : f.Pairwise (· ≤ ·)) (hg : g.Pairwise (· ≥ ·)) (ht : 1 ≤ top) (hk : 0 ≤ k) (hd : d1 ≤ d2)
    (h1 : c16f_bandFromDelta top f g k d1 = .ok b1) (h2 : c16f_bandFromDelta top f g k d2 = .ok b2) :
    List.Forall₂ (fun r1 r2 : Iv => r2.1 ≤ r1.1 ∧ r1.2 ≤ r2.2) b1.1 b2.1 ∧
    List.Forall₂ (fun r1 r2 : Iv => r2.1 ≤ r1.1 ∧ r1.2 ≤ r2.2) b1.2 b2.2 := by
  obtain ⟨_, rfl⟩ := c16f_band_of_ok h1
  obtain ⟨_, rfl⟩ := c16f_band_of_ok h2
  have hdk : d1 * k ≤ d2 * k := mul_le_mul_of_nonneg_right hd hk
  have keyP := c16f_tab_interp_mono ht hf hg hd hdk
  have keyM := c16f_tab_interp_mono ht hf hg (neg_le_neg hd) (neg_le_neg hdk)
  constructor
  · simp only [List.forall₂_map_left_iff, List.forall₂_map_right_iff, List.forall₂_same]
    exact fun q _ => ⟨(keyM q).2, (keyP q).2⟩
  · simp only [List.forall₂_map_left_iff, List.forall₂_map_right_iff, List.forall₂_same]
    exact fun q _ => ⟨(keyM q).1, (keyP q).1⟩

/-- **zero width at radius 0.** With `delta = 0` both displaced curves coincide, so every row has
`lower = upper` (this is what the identity sampler produces). -/
theorem C16_fwb_zero_width (top : ℚ) (f g : List ℚ) (k : ℚ) (b : List Iv × List Iv)
    (h : c16f_bandFromDelta top f g k 0 = .ok b) : ∀ r, r ∈ b.1 ∨ r ∈ b.2 → r.1 = r.2 := by
  obtain ⟨_, rfl⟩ := c16f_band_of_ok h
  simp only [zero_mul, neg_zero]
  intro r hr
  rcases hr with hr | hr <;> · obtain ⟨q, _, rfl⟩ := List.mem_map.mp hr; rfl

/-! ### the tube radius -/

/-- **7 iterations are enough**: the bound `7` on the number of loop iterations in the model never
cuts the `while delta_max - delta_min > tol` loop short (more fuel gives the same result). -/
theorem C16_fwb_bisect_fuel (c : ℚ → Except Err Bool) (extra : ℕ) :
    c16f_bisectLoop c (7 + extra) 0 1 = c16f_bisectLoop c 7 0 1 :=
  c16f_bisect_fuel_aux c 7 extra 0 1 (by norm_num)

/-- **the tube radius is `0` or a bisection midpoint**: `_find_tube_radius` returns `0` or an odd
multiple `(2 m + 1) / 256` of `1/256` with `m < 128`; in particular `0 ≤ r < 1`, and the spec
predicate `radiusGridOK` holds. -/
theorem C16_fwb_radius_grid (top : ℚ) (x y xs ys : List ℚ) (k r : ℚ)
    (h : c16f_findTubeRadius top x y xs ys k = .ok r) :
    (r = 0 ∨ ∃ m : ℕ, m < 128 ∧ r = (2 * (m : ℚ) + 1) / 256) ∧ (0 ≤ r ∧ r < 1) ∧
    C16Fwb.radiusGridOK (some r) = true := by
  have hgrid : r = 0 ∨ ∃ m : ℕ, m < 128 ∧ r = (2 * (m : ℚ) + 1) / 256 := by
    unfold c16f_findTubeRadius at h
    split at h
    · cases h
    · injection h with h; exact Or.inl h.symm
    · split at h
      · cases h
      · cases h
      · have := c16f_bisect_grid_aux (c16f_isContained top x y xs ys k) 7 0 0 r rfl (by norm_num)
        rw [Nat.cast_zero, pow_zero, zero_add, div_one, div_one] at this
        exact Or.inr (this h)
  refine ⟨hgrid, ?_⟩
  rcases hgrid with rfl | ⟨m, hm, rfl⟩
  · exact ⟨⟨le_refl _, zero_lt_one⟩, by decide⟩
  · have hm' : (m : ℚ) ≤ 127 := by exact_mod_cast Nat.lt_succ_iff.mp hm
    have h0 : (0 : ℚ) ≤ m := Nat.cast_nonneg m
    have hpos : (0 : ℚ) < (2 * (m : ℚ) + 1) / 256 := by positivity
    have hlt : (2 * (m : ℚ) + 1) / 256 < 1 := by rw [div_lt_one (by norm_num)]; linarith
    have e : (2 * (m : ℚ) + 1) / 256 * 256 = ((2 * m + 1 : ℕ) : ℚ) := by push_cast; ring
    refine ⟨⟨hpos.le, hlt⟩, ?_⟩
    simp only [C16Fwb.radiusGridOK, e, Rat.den_natCast, Rat.num_natCast, hpos, hlt, decide_true,
      Bool.and_true, Bool.true_and, Bool.or_eq_true, decide_eq_true_eq]
    right
    omega

/-- **what the returned radius means.** Either `r = 0` and the undisplaced curve contains the
sample curve; or radius `0` does not, radius `4` does, and `r` is the midpoint of a bracket
`(lo, hi) ⊆ (0, 1)` whose lower end is `0` or was found NOT to contain the sample curve and whose
upper end is `1` or was found to contain it. -/
theorem C16_fwb_radius_bracket (top : ℚ) (x y xs ys : List ℚ) (k r : ℚ)
    (h : c16f_findTubeRadius top x y xs ys k = .ok r) :
    (r = 0 ∧ c16f_isContained top x y xs ys k 0 = .ok true) ∨
    (c16f_isContained top x y xs ys k 0 = .ok false ∧ c16f_isContained top x y xs ys k 4 = .ok true ∧
     ∃ lo hi, 0 ≤ lo ∧ lo < hi ∧ hi ≤ 1 ∧ r = (hi + lo) / 2 ∧
       (lo = 0 ∨ c16f_isContained top x y xs ys k lo = .ok false) ∧
       (hi = 1 ∨ c16f_isContained top x y xs ys k hi = .ok true)) := by
  unfold c16f_findTubeRadius at h
  split at h
  · cases h
  · rename_i h0
    injection h with h
    exact Or.inl ⟨h.symm, h0⟩
  · rename_i h0
    split at h
    · cases h
    · cases h
    · rename_i h4
      right
      obtain ⟨lo, hi, a1, a2, a3, a4, a5, a6⟩ :=
        c16f_bisect_bracket (c16f_isContained top x y xs ys k) 7 0 1 r h (by norm_num)
      exact ⟨h0, h4, lo, hi, a1, a2, a3, a4, a5, a6⟩

/-- **containment is monotone in the radius** (monotone curve, `1 ≤ top`, `k ≥ 0`): the bisection
searches a monotone predicate, so every radius above a contained one is contained. -/
theorem C16_fwb_contained_monotone (top : ℚ) (x y xs ys : List ℚ) (k d d' : ℚ)
    (hx : x.Pairwise (· ≤ ·)) (hy : y.Pairwise (· ≥ ·)) (ht : 1 ≤ top) (hk : 0 ≤ k) (hd : d ≤ d')
    (h : c16f_isContained top x y xs ys k d = .ok true) :
    c16f_isContained top x y xs ys k d' = .ok true := by
  obtain ⟨hl, hn⟩ := c16f_isContained_inv top x y xs ys k d true h
  rw [c16f_isContained_ok top x y xs ys k d hl hn] at h
  injection h with h
  rw [Bool.and_eq_true] at h
  rw [c16f_isContained_ok top x y xs ys k d' hl hn]
  congr 1
  rw [Bool.and_eq_true]
  have hdk := mul_le_mul_of_nonneg_right hd hk
  constructor
  · refine c16f_all_zip_map_imp (fun q b hb => ?_) xs ys h.1
    rw [decide_eq_true_eq] at hb ⊢
    exact hb.trans (c16f_tab_interp_mono ht hx hy (mul_le_mul_of_nonneg_right hd zero_le_one) hdk q).1
  · refine c16f_all_zip_map_imp (fun q b hb => ?_) xs ys h.2
    rw [decide_eq_true_eq] at hb ⊢
    refine le_trans (c16f_tab_interp_mono ht hx hy ?_ ?_ q).1 hb
    · rw [neg_mul, neg_mul]; exact neg_le_neg (mul_le_mul_of_nonneg_right hd zero_le_one)
    · rw [neg_mul, neg_mul]; exact neg_le_neg hdk

/-! ### the radius `delta` -/

/-- `delta` is a linear quantile of the radii (C13): NaN only without radii, else between two of
them -/
theorem c16f_delta_range (radii : List ℚ) (alpha : ℚ) :
    match c16f_deltaOf radii alpha with
    | none => radii = []
    | some d => (∃ a ∈ radii, a ≤ d) ∧ (∃ b ∈ radii, d ≤ b) := by
  have h := C13_in_range (radii.map some) (1 - 2 * alpha / 2)
  simp only [List.filterMap_map, Function.id_comp, List.filterMap_some] at h
  exact h

theorem c16f_delta_some (radii : List ℚ) (alpha : ℚ) (hne : radii ≠ []) :
    ∃ d, c16f_deltaOf radii alpha = some d := by
  have h := c16f_delta_range radii alpha
  cases hd : c16f_deltaOf radii alpha with
  | none => rw [hd] at h; exact absurd h hne
  | some d => exact ⟨d, rfl⟩

theorem c16f_delta_bounds (radii : List ℚ) (alpha lo hi d : ℚ)
    (h : ∀ r ∈ radii, lo ≤ r ∧ r ≤ hi) (hd : c16f_deltaOf radii alpha = some d) :
    lo ≤ d ∧ d ≤ hi := by
  have hr := c16f_delta_range radii alpha
  rw [hd] at hr
  obtain ⟨⟨a, ha, had⟩, ⟨b, hb, hdb⟩⟩ := hr
  exact ⟨(h a ha).1.trans had, hdb.trans (h b hb).2⟩

/-- **`delta` is defined and `0 ≤ delta < 1`** for at least one radius, all radii in `[0, 1)`
(which `C16_fwb_radius_grid` proves of the model's radii), at EVERY level `alpha`. -/
theorem C16_fwb_delta (radii : List ℚ) (alpha : ℚ) (hne : radii ≠ [])
    (hr : ∀ r ∈ radii, 0 ≤ r ∧ r < 1) :
    ∃ d, c16f_deltaOf radii alpha = some d ∧ 0 ≤ d ∧ d < 1 := by
  obtain ⟨d, hd⟩ := c16f_delta_some radii alpha hne
  have h := c16f_delta_range radii alpha
  rw [hd] at h
  obtain ⟨⟨a, ha, had⟩, ⟨b, hb, hdb⟩⟩ := h
  exact ⟨d, hd, (hr a ha).1.trans had, hdb.trans_lt (hr b hb).2⟩

/-! ### `fixed_width_band_ci` after the bootstrap loop -/

theorem c16f_defined_map_some (l : List ℚ) : c16f_defined (l.map some) = some l := by
  induction l with
  | nil => rfl
  | cons a l ih => simp only [List.map_cons, c16f_defined, ih]

theorem c16f_rangeOK_lift {top : ℚ} (l : List Iv)
    (h : ∀ r ∈ l, (0 ≤ r.1 ∧ r.1 ≤ top) ∧ (0 ≤ r.2 ∧ r.2 ≤ top)) :
    C16Fwb.rangeOK 0 top (l.map Iv.lift) = true := by
  simp only [C16Fwb.rangeOK, List.all_map, List.all_eq_true, Function.comp, Iv.lift, leN,
    Bool.and_eq_true, decide_eq_true_eq, neg_zero, add_zero]
  exact fun r hr => ⟨⟨⟨(h r hr).1.1, (h r hr).1.2⟩, (h r hr).2.1⟩, (h r hr).2.2⟩

/-- **NaN-free rates and a radius are what the band needs** (`C16 (NaN-free)` as a statement about
`Option`): on defined rates with at least one radius the possibly-NaN wrapper is the rational model
with its rows lifted, so no entry is NaN. -/
theorem C16_fwb_defined (top : ℚ) (f g : List ℚ) (k : ℚ) (radii : List ℚ) (alpha d : ℚ)
    (hd : c16f_deltaOf radii alpha = some d) :
    c16f_fixedWidthBandO top (f.map some) (g.map some) k radii alpha =
      (match c16f_bandFromDelta top f g k d with
       | .error e => .error e
       | .ok b => .ok (b.1.map Iv.lift, b.2.map Iv.lift)) ∧
    c16f_fixedWidthBand top f g k radii alpha = some (c16f_bandFromDelta top f g k d) := by
  constructor
  · unfold c16f_fixedWidthBandO
    rw [c16f_defined_map_some, c16f_defined_map_some, hd]
    dsimp only
    generalize c16f_bandFromDelta top f g k d = res
    cases res <;> rfl
  · unfold c16f_fixedWidthBand
    rw [hd]

/-- **C16 (shape, NaN-free, ordered), fixed-width band.** NaN-free rates of a monotone curve with
`n ≥ 1` points, `1 ≤ top`, `k ≥ 0`, at least one tube radius, all radii in `[0, 1)`, ANY `alpha`:
`fixed_width_band_ci` returns, and its bands satisfy the three well-formedness clauses of C16 (the
executable predicates the harness evaluates on the implementation) and lie inside `[0, top]`. -/
theorem C16_fwb_wellformed (top : ℚ) (f g : List ℚ) (k : ℚ) (radii : List ℚ) (alpha : ℚ)
    (hl : f.length = g.length) (hn : f.length ≠ 0)
    (hf : f.Pairwise (· ≤ ·)) (hg : g.Pairwise (· ≥ ·)) (ht : 1 ≤ top) (hk : 0 ≤ k)
    (hne : radii ≠ []) (hr : ∀ r ∈ radii, 0 ≤ r ∧ r < 1) :
    ∃ bandF bandG, c16f_fixedWidthBandO top (f.map some) (g.map some) k radii alpha = .ok (bandF, bandG) ∧
      C16Fwb.wellFormedOK f.length bandF bandG = true ∧
      C16Fwb.rangeOK 0 top bandF = true ∧ C16Fwb.rangeOK 0 top bandG = true := by
  obtain ⟨d, hd, hd0, _⟩ := C16_fwb_delta radii alpha hne hr
  obtain ⟨b, hb⟩ := (C16_fwb_total top f g k d).mpr ⟨hl, hn⟩
  obtain ⟨s1, s2, _⟩ := C16_fwb_shape top f g k d b hb
  obtain ⟨o1, o2⟩ := C16_fwb_ordered top f g k d b hf hg ht hk hd0 hb
  have rg := C16_fwb_range top f g k d b hf hg ht hb
  refine ⟨b.1.map Iv.lift, b.2.map Iv.lift, ?_, ?_, c16f_rangeOK_lift _ fun r hr => rg r (Or.inl hr),
    c16f_rangeOK_lift _ fun r hr => rg r (Or.inr hr)⟩
  · rw [(C16_fwb_defined top f g k radii alpha d hd).1, hb]
  · simp only [C16Fwb.wellFormedOK, C16.shapeOK, List.length_map, s1, s2, beq_self_eq_true,
      c16_nanFreeOK_lift, c16_orderedOK_lift _ o1, c16_orderedOK_lift _ o2, Bool.and_self]

/-! ### the spec predicates hold of the model (`eps = 0`) -/

theorem c16f_arrNear_self (l : List ℚ) : C16Fwb.arrNear 0 l (l.map some) = true := by
  simp only [C16Fwb.arrNear, List.length_map, beq_self_eq_true, Bool.true_and, List.zip,
    List.zipWith_map_right, List.zipWith_self, List.all_map, List.all_eq_true, Function.comp]
  exact fun a _ => nearO_self_c15 _

/-- the model's displaced curve satisfies `displaceOK` -/
theorem C16_fwb_spec_displace (top : ℚ) (x y : List ℚ) (v0 v1 : ℚ) (x' y' : List ℚ)
    (h : c16f_displaceCurve top x y v0 v1 = .ok (x', y')) :
    C16Fwb.displaceOK 0 top x y v0 v1 (x'.map some) (y'.map some) = true := by
  simp only [C16Fwb.displaceOK, h, c16f_arrNear_self, Bool.and_self]

/-- the model's radius satisfies `radiusOK` -/
theorem C16_fwb_spec_radius (top : ℚ) (x y xs ys : List ℚ) (k r : ℚ)
    (h : c16f_findTubeRadius top x y xs ys k = .ok r) :
    C16Fwb.radiusOK 0 top x y xs ys k (some r) = true := by
  simp only [C16Fwb.radiusOK, h]
  exact nearO_self_c15 _

/-- the model's `delta` satisfies `deltaOK`, and `+-(delta, delta k)` satisfy `vectorsOK` -/
theorem C16_fwb_spec_delta (radii : List ℚ) (alpha k d : ℚ) (hd : 0 ≤ d) :
    C16Fwb.deltaOK 0 radii alpha (c16f_deltaOf radii alpha) = true ∧
    C16Fwb.vectorsOK 0 k d d (d * k) (-d) (-(d * k)) = true := by
  constructor
  · exact nearO_self_c15 _
  · simp [C16Fwb.vectorsOK, hd, absQ]

/-- the model's bands satisfy `closedFormOK`, and `bandRelOK` with the model's displaced curves -/
theorem C16_fwb_spec_band (top : ℚ) (f g : List ℚ) (k delta : ℚ) (b : List Iv × List Iv)
    (h : c16f_bandFromDelta top f g k delta = .ok b) :
    C16Fwb.closedFormOK 0 top f g k delta (b.1.map Iv.lift) (b.2.map Iv.lift) = true ∧
    ∃ fP gP fM gM, c16f_displaceCurve top f g delta (delta * k) = .ok (fP, gP) ∧
      c16f_displaceCurve top f g (-delta) (-(delta * k)) = .ok (fM, gM) ∧
      C16Fwb.bandRelOK 0 f g fP gP fM gM (b.1.map Iv.lift) (b.2.map Iv.lift) = true := by
  obtain ⟨⟨hl, hn⟩, hb⟩ := c16f_band_of_ok h
  refine ⟨?_, _, _, _, _, c16f_displace_ok top hl hn _ _, c16f_displace_ok top hl hn _ _, ?_⟩
  · simp only [C16Fwb.closedFormOK, h, c16_bandNear_self, Bool.and_self]
  · simp only [C16Fwb.bandRelOK, c16f_tab_interp_ok top hl hn, List.zip_map', hb, c16_bandNear_self,
      Bool.and_self]

theorem c16f_nondecOK_of_pairwise :
    ∀ l : List ℚ, l.Pairwise (· ≤ ·) → C16Fwb.nondecOK l = true := by
  intro l
  induction l with
  | nil => intro _; rfl
  | cons a l ih =>
    intro h
    cases l with
    | nil => rfl
    | cons b l =>
      have h1 := List.pairwise_cons.mp h
      simp only [C16Fwb.nondecOK, Bool.and_eq_true, decide_eq_true_eq]
      exact ⟨h1.1 b List.mem_cons_self, ih h1.2⟩

/-- the model's displaced curve of a monotone curve with at least two points satisfies
`curveSortedOK`: a valid interpolation table from `(0, top)` to `(top, 0)` -/
theorem C16_fwb_spec_sorted (top : ℚ) (x y : List ℚ) (v0 v1 : ℚ) (x' y' : List ℚ)
    (h : c16f_displaceCurve top x y v0 v1 = .ok (x', y'))
    (hx : x.Pairwise (· ≤ ·)) (hy : y.Pairwise (· ≥ ·)) (ht : 1 ≤ top)
    (hnx : 2 ≤ x.length) (hny : 2 ≤ y.length) :
    C16Fwb.curveSortedOK top x' y' = true := by
  obtain ⟨⟨hx0, hy0⟩, rfl, rfl⟩ := (c16f_displace_ok_iff ..).mp h
  obtain ⟨⟨x0, xl⟩, _⟩ := c16f_disp_head_last top hnx v0
  obtain ⟨_, ⟨y0, yl⟩⟩ := c16f_disp_head_last top hny v1
  simp only [C16Fwb.curveSortedOK, x0, xl, y0, yl, beq_self_eq_true, Bool.and_true, Bool.and_eq_true]
  exact ⟨c16f_nondecOK_of_pairwise _ (c16f_dispX_sorted ht hx v0),
    c16f_nondecOK_of_pairwise _ (List.pairwise_reverse.mpr (c16f_dispY_sorted ht hy v1))⟩

/-! ### the curve of a `Scores` object -/

/-- the support of `x_axis = "tnr"` is the support of `x_axis = "fnr"` (neither axis is reversed) -/
theorem c16f_support_tnr (u : Ulp) (s : Scores) (fnr fpr thr : Option (List ℚ)) (nb : Option ℕ)
    (ts : List ℚ) (h : findSupportThresholds u s fnr fpr thr nb "fnr" = .ok ts) :
    findSupportThresholds u s fnr fpr thr nb "tnr" = .ok ts := by
  obtain ⟨l, x, hl, hx, rfl⟩ := findSupport_ok u s fnr fpr thr nb "fnr" ts h
  have hx' : x = .fnr := by
    simp only [XAxis.ofString] at hx
    injection hx with hx
    exact hx.symm
  subst hx'
  unfold findSupportThresholds
  rw [hl]
  rfl

/-- **the curve `fixed_width_band_ci` works on is monotone and NaN-free.** For an object with
sorted arrays (the `Scores` invariant) and both classes non-empty, along the thresholds of
`_find_support_thresholds(..., x_axis="fnr")` the FNR values are defined and non-decreasing and the
FPR values are defined and non-increasing: the hypotheses of `C16_fwb_ordered`, `_range`,
`_monotone_delta`, `_wellformed` hold for every curve the function builds. -/
theorem C16_fwb_curve_monotone (u : Ulp) (s : Scores) (hp : s.pos.Pairwise (· ≤ ·))
    (hn : s.neg.Pairwise (· ≤ ·)) (hp0 : s.pos.length ≠ 0) (hn0 : s.neg.length ≠ 0)
    (fnr fpr thr : Option (List ℚ)) (nb : Option ℕ) (ts : List ℚ)
    (h : findSupportThresholds u s fnr fpr thr nb "fnr" = .ok ts) :
    ∃ f g : List ℚ,
      ts.map (fun t => (s.cm (.fin t)).fnr) = f.map some ∧
      ts.map (fun t => (s.cm (.fin t)).fpr) = g.map some ∧
      f.length = ts.length ∧ g.length = ts.length ∧
      f.Pairwise (· ≤ ·) ∧ g.Pairwise (· ≥ ·) := by
  have hFN := C15_monotone u s hp hn fnr fpr thr nb "fnr" .fnr rfl ts h
  -- FPR non-increasing = TN count non-decreasing (`fp + tn` is constant): `C15_monotone` on the
  -- axis "tnr", whose support is that of "fnr"
  have hTN := C15_monotone u s hp hn fnr fpr thr nb "tnr" .tnr rfl ts
    (c16f_support_tnr u s fnr fpr thr nb ts h)
  have hP : ∀ t : ℚ, (s.cm (.fin t)).p = s.pos.length + s.easyPos := fun t =>
    (cm_totals_sorted s hp hn (.fin t)).1
  have hN : ∀ t : ℚ, (s.cm (.fin t)).n = s.neg.length + s.easyNeg := fun t =>
    (cm_totals_sorted s hp hn (.fin t)).2
  obtain ⟨ef, eg⟩ := c16_rates_some s hp0 hn0 ts
  refine ⟨ts.map s.fnrQ, ts.map s.fprQ, ef, eg, List.length_map _, List.length_map _, ?_, ?_⟩
  · rw [List.pairwise_map] at hFN ⊢
    refine hFN.imp fun {a b} hab => ?_
    simp only [XAxis.metric, CM.rateNum] at hab
    unfold Scores.fnrQ
    rw [hP a, hP b]
    exact div_le_div_of_nonneg_right (Nat.cast_le.mpr hab) (Nat.cast_nonneg _)
  · rw [List.pairwise_map] at hTN ⊢
    refine hTN.imp fun {a b} hab => ?_
    simp only [XAxis.metric, CM.rateNum] at hab
    have ha := hN a
    have hb := hN b
    simp only [CM.n] at ha hb
    unfold Scores.fprQ
    rw [hN a, hN b]
    exact div_le_div_of_nonneg_right (Nat.cast_le.mpr (by omega)) (Nat.cast_nonneg _)

/-- **C16 (shape, NaN-free, ordered) for `fixed_width_band_ci` on a `Scores` object.** Sorted arrays
(the `Scores` invariant), both classes non-empty, ANY combination of supplied `fnr` / `fpr` /
`thresholds` / `nb_points` for which the support is non-empty, `1 ≤ top`, `k ≥ 0`, at least one tube
radius, all radii in `[0, 1)`, ANY `alpha`: on the curve of `_find_support_thresholds(...,
x_axis="fnr")` with its FNR / FPR values the band assembly returns, and the bands have one row per
threshold, are NaN-free, ordered and inside `[0, top]`. -/
theorem C16_fwb_scores_wellformed (u : Ulp) (s : Scores) (hp : s.pos.Pairwise (· ≤ ·))
    (hn : s.neg.Pairwise (· ≤ ·)) (hp0 : s.pos.length ≠ 0) (hn0 : s.neg.length ≠ 0)
    (fnr fpr thr : Option (List ℚ)) (nb : Option ℕ) (ts : List ℚ)
    (h : findSupportThresholds u s fnr fpr thr nb "fnr" = .ok ts) (hts : ts.length ≠ 0)
    (top k : ℚ) (radii : List ℚ) (alpha : ℚ) (ht : 1 ≤ top) (hk : 0 ≤ k)
    (hne : radii ≠ []) (hr : ∀ r ∈ radii, 0 ≤ r ∧ r < 1) :
    ∃ bandF bandG,
      c16f_fixedWidthBandO top (ts.map fun t => (s.cm (.fin t)).fnr) (ts.map fun t => (s.cm (.fin t)).fpr)
        k radii alpha = .ok (bandF, bandG) ∧
      C16Fwb.wellFormedOK ts.length bandF bandG = true ∧
      C16Fwb.rangeOK 0 top bandF = true ∧ C16Fwb.rangeOK 0 top bandG = true := by
  obtain ⟨f, g, ef, eg, lf, lg, mf, mg⟩ :=
    C16_fwb_curve_monotone u s hp hn hp0 hn0 fnr fpr thr nb ts h
  rw [ef, eg, ← lf]
  exact C16_fwb_wellformed top f g k radii alpha (by omega) (by omega) mf mg ht hk hne hr

/-! ### a clause that is FALSE: the band does not always contain the curve -/

/-- `top = np.nextafter(1.0, np.inf)` -/
def c16fTop : ℚ := 1 + 1 / 2 ^ 52

/-- **counterexample to "the band contains the curve".** A monotone curve with a vertical segment
(two points with the same FNR `1/2`, FPR `4/5` and `1/5`), radius `delta = 0` (every bootstrap
sample inside the curve, e.g. the identity sampler): the FPR band at the point `(1/2, 4/5)` is
`(1/5, 1/5)`, so its UPPER limit `1/5` lies below the curve's FPR `4/5`.  (`np.interp` resolves
a vertical segment to its last point.)  The band is still ordered, as `C16_fwb_ordered` says. -/
theorem C16_fwb_not_contains_curve :
    (match c16f_bandFromDelta c16fTop [0, 1 / 2, 1 / 2, 1] [1, 4 / 5, 1 / 5, 0] 1 0 with
     | .ok b => b.2.getD 1 (0, 0) == (1 / 5, 1 / 5) &&
                decide ((b.2.getD 1 (0, 0)).2 < ([1, 4 / 5, 1 / 5, 0] : List ℚ).getD 1 0)
     | .error _ => false) = true := by
  decide +kernel

/-- **the same on a run of the real function.** `Scores(pos=[1, 2, 3], neg=[0, 1.5, 2.5])` with all
six scores as thresholds (`nb_points=None`) has FNR `[0, 0, 1/3, 1/3, 2/3, 2/3]` and FPR
`[1, 2/3, 2/3, 1/3, 1/3, 0]`, `k = 1`.  Under the identity sampler every bootstrap curve is the curve
itself; its tube radius is `85/256` (not `0`: a step curve does not contain itself, `np.interp` resolves
each vertical segment to its last point), so `delta = 85/256`, and the FNR band at the last point
`(2/3, 0)` is `(top, top)`: its LOWER limit `nextafter(1, inf)` lies above the curve's FNR `2/3` (and above
`1`).  The implementation returns exactly this. -/
theorem C16_fwb_not_contains_curve_identity :
    c16f_findTubeRadius c16fTop [0, 0, 1 / 3, 1 / 3, 2 / 3, 2 / 3] [1, 2 / 3, 2 / 3, 1 / 3, 1 / 3, 0]
      [0, 0, 1 / 3, 1 / 3, 2 / 3, 2 / 3] [1, 2 / 3, 2 / 3, 1 / 3, 1 / 3, 0] 1 = .ok (85 / 256) ∧
    (match c16f_bandFromDelta c16fTop [0, 0, 1 / 3, 1 / 3, 2 / 3, 2 / 3] [1, 2 / 3, 2 / 3, 1 / 3, 1 / 3, 0] 1
        (85 / 256) with
     | .ok b => b.1.getD 5 (0, 0) == (c16fTop, c16fTop) &&
                decide (([0, 0, 1 / 3, 1 / 3, 2 / 3, 2 / 3] : List ℚ).getD 5 0 < (b.1.getD 5 (0, 0)).1) &&
                decide (1 < (b.1.getD 5 (0, 0)).1)
     | .error _ => false) = true := by
  constructor <;> decide +kernel

/-! ### the hypotheses are satisfiable -/

def c16fF : List ℚ := [0, 1 / 4, 1 / 2, 1]
def c16fG : List ℚ := [1, 1 / 2, 1 / 4, 0]

/-- a monotone curve with four points, `1 ≤ top`, `0 ≤ k`, `0 ≤ delta` (hypotheses of
`C16_fwb_ordered`, `_range`, `_monotone_delta`, `_wellformed`, `_contained_monotone`) -/
example : c16fF.length = c16fG.length ∧ c16fF.length ≠ 0 ∧ c16fF.Pairwise (· ≤ ·) ∧
    c16fG.Pairwise (· ≥ ·) ∧ 1 ≤ c16fTop ∧ (0 : ℚ) ≤ 3 / 2 ∧ (0 : ℚ) ≤ 1 / 8 ∧ (1 / 16 : ℚ) ≤ 1 / 8 := by
  refine ⟨rfl, by decide, ?_, ?_, ?_, by norm_num, by norm_num, by norm_num⟩
  · simp only [c16fF, List.pairwise_cons, List.mem_cons, List.not_mem_nil, or_false, forall_eq_or_imp,
      forall_eq, List.Pairwise.nil, and_true, IsEmpty.forall_iff, implies_true]
    norm_num
  · simp only [c16fG, List.pairwise_cons, List.mem_cons, List.not_mem_nil, or_false, forall_eq_or_imp,
      forall_eq, List.Pairwise.nil, and_true, IsEmpty.forall_iff, implies_true]
    norm_num
  · unfold c16fTop; norm_num

/-- the band function returns on it (hypothesis `... = .ok b` of `C16_fwb_shape`, `_ordered`,
`_range`, `_zero_width`, `_monotone_delta`, `_spec_band`) -/
example : (∃ b, c16f_bandFromDelta c16fTop c16fF c16fG (3 / 2) (1 / 8) = .ok b) ∧
    (∃ b, c16f_bandFromDelta c16fTop c16fF c16fG (3 / 2) (1 / 16) = .ok b) ∧
    (∃ b, c16f_bandFromDelta c16fTop c16fF c16fG (3 / 2) 0 = .ok b) :=
  ⟨(C16_fwb_total _ _ _ _ _).mpr ⟨rfl, by decide⟩, (C16_fwb_total _ _ _ _ _).mpr ⟨rfl, by decide⟩,
   (C16_fwb_total _ _ _ _ _).mpr ⟨rfl, by decide⟩⟩

/-- `_displace_curve` returns on it (hypothesis of `C16_fwb_displace_entries`, `_displace_sorted`,
`_spec_displace`) -/
example : ∃ r, c16f_displaceCurve c16fTop c16fF c16fG (1 / 8) (3 / 16) = .ok r :=
  (C16_fwb_displace_total _ _ _ _ _).1 ⟨by decide, by decide⟩

/-- at least two points (hypothesis of `C16_fwb_spec_sorted`) -/
example : 2 ≤ c16fF.length ∧ 2 ≤ c16fG.length := by decide

/-- `_find_tube_radius` returns a bisection midpoint on a sample curve that leaves the curve
(hypothesis of `C16_fwb_radius_grid`, `_radius_bracket`, `_spec_radius`), and `_is_contained`
holds at radius `1/4` (hypothesis of `C16_fwb_contained_monotone`) -/
example : c16f_findTubeRadius c16fTop c16fF c16fG [0, 1 / 4, 1 / 2, 1] [1, 3 / 4, 1 / 4, 0] (3 / 2) =
      .ok (63 / 256) ∧
    c16f_isContained c16fTop c16fF c16fG [0, 1 / 4, 1 / 2, 1] [1, 3 / 4, 1 / 4, 0] (3 / 2) (1 / 4) =
      .ok true := by
  constructor <;> decide +kernel

/-- radii in `[0, 1)`, at least one (hypotheses of `C16_fwb_delta`, `C16_fwb_wellformed`); a defined
`delta` (hypothesis of `C16_fwb_defined`) -/
example : ([0, 63 / 256, 1 / 256] : List ℚ) ≠ [] ∧ (∀ r ∈ ([0, 63 / 256, 1 / 256] : List ℚ), 0 ≤ r ∧ r < 1) ∧
    ∃ d, c16f_deltaOf [0, 63 / 256, 1 / 256] (1 / 20) = some d := by
  refine ⟨by simp, ?_, c16f_delta_some _ _ (by simp)⟩
  intro r hr
  simp only [List.mem_cons, List.not_mem_nil, or_false] at hr
  rcases hr with rfl | rfl | rfl <;> norm_num

/-- the hypotheses of `C16_fwb_curve_monotone` / `C16_fwb_scores_wellformed` on the example object of
C16: sorted, both classes non-empty, the support (all six scores) is returned and non-empty -/
example : c16Example.pos.Pairwise (· ≤ ·) ∧ c16Example.neg.Pairwise (· ≤ ·) ∧
    ∃ ts, findSupportThresholds Ulp.half c16Example none none none none "fnr" = .ok ts ∧
      ts.length ≠ 0 := by
  refine ⟨by simpa [c16Example, Scores.make] using sortQ_pairwise [3, 1, 2, 2],
    by simpa [c16Example, Scores.make] using sortQ_pairwise [2, 0], ?_⟩
  have := C15_total Ulp.half c16Example c16Example_pos c16Example_neg none none none none "fnr"
  rw [show XAxis.ofString "fnr" = some .fnr from rfl] at this
  obtain ⟨ts, hts⟩ := this
  refine ⟨ts, hts, ?_⟩
  have hl := (C15_length Ulp.half c16Example none none none none "fnr" ts hts).2.2 rfl rfl
  rw [hl]
  exact fun hc => c16Example_pos (by omega)

end SA

/-
C16 / C14 / C11 — `roc_with_ci` (and `pointwise_band_ci`) end to end on the scripted RNG.

`rocWithCIScript` (SA/Model/RocCIScript.lean) is `roc_with_ci` with the joint bootstrap interval
computed inside the model from a script of RNG answers: `_metric(self)`, then `nb_samples` times
`bootstrap_sample` + `_metric(sample)`, then `utils.bootstrap_ci` per component, the rule of three
and the rectangle aggregation.

* refinement (`C16_script_refines`, `C16_script_errors`): it IS `rocWithCI` with `boot` := the
  script-driven interval (`scriptBoot`), so every theorem of SA/Theorems/C16.lean applies, and the
  RNG state afterwards is the state after exactly `nb_samples` consecutive `bootstrap_sample` calls
  (`C16_script_state`, `C16_script_requests`);
* well-formed bands for EVERY script on which the run is `ok` (`C16_script_wellformed` and its
  quantile / BC corollaries): every built-in sampler that does not raise by design
  (`c11p_Runnable`), stratified or not, sources with a scored positive and a scored negative;
* identity script (`C16_script_identity`): the bands are those of `C16_identity_closed_form`.

Helper lemmas: SA/Proofs/RocCIScript.lean, and the equations of the script model next to their use.
-/
import SA.Proofs.RocCIScript

namespace SA
open Spec

/-! ### the targets of `_metric` -/

theorem c16s_allSome_map_some (l : List ℚ) : allSome (l.map some) = some l := by
  induction l with
  | nil => rfl
  | cons x rest ih => simp only [List.map_cons, allSome, ih, Option.map_some]

/-- the FNR / FPR targets handed to `threshold_at_fnr` / `threshold_at_fpr` inside `_metric` -/
def scriptTargetsF (s : Scores) (p : BootParams) (ts : List ℚ) : List ℚ := (ts.map s.fnrQ).map p.rnd
def scriptTargetsG (s : Scores) (p : BootParams) (ts : List ℚ) : List ℚ := (ts.map s.fprQ).map p.rnd

/-- with a scored positive and a scored negative no rate of the curve is NaN: the targets are
defined (the `Err.other` branch of `rocCIScriptFrom` is unreachable) -/
theorem c16s_targets_defined (s : Scores) (p : BootParams) (hp : s.pos.length ≠ 0)
    (hn : s.neg.length ≠ 0) (ts : List ℚ) :
    metricTargets p.rnd (ts.map fun t => (s.cm (.fin t)).fnr) = some (scriptTargetsF s p ts) ∧
    metricTargets p.rnd (ts.map fun t => (s.cm (.fin t)).fpr) = some (scriptTargetsG s p ts) := by
  obtain ⟨hf, hg⟩ := c16_rates_some s hp hn ts
  rw [hf, hg]
  simp only [metricTargets, c16s_allSome_map_some, Option.map_some, scriptTargetsF, scriptTargetsG,
    and_self]

/-! ### refinement -/

/-- after the thresholds: the script model is `rocCIFrom` with the interval the script run
produces, and it raises what the script run raises -/
theorem c16s_from_eq (u : Ulp) (s : Scores) (p : BootParams) (ts : List ℚ) (powPos powNeg : ℚ)
    (st : RngState) (hp : s.pos.length ≠ 0) (hn : s.neg.length ≠ 0) :
    rocCIScriptFrom u s p ts powPos powNeg st =
      match scriptBootRun u s p (scriptTargetsF s p ts) (scriptTargetsG s p ts) st with
      | (.error e, st1) => (.error e, st1)
      | (.ok J, st1) => (rocCIFrom s ts powPos powNeg (fun _ _ => J), st1) := by
  obtain ⟨tf, tg⟩ := c16s_targets_defined s p hp hn ts
  simp only [rocCIScriptFrom, rocCIFrom, hp, hn, or_self, if_false, tf, tg,
    applyRuleOfThreeO_ok _ _ _ hp, applyRuleOfThreeO_ok _ _ _ hn]
  rcases scriptBootRun u s p (scriptTargetsF s p ts) (scriptTargetsG s p ts) st with ⟨r, st1⟩
  cases r <;> rfl

/-- `rocCIFrom` consults `boot` only at the curve's own rate arrays -/
theorem c16s_rocCIFrom_congr (s : Scores) (ts : List ℚ) (powPos powNeg : ℚ) (b1 b2 : BootCI)
    (h : b1 (ts.map fun t => (s.cm (.fin t)).fnr) (ts.map fun t => (s.cm (.fin t)).fpr) =
      b2 (ts.map fun t => (s.cm (.fin t)).fnr) (ts.map fun t => (s.cm (.fin t)).fpr)) :
    rocCIFrom s ts powPos powNeg b1 = rocCIFrom s ts powPos powNeg b2 := by
  unfold rocCIFrom
  simp only [h]

theorem c16s_scriptBoot_eq (u : Ulp) (s : Scores) (p : BootParams) (ts : List ℚ) (st : RngState)
    (hp : s.pos.length ≠ 0) (hn : s.neg.length ≠ 0) (J : List OIv × List OIv)
    (hJ : (scriptBootRun u s p (scriptTargetsF s p ts) (scriptTargetsG s p ts) st).1 = .ok J) :
    scriptBoot u s p st (ts.map fun t => (s.cm (.fin t)).fnr) (ts.map fun t => (s.cm (.fin t)).fpr)
      = J := by
  obtain ⟨tf, tg⟩ := c16s_targets_defined s p hp hn ts
  unfold scriptBoot
  simp only [tf, tg, hJ]

/-- **C16 / C14 (refinement).** With a scored positive and a scored negative and a support that
exists, `roc_with_ci` on the scripted RNG is `rocWithCI` with `boot` := the script-driven joint
interval `scriptBoot` whenever `scores.bootstrap_ci(_metric)` returns; the state afterwards is the
one `bootstrap_ci` leaves.  When `bootstrap_ci` raises, so does `roc_with_ci`, in the same state. -/
theorem C16_script_refines (u : Ulp) (s : Scores) (p : BootParams) (fnr fpr thr : Option (List ℚ))
    (nb : Option ℕ) (xa : String) (powPos powNeg : ℚ) (st : RngState) (ts : List ℚ)
    (hsup : findSupportThresholdsCI u s fnr fpr thr nb rocCIExtraPoints xa = .ok ts)
    (hp : s.pos.length ≠ 0) (hn : s.neg.length ≠ 0) :
    (∀ J st1, scriptBootRun u s p (scriptTargetsF s p ts) (scriptTargetsG s p ts) st = (.ok J, st1) →
      rocWithCIScript u s p fnr fpr thr nb xa powPos powNeg st =
        (rocWithCI u s fnr fpr thr nb xa powPos powNeg (scriptBoot u s p st), st1)) ∧
    (∀ e st1, scriptBootRun u s p (scriptTargetsF s p ts) (scriptTargetsG s p ts) st = (.error e, st1) →
      rocWithCIScript u s p fnr fpr thr nb xa powPos powNeg st = (.error e, st1)) := by
  constructor
  · intro J st1 hrun
    unfold rocWithCIScript rocWithCI
    simp only [hsup]
    rw [c16s_from_eq u s p ts powPos powNeg st hp hn, hrun]
    simp only
    rw [c16s_rocCIFrom_congr s ts powPos powNeg (scriptBoot u s p st) (fun _ _ => J)]
    exact c16s_scriptBoot_eq u s p ts st hp hn J (by rw [hrun])
  · intro e st1 hrun
    unfold rocWithCIScript
    simp only [hsup]
    rw [c16s_from_eq u s p ts powPos powNeg st hp hn, hrun]

/-- **C16 (errors before any draw).** An error of the support computation, or a class without a
scored sample (`_metric(self)` raises `ValueError`), is raised with the RNG untouched, and is the
error `rocWithCI` raises for ANY `boot`. -/
theorem C16_script_errors (u : Ulp) (s : Scores) (p : BootParams) (fnr fpr thr : Option (List ℚ))
    (nb : Option ℕ) (xa : String) (powPos powNeg : ℚ) (st : RngState) (boot : BootCI) :
    (∀ e, findSupportThresholdsCI u s fnr fpr thr nb rocCIExtraPoints xa = .error e →
      rocWithCIScript u s p fnr fpr thr nb xa powPos powNeg st = (.error e, st) ∧
      rocWithCI u s fnr fpr thr nb xa powPos powNeg boot = .error e) ∧
    (∀ ts, findSupportThresholdsCI u s fnr fpr thr nb rocCIExtraPoints xa = .ok ts →
      (s.neg.length = 0 ∨ s.pos.length = 0) →
      rocWithCIScript u s p fnr fpr thr nb xa powPos powNeg st = (.error .valueError, st) ∧
      rocWithCI u s fnr fpr thr nb xa powPos powNeg boot = .error .valueError) := by
  constructor
  · intro e he
    simp only [rocWithCIScript, rocWithCI, he, and_self]
  · intro ts hts hempty
    simp only [rocWithCIScript, rocWithCI, hts, rocCIScriptFrom, rocCIFrom, hempty, if_true,
      and_self]

/-! ### the RNG state afterwards -/

/-- the state of the script model is the state of the `bootstrap_ci` run (the rule of three and
the aggregation draw nothing) -/
theorem c16s_from_state (u : Ulp) (s : Scores) (p : BootParams) (ts : List ℚ) (powPos powNeg : ℚ)
    (st : RngState) (hp : s.pos.length ≠ 0) (hn : s.neg.length ≠ 0) :
    (rocCIScriptFrom u s p ts powPos powNeg st).2 =
      (scriptBootRun u s p (scriptTargetsF s p ts) (scriptTargetsG s p ts) st).2 := by
  rw [c16s_from_eq u s p ts powPos powNeg st hp hn]
  rcases scriptBootRun u s p (scriptTargetsF s p ts) (scriptTargetsG s p ts) st with ⟨r, st1⟩
  cases r <;> rfl

/-- whenever `bootstrap_ci` returns, exactly `nb_samples` samples have been drawn -/
theorem c16s_bootRun_state (u : Ulp) (s : Scores) (p : BootParams) (fT gT : List ℚ) (st : RngState)
    (J : List OIv × List OIv) (h : (scriptBootRun u s p fT gT st).1 = .ok J) :
    (scriptBootRun u s p fT gT st).2 = sampleStates s p.cfg p.nbSamples st := by
  unfold scriptBootRun at h ⊢
  cases hm : jointMetric u fT gT s with
  | error e => simp only [hm] at h; cases h
  | ok est =>
    simp only [hm] at h ⊢
    rcases hd : drawMapped s p.cfg (jointMetric u fT gT) p.nbSamples st with ⟨r, st1⟩
    cases r with
    | error e => simp only [hd] at h; cases h
    | ok reps =>
      simp only
      have := (c16s_drawMapped_inv s p.cfg (jointMetric u fT gT) p.nbSamples st reps
        (by rw [hd])).1
      rw [hd] at this
      exact this

/-- **C16 / C11 (the RNG stream).** Whenever `roc_with_ci` returns, the RNG state is the one after
exactly `nb_samples` consecutive `bootstrap_sample(config)` calls on the source, started in the
state `roc_with_ci` was called in: nothing else touches the generator (the support computation,
`_metric`, `utils.bootstrap_ci`, the rule of three and the aggregation draw nothing). -/
theorem C16_script_state (u : Ulp) (s : Scores) (p : BootParams) (fnr fpr thr : Option (List ℚ))
    (nb : Option ℕ) (xa : String) (powPos powNeg : ℚ) (st : RngState) (c : RocCICurve)
    (h : (rocWithCIScript u s p fnr fpr thr nb xa powPos powNeg st).1 = .ok c) :
    (rocWithCIScript u s p fnr fpr thr nb xa powPos powNeg st).2 =
      sampleStates s p.cfg p.nbSamples st := by
  unfold rocWithCIScript at h ⊢
  cases hsup : findSupportThresholdsCI u s fnr fpr thr nb rocCIExtraPoints xa with
  | error e => simp only [hsup] at h; cases h
  | ok ts =>
    simp only [hsup] at h ⊢
    by_cases hne : s.neg.length = 0 ∨ s.pos.length = 0
    · simp only [rocCIScriptFrom, hne, if_true] at h; cases h
    · have hp : s.pos.length ≠ 0 := fun h0 => hne (Or.inr h0)
      have hn : s.neg.length ≠ 0 := fun h0 => hne (Or.inl h0)
      rw [c16s_from_state u s p ts powPos powNeg st hp hn]
      rw [c16s_from_eq u s p ts powPos powNeg st hp hn] at h
      rcases hr : scriptBootRun u s p (scriptTargetsF s p ts) (scriptTargetsG s p ts) st with ⟨r, st1⟩
      cases r with
      | error e => rw [hr] at h; cases h
      | ok J =>
        have := c16s_bootRun_state u s p _ _ st J (by rw [hr])
        rw [hr] at this
        exact this

/-- **C16 / C11 (the request sequence).** Whenever `roc_with_ci` returns, the requests issued to
the RNG (in call order) are those issued before the call followed by the requests of
`bootstrap_sample` call `0, 1, ..., nb_samples - 1`, each started in the state its predecessor left
(`callRequests`; their shape per call is what C11 describes). -/
theorem C16_script_requests (u : Ulp) (s : Scores) (p : BootParams) (fnr fpr thr : Option (List ℚ))
    (nb : Option ℕ) (xa : String) (powPos powNeg : ℚ) (st : RngState) (c : RocCICurve)
    (h : (rocWithCIScript u s p fnr fpr thr nb xa powPos powNeg st).1 = .ok c) :
    (rocWithCIScript u s p fnr fpr thr nb xa powPos powNeg st).2.requests =
      st.requests ++ ((List.range p.nbSamples).map fun j =>
        callRequests s p.cfg (sampleStates s p.cfg j st)).flatten := by
  rw [C16_script_state u s p fnr fpr thr nb xa powPos powNeg st c h, c16s_sampleStates_requests]

/-! ### every `ok` run -/

/-- the value property the loop establishes for every replicate -/
def ReplicateOK (nF nG : ℕ) (v : JointVal) : Prop :=
  v.1.length = nG ∧ v.2.length = nF ∧ ∀ x ∈ jointFlat v, UnitO x

/-- **what an `ok` run of `scores.bootstrap_ci(_metric)` is.** Source with a scored positive and a
scored negative, runnable sampling configuration, `nb_samples ≥ 1`, final state `ok`: the point
estimate exists, `nb_samples` replicates are returned — the metric never raises on a sample, because
every sample of an `ok` draw has a scored positive and a scored negative (C11) — every replicate
has the estimate's shape and consists of defined rates in `[0,1]`, and the state is the one after
`nb_samples` draws. -/
theorem c16s_run_facts (u : Ulp) (s : Scores) (p : BootParams) (fT gT : List ℚ) (st : RngState)
    (hp : s.pos.length ≠ 0) (hn : s.neg.length ≠ 0) (hrun : c11p_Runnable s p.cfg)
    (hnb : p.nbSamples ≠ 0) (hok : (scriptBootRun u s p fT gT st).2.ok = true) :
    ∃ est reps, jointMetric u fT gT s = .ok est ∧
      drawMapped s p.cfg (jointMetric u fT gT) p.nbSamples st =
        (.ok reps, sampleStates s p.cfg p.nbSamples st) ∧
      scriptBootRun u s p fT gT st =
        (.ok (jointBootCI p.nrm p.pow15 p.method p.alpha est reps),
          sampleStates s p.cfg p.nbSamples st) ∧
      est.1.length = gT.length ∧ est.2.length = fT.length ∧ RepsFacts est reps := by
  obtain ⟨est, hest, l1, l2, hunit⟩ := c16s_jointMetric_ok u fT gT s hp hn
  have hposne : s.pos ≠ [] := fun h => hp (by rw [h]; rfl)
  have hnegne : s.neg ≠ [] := fun h => hn (by rw [h]; rfl)
  have hok' : (drawMapped s p.cfg (jointMetric u fT gT) p.nbSamples st).2.ok = true := by
    unfold scriptBootRun at hok
    simp only [hest] at hok
    rcases hd : drawMapped s p.cfg (jointMetric u fT gT) p.nbSamples st with ⟨r, st1⟩
    rw [hd] at hok
    cases r <;> exact hok
  obtain ⟨reps, hreps, hlen, hall, hstate⟩ := c16s_drawMapped_total s p.cfg (jointMetric u fT gT)
    (ReplicateOK fT.length gT.length) hrun
    (fun st0 smp h1 h2 => by
      obtain ⟨w1, w2, _, _⟩ := c16s_sample_wellformed s p.cfg st0 smp h1 h2
      have q1 : smp.pos.length ≠ 0 := fun h => w1 hposne (List.eq_nil_of_length_eq_zero h)
      have q2 : smp.neg.length ≠ 0 := fun h => w2 hnegne (List.eq_nil_of_length_eq_zero h)
      obtain ⟨v, hv, a1, a2, a3⟩ := c16s_jointMetric_ok u fT gT smp q1 q2
      exact ⟨v, hv, a1, a2, a3⟩)
    p.nbSamples st hok'
  have hd : drawMapped s p.cfg (jointMetric u fT gT) p.nbSamples st =
      (.ok reps, sampleStates s p.cfg p.nbSamples st) := Prod.ext hreps hstate
  refine ⟨est, reps, hest, hd, ?_, l1, l2, ?_⟩
  · unfold scriptBootRun
    simp only [hest, hd]
  · refine ⟨?_, ?_, ?_, hunit⟩
    · intro h
      rw [h] at hlen
      exact hnb hlen.symm
    · intro v hv
      obtain ⟨a1, a2, _⟩ := hall v hv
      exact ⟨by rw [a1, l1], by rw [a2, l2]⟩
    · intro v hv
      exact (hall v hv).2.2

theorem c16s_joint_rows (nrm : Normal) (p15 : ℚ → ℚ) (m : BootMethod) (al : ℚ) (est : JointVal)
    (reps : List JointVal) :
    (jointBootCI nrm p15 m al est reps).1 ++ (jointBootCI nrm p15 m al est reps).2 =
      bootstrapCIOf nrm p15 m (fun j => reps.getD j est) jointFlat est reps.length al := by
  simp only [jointBootCI, List.take_append_drop]

/-- the conclusions of the well-formedness theorems about a returned curve `c` -/
def ScriptCurveOK (ts : List ℚ) (c : RocCICurve) (ord : Prop) : Prop :=
  c.thresholds = ts ∧
  (C16.shapeOK ts.length c.fnrCI = true ∧ C16.shapeOK ts.length c.fprCI = true) ∧
  (C16.nanFreeOK c.fnrCI = true ∧ C16.nanFreeOK c.fprCI = true) ∧
  (C16.unitOK 0 c.fnrCI = true ∧ C16.unitOK 0 c.fprCI = true) ∧
  (ord → C16.orderedOK c.fnrCI = true ∧ C16.orderedOK c.fprCI = true)

/-- core of the well-formedness theorems, after the thresholds: `ord` is any proposition that
implies that every pointwise bootstrap interval of the run is ordered -/
theorem c16s_from_wellformed (u : Ulp) (s : Scores) (p : BootParams) (ts : List ℚ)
    (powPos powNeg : ℚ) (st : RngState) (hp : s.pos.length ≠ 0) (hn : s.neg.length ≠ 0)
    (hrun : c11p_Runnable s p.cfg) (hnb : p.nbSamples ≠ 0)
    (hp0 : 0 ≤ powPos) (hp1 : powPos ≤ 1) (hn0 : 0 ≤ powNeg) (hn1 : powNeg ≤ 1)
    (hok : (rocCIScriptFrom u s p ts powPos powNeg st).2.ok = true) (ord : Prop)
    (hord : ∀ est reps, (scriptBootRun u s p (scriptTargetsF s p ts) (scriptTargetsG s p ts) st).1 =
        .ok (jointBootCI p.nrm p.pow15 p.method p.alpha est reps) → RepsFacts est reps → ord →
      ∀ r ∈ bootstrapCIOf p.nrm p.pow15 p.method (fun j => reps.getD j est) jointFlat est
        reps.length p.alpha, optLe r.1 r.2) :
    ∃ c, rocCIScriptFrom u s p ts powPos powNeg st =
        (.ok c, sampleStates s p.cfg p.nbSamples st) ∧
      (c.fnr = ts.map (fun t => (s.cm (.fin t)).fnr) ∧ c.fpr = ts.map (fun t => (s.cm (.fin t)).fpr)) ∧
      ScriptCurveOK ts c ord := by
  rw [c16s_from_state u s p ts powPos powNeg st hp hn] at hok
  obtain ⟨est, reps, _, _, hrunEq, l1, l2, facts⟩ :=
    c16s_run_facts u s p _ _ st hp hn hrun hnb hok
  obtain ⟨bf, bg, hJ, lf, lg, gf, gg⟩ := c16s_jointBootCI_facts p.nrm p.pow15 p.method p.alpha
    est reps facts ord (hord est reps (by rw [hrunEq]) facts)
  obtain ⟨c, hc⟩ := rocCIFrom_total s ts powPos powNeg
    (fun _ _ => jointBootCI p.nrm p.pow15 p.method p.alpha est reps) hp hn
  have lf' : bf.length = ts.length := by
    rw [lf, l1]; simp [scriptTargetsG]
  have lg' : bg.length = ts.length := by
    rw [lg, l2]; simp [scriptTargetsF]
  obtain ⟨s1, s2, _, _⟩ := C16_length s ts powPos powNeg _ c hc bf bg hJ lf' lg'
  obtain ⟨_, _, ht, hf, hg, _⟩ := rocCIFrom_ok s ts powPos powNeg _ c hc
  obtain ⟨⟨n1, u1, o1⟩, ⟨n2, u2, o2⟩⟩ := c16_bands_good s ts powPos powNeg _ c hc bf bg hJ
    hp0 hp1 hn0 hn1 ord gf gg
  refine ⟨c, ?_, ⟨hf, hg⟩, ht, ?_, ⟨n1, n2⟩, ⟨u1, u2⟩, fun ho => ⟨o1 ho, o2 ho⟩⟩
  · rw [c16s_from_eq u s p ts powPos powNeg st hp hn, hrunEq]
    simp only [hc]
  · rw [ht] at s1 s2
    exact ⟨s1, s2⟩

theorem c16s_script_of_support (u : Ulp) (s : Scores) (p : BootParams) (fnr fpr thr : Option (List ℚ))
    (nb : Option ℕ) (xa : String) (powPos powNeg : ℚ) (st : RngState) (ts : List ℚ)
    (hsup : findSupportThresholdsCI u s fnr fpr thr nb rocCIExtraPoints xa = .ok ts) :
    rocWithCIScript u s p fnr fpr thr nb xa powPos powNeg st =
      rocCIScriptFrom u s p ts powPos powNeg st := by
  simp only [rocWithCIScript, hsup]

/-- **C16 (well-formed bands on every `ok` run, all three methods).**
Hypotheses: the source has a scored positive and a scored negative; the support computation
returns (`C16_total` gives the conditions); the sampling configuration is one that does not raise
by design (`c11p_Runnable`: replacement — explicit or chosen by "dynamic" —, single-pass,
proportion with a feasible ratio; stratified or not); smoothing off (the noise is not modelled);
`nb_samples ≥ 1`; `0 ≤ pow(alpha, 1/n) ≤ 1`; and the run is `ok`, i.e. EVERY answer of the script
lies in the support of its request and the script does not run out.  No hypothesis on the
normal / power oracles, on alpha, or on the rate-rounding oracle.
Conclusion: `roc_with_ci` returns a curve on the computed thresholds, the RNG is left in the state
after exactly `nb_samples` draws, both bands have one row per threshold, contain no NaN and lie in
`[0, 1]` — for the quantile, BC and BCa methods alike (every limit is a linear quantile of replicates
that are rates) — and they are ordered whenever all pointwise bootstrap intervals
(`scriptBoot … fnr fpr`) are ordered (quantile: always, `C16_script_wellformed_quantile`; BC: lawful
normal oracles, `C16_script_wellformed_bc`; BCa: `C13_ordered_bca` gives it per component on the branch
`a (z0 + z_alpha) < 1`). -/
theorem C16_script_wellformed (u : Ulp) (s : Scores) (p : BootParams) (fnr fpr thr : Option (List ℚ))
    (nb : Option ℕ) (xa : String) (powPos powNeg : ℚ) (st : RngState) (ts : List ℚ)
    (hsup : findSupportThresholdsCI u s fnr fpr thr nb rocCIExtraPoints xa = .ok ts)
    (hp : s.pos.length ≠ 0) (hn : s.neg.length ≠ 0)
    (hrun : c11p_Runnable s p.cfg) (_hsm : p.cfg.smoothing = false) (hnb : p.nbSamples ≠ 0)
    (hp0 : 0 ≤ powPos) (hp1 : powPos ≤ 1) (hn0 : 0 ≤ powNeg) (hn1 : powNeg ≤ 1)
    (hok : (rocWithCIScript u s p fnr fpr thr nb xa powPos powNeg st).2.ok = true) :
    ∃ c, rocWithCIScript u s p fnr fpr thr nb xa powPos powNeg st =
        (.ok c, sampleStates s p.cfg p.nbSamples st) ∧
      ScriptCurveOK ts c (∀ r ∈ (scriptBoot u s p st c.fnr c.fpr).1 ++
        (scriptBoot u s p st c.fnr c.fpr).2, optLe r.1 r.2) := by
  rw [c16s_script_of_support u s p fnr fpr thr nb xa powPos powNeg st ts hsup] at hok ⊢
  obtain ⟨c, hc, ⟨hf, hg⟩, hgood⟩ := c16s_from_wellformed u s p ts powPos powNeg st hp hn hrun hnb
    hp0 hp1 hn0 hn1 hok
    (∀ r ∈ (scriptBoot u s p st (ts.map fun t => (s.cm (.fin t)).fnr)
        (ts.map fun t => (s.cm (.fin t)).fpr)).1 ++
      (scriptBoot u s p st (ts.map fun t => (s.cm (.fin t)).fnr)
        (ts.map fun t => (s.cm (.fin t)).fpr)).2, optLe r.1 r.2)
    (by
      intro est reps hJ _ ho
      rw [c16s_scriptBoot_eq u s p ts st hp hn _ hJ, c16s_joint_rows] at ho
      exact ho)
  exact ⟨c, hc, by rw [hf, hg]; exact hgood⟩

/-- **C16 (quantile method): also ordered.** Under the hypotheses of `C16_script_wellformed`, the
quantile method and `0 ≤ alpha ≤ 1`: shape, NaN-free, `[0,1]` AND `lower ≤ upper` in every row of both
bands, for every `ok` run. -/
theorem C16_script_wellformed_quantile (u : Ulp) (s : Scores) (p : BootParams)
    (fnr fpr thr : Option (List ℚ)) (nb : Option ℕ) (xa : String) (powPos powNeg : ℚ)
    (st : RngState) (ts : List ℚ)
    (hsup : findSupportThresholdsCI u s fnr fpr thr nb rocCIExtraPoints xa = .ok ts)
    (hp : s.pos.length ≠ 0) (hn : s.neg.length ≠ 0)
    (hrun : c11p_Runnable s p.cfg) (_hsm : p.cfg.smoothing = false) (hnb : p.nbSamples ≠ 0)
    (hm : p.method = .quantile) (ha0 : 0 ≤ p.alpha) (ha1 : p.alpha ≤ 1)
    (hp0 : 0 ≤ powPos) (hp1 : powPos ≤ 1) (hn0 : 0 ≤ powNeg) (hn1 : powNeg ≤ 1)
    (hok : (rocWithCIScript u s p fnr fpr thr nb xa powPos powNeg st).2.ok = true) :
    ∃ c, rocWithCIScript u s p fnr fpr thr nb xa powPos powNeg st =
        (.ok c, sampleStates s p.cfg p.nbSamples st) ∧ ScriptCurveOK ts c True := by
  rw [c16s_script_of_support u s p fnr fpr thr nb xa powPos powNeg st ts hsup] at hok ⊢
  obtain ⟨c, hc, _, hgood⟩ := c16s_from_wellformed u s p ts powPos powNeg st hp hn hrun hnb hp0 hp1
    hn0 hn1 hok True (fun est reps _ facts _ r hr => by
      obtain ⟨col, th, _, _, rfl⟩ :=
        c16s_bootCIOf_rows p.nrm p.pow15 p.method p.alpha est reps facts r hr
      rw [hm]
      exact C13_ordered_quantile p.nrm p.pow15 col th p.alpha ha0 ha1)
  exact ⟨c, hc, hgood⟩

/-- **C16 (BC method): also ordered** with lawful normal oracles (monotone cdf / ppf, cdf ≥ 0, ppf
finite inside `(0,1)`) and `0 < alpha < 1`. -/
theorem C16_script_wellformed_bc (u : Ulp) (s : Scores) (p : BootParams)
    (fnr fpr thr : Option (List ℚ)) (nb : Option ℕ) (xa : String) (powPos powNeg : ℚ)
    (st : RngState) (ts : List ℚ)
    (hsup : findSupportThresholdsCI u s fnr fpr thr nb rocCIExtraPoints xa = .ok ts)
    (hp : s.pos.length ≠ 0) (hn : s.neg.length ≠ 0)
    (hrun : c11p_Runnable s p.cfg) (_hsm : p.cfg.smoothing = false) (hnb : p.nbSamples ≠ 0)
    (hm : p.method = .bc) (hlaw : p.nrm.Lawful) (ha0 : 0 < p.alpha) (ha1 : p.alpha < 1)
    (hp0 : 0 ≤ powPos) (hp1 : powPos ≤ 1) (hn0 : 0 ≤ powNeg) (hn1 : powNeg ≤ 1)
    (hok : (rocWithCIScript u s p fnr fpr thr nb xa powPos powNeg st).2.ok = true) :
    ∃ c, rocWithCIScript u s p fnr fpr thr nb xa powPos powNeg st =
        (.ok c, sampleStates s p.cfg p.nbSamples st) ∧ ScriptCurveOK ts c True := by
  rw [c16s_script_of_support u s p fnr fpr thr nb xa powPos powNeg st ts hsup] at hok ⊢
  obtain ⟨c, hc, _, hgood⟩ := c16s_from_wellformed u s p ts powPos powNeg st hp hn hrun hnb hp0 hp1
    hn0 hn1 hok True (fun est reps _ facts _ r hr => by
      obtain ⟨col, th, _, _, rfl⟩ :=
        c16s_bootCIOf_rows p.nrm p.pow15 p.method p.alpha est reps facts r hr
      rw [hm]
      exact C13_ordered_bc p.nrm hlaw p.pow15 col th p.alpha ha0 ha1)
  exact ⟨c, hc, hgood⟩

/-- **C16 / C11 (the script is consumed by exactly those requests).** Whenever `roc_with_ci`
returns on a runnable sampling configuration and the run is `ok`: the (request, answer) pairs
recorded during the call are `new` (in call order, appended to those recorded before), and the
answers of `new` are EXACTLY the part of the script read by the call, in order — one answer per
request, nothing skipped, nothing read twice; what is left of the script is untouched.  Together
with `C16_script_requests`: the script is consumed by exactly the requests of `nb_samples`
consecutive `bootstrap_sample` calls. -/
theorem C16_script_consumes (u : Ulp) (s : Scores) (p : BootParams) (fnr fpr thr : Option (List ℚ))
    (nb : Option ℕ) (xa : String) (powPos powNeg : ℚ) (st : RngState) (c : RocCICurve)
    (hrun : c11p_Runnable s p.cfg)
    (h : (rocWithCIScript u s p fnr fpr thr nb xa powPos powNeg st).1 = .ok c)
    (hok : (rocWithCIScript u s p fnr fpr thr nb xa powPos powNeg st).2.ok = true) :
    ∃ new : List (Req × List ℕ),
      (rocWithCIScript u s p fnr fpr thr nb xa powPos powNeg st).2.paired = st.paired ++ new ∧
      (rocWithCIScript u s p fnr fpr thr nb xa powPos powNeg st).2.requests =
        st.requests ++ new.map (·.1) ∧
      st.responses = new.map (·.2) ++
        (rocWithCIScript u s p fnr fpr thr nb xa powPos powNeg st).2.responses := by
  have hstate := C16_script_state u s p fnr fpr thr nb xa powPos powNeg st c h
  rw [hstate] at hok ⊢
  obtain ⟨l, ht, hr⟩ := c16s_sampleStates_consumed s p.cfg hrun p.nbSamples st hok
  refine ⟨l.reverse, ?_, ?_, hr⟩
  · simp only [RngState.paired, ht, List.reverse_append]
  · simp only [RngState.requests, RngState.paired, ht, List.reverse_append, List.map_append]

/-! ### the samples of an `ok` run (C11 inside `roc_with_ci`) -/

/-- **C16 / C11 (the samples).** Every sample drawn during an `ok` run of a runnable configuration
— from whatever state of the script — has a scored positive and a scored negative when the source
has, keeps the source's flags and is sorted when the source is; the loop draws `n` of them and
ends in the state after `n` draws. -/
theorem C16_script_samples (s : Scores) (c : BootCfg) (n : ℕ) (st : RngState)
    (hrun : c11p_Runnable s c) (hok : (drawSamples s c n st).2.ok = true) :
    ∃ L, drawSamples s c n st = (.ok L, sampleStates s c n st) ∧ L.length = n ∧
      ∀ smp ∈ L, (s.pos ≠ [] → smp.pos ≠ []) ∧ (s.neg ≠ [] → smp.neg ≠ []) ∧ smp.cfg = s.cfg ∧
        (Inv s → Inv smp) := by
  unfold drawSamples at hok ⊢
  obtain ⟨L, hL, hlen, hall, hstate⟩ := c16s_drawMapped_total s c (fun smp => .ok smp)
    (fun smp => (s.pos ≠ [] → smp.pos ≠ []) ∧ (s.neg ≠ [] → smp.neg ≠ []) ∧ smp.cfg = s.cfg ∧
      (Inv s → Inv smp)) hrun
    (fun st0 smp h1 h2 => ⟨smp, rfl, c16s_sample_wellformed s c st0 smp h1 h2⟩) n st hok
  exact ⟨L, Prod.ext hL hstate, hlen, hall⟩

/-! ### identity script -/

/-- on the identity script (`identityScript`, SA/Proofs/Sampling.lean: every stratum keeps its
size, every index is drawn once) a sorted source is its own sample; the answers after it are left -/
theorem c16s_sample_identity (s : Scores) (c : BootCfg) (sp : Bool) (st : RngState)
    (rest : List (List ℕ)) (hinv : Inv s)
    (hm : (samplingMethod s c = .replacement ∧ sp = false) ∨
      (samplingMethod s c = .singlePass ∧ sp = true))
    (hsm : c.smoothing = false) (hok : st.ok = true)
    (hr : st.responses = identityScript s c.byLabel sp ++ rest) :
    (bootstrapSample s c st).1 = .ok s ∧ (bootstrapSample s c st).2.ok = true ∧
      (bootstrapSample s c st).2.responses = rest := by
  obtain ⟨e1, e2, e3⟩ := c11p_sampleIndices_identity_rest s c.byLabel sp st rest hok hr
  have hmake : ∀ b, Scores.make (gather s.pos (List.range s.pos.length))
      (gather s.neg (List.range s.neg.length)) s.easyPos s.easyNeg s.cfg b = s := by
    intro b
    rw [gather_range, gather_range]
    cases b
    · simp only [Scores.make, Bool.false_eq_true, if_false, sortQ_eq_self _ hinv.1,
        sortQ_eq_self _ hinv.2]
    · simp only [Scores.make, if_true]
  unfold bootstrapSample
  rcases hm with ⟨hm, rfl⟩ | ⟨hm, rfl⟩
  · simp only [hm, hsm, Bool.false_eq_true, if_false, e1, e2, e3, hmake, and_self]
  · simp only [hm, hsm, Bool.false_eq_true, if_false, e1, e2, e3, hmake, and_self]

theorem c16s_drawMapped_identity {α : Type} (s : Scores) (c : BootCfg) (k : Scores → Except Err α)
    (a : α) (hk : k s = .ok a) (sp : Bool) (rest : List (List ℕ)) (hinv : Inv s)
    (hm : (samplingMethod s c = .replacement ∧ sp = false) ∨
      (samplingMethod s c = .singlePass ∧ sp = true))
    (hsm : c.smoothing = false) (n : ℕ) (st : RngState) (hok : st.ok = true)
    (hr : st.responses = (List.replicate n (identityScript s c.byLabel sp)).flatten ++ rest) :
    (drawMapped s c k n st).1 = .ok (List.replicate n a) ∧ (drawMapped s c k n st).2.ok = true ∧
      (drawMapped s c k n st).2.responses = rest := by
  induction n generalizing st with
  | zero =>
    simp only [List.replicate_zero, List.flatten_nil, List.nil_append] at hr
    exact ⟨rfl, hok, hr⟩
  | succ n ih =>
    rw [List.replicate_succ, List.flatten_cons, List.append_assoc] at hr
    obtain ⟨b1, b2, b3⟩ := c16s_sample_identity s c sp st _ hinv hm hsm hok hr
    obtain ⟨i1, i2, i3⟩ := ih _ b2 b3
    rw [c16s_drawMapped_succ_ok b1 hk, i1]
    exact ⟨rfl, i2, i3⟩

/-- every replicate equal to the (defined) estimate: each pointwise interval is
`(estimate, estimate)`, all three methods, any oracles (`C14_identity`) -/
theorem c16s_jointBootCI_identity (nrm : Normal) (p15 : ℚ → ℚ) (m : BootMethod) (al : ℚ)
    (eF eG : List ℚ) (n : ℕ) (hn : n ≠ 0) :
    jointBootCI nrm p15 m al (eF.map some, eG.map some)
        (List.replicate n (eF.map some, eG.map some)) =
      identityBoot (eF.map some) (eG.map some) [] [] := by
  have hid := C14_identity nrm p15 m
    (fun j => (List.replicate n ((eF.map some, eG.map some) : JointVal)).getD j
      (eF.map some, eG.map some)) jointFlat (eF.map some, eG.map some) n al
    (fun j hj => by
      rw [List.getD_eq_getElem _ _ (by simpa using hj)]
      simp)
    (by omega)
    (fun e he => by
      simp only [jointFlat, List.mem_append, List.mem_map] at he
      rcases he with ⟨q, _, rfl⟩ | ⟨q, _, rfl⟩ <;> simp)
  simp only [jointBootCI, List.length_replicate, hid, identityBoot, jointFlat, List.map_append,
    List.length_map]
  refine Prod.ext ?_ ?_
  · exact List.take_left' (by simp)
  · exact List.drop_left' (by simp)

/-- `scores.bootstrap_ci(_metric)` on `nb_samples` copies of the identity script: the interval of
the identity sampler -/
theorem c16s_bootRun_identity (u : Ulp) (s : Scores) (p : BootParams) (fT gT : List ℚ)
    (st : RngState) (sp : Bool) (rest : List (List ℕ))
    (hp : s.pos.length ≠ 0) (hn : s.neg.length ≠ 0) (hinv : Inv s)
    (hm : (samplingMethod s p.cfg = .replacement ∧ sp = false) ∨
      (samplingMethod s p.cfg = .singlePass ∧ sp = true))
    (hsm : p.cfg.smoothing = false) (hnb : p.nbSamples ≠ 0) (hst : st.ok = true)
    (hscript : st.responses =
      (List.replicate p.nbSamples (identityScript s p.cfg.byLabel sp)).flatten ++ rest) :
    ∃ (eF eG : List ℚ) (st1 : RngState),
      jointMetric u fT gT s = .ok (eF.map some, eG.map some) ∧
      scriptBootRun u s p fT gT st =
        (.ok (identityBoot (eF.map some) (eG.map some) [] []), st1) ∧
      st1.ok = true ∧ st1.responses = rest := by
  obtain ⟨est, hest, _, _, hunit⟩ := c16s_jointMetric_ok u fT gT s hp hn
  obtain ⟨eF, hF, _⟩ := c16s_exists_map some _ est.1 fun x hx =>
    hunit x (List.mem_append_left _ hx)
  obtain ⟨eG, hG, _⟩ := c16s_exists_map some _ est.2 fun x hx =>
    hunit x (List.mem_append_right _ hx)
  have hest' : est = (eF.map some, eG.map some) := Prod.ext hF hG
  rw [hest'] at hest
  obtain ⟨d1, d2, d3⟩ := c16s_drawMapped_identity s p.cfg (jointMetric u fT gT) _ hest sp rest hinv
    hm hsm p.nbSamples st hst hscript
  rcases hd : drawMapped s p.cfg (jointMetric u fT gT) p.nbSamples st with ⟨r, st1⟩
  rw [hd] at d1 d2 d3
  simp only at d1 d2 d3
  subst d1
  refine ⟨eF, eG, st1, hest, ?_, d2, d3⟩
  unfold scriptBootRun
  simp only [hest, hd, c16s_jointBootCI_identity _ _ _ _ eF eG p.nbSamples hnb]

/-- **C16 (identity script).** Sorted source with a scored positive and a scored negative,
replacement or single-pass sampling (stratified or not, smoothing off), `nb_samples ≥ 1`, and the
script consisting of `nb_samples` copies of the identity script: every sample is the source
itself, every replicate equals the point estimate `(eF, eG) = _metric(self)`, and `roc_with_ci`
returns exactly what `rocWithCI` returns with the identity sampler's interval `identityBoot` — the
bands of `C16_identity_closed_form` — leaving the rest of the script unread and the run `ok`. -/
theorem C16_script_identity (u : Ulp) (s : Scores) (p : BootParams) (fnr fpr thr : Option (List ℚ))
    (nb : Option ℕ) (xa : String) (powPos powNeg : ℚ) (st : RngState) (ts : List ℚ) (sp : Bool)
    (rest : List (List ℕ))
    (hsup : findSupportThresholdsCI u s fnr fpr thr nb rocCIExtraPoints xa = .ok ts)
    (hp : s.pos.length ≠ 0) (hn : s.neg.length ≠ 0) (hinv : Inv s)
    (hm : (samplingMethod s p.cfg = .replacement ∧ sp = false) ∨
      (samplingMethod s p.cfg = .singlePass ∧ sp = true))
    (hsm : p.cfg.smoothing = false) (hnb : p.nbSamples ≠ 0) (hst : st.ok = true)
    (hscript : st.responses =
      (List.replicate p.nbSamples (identityScript s p.cfg.byLabel sp)).flatten ++ rest) :
    ∃ (eF eG : List ℚ) (st1 : RngState),
      jointMetric u (scriptTargetsF s p ts) (scriptTargetsG s p ts) s = .ok (eF.map some, eG.map some) ∧
      rocWithCIScript u s p fnr fpr thr nb xa powPos powNeg st =
        (rocWithCI u s fnr fpr thr nb xa powPos powNeg (identityBoot (eF.map some) (eG.map some)),
          st1) ∧
      st1.ok = true ∧ st1.responses = rest := by
  obtain ⟨eF, eG, st1, hest, hrunEq, d2, d3⟩ := c16s_bootRun_identity u s p (scriptTargetsF s p ts)
    (scriptTargetsG s p ts) st sp rest hp hn hinv hm hsm hnb hst hscript
  refine ⟨eF, eG, st1, hest, ?_, d2, d3⟩
  rw [(C16_script_refines u s p fnr fpr thr nb xa powPos powNeg st ts hsup hp hn).1 _ _ hrunEq]
  congr 1
  unfold rocWithCI
  simp only [hsup]
  apply c16s_rocCIFrom_congr
  rw [c16s_scriptBoot_eq u s p ts st hp hn _ (by rw [hrunEq])]
  rfl

/-! ### `pointwise_band_ci` -/

theorem c16s_pointwise_eq (u : Ulp) (s : Scores) (p : BootParams)
    (fnr fpr thr : Option (List ℚ)) (nb : Option ℕ) (powPos powNeg : ℚ) (st : RngState) (ts : List ℚ)
    (hsup : findSupportThresholds u s fnr fpr thr nb "fnr" = .ok ts)
    (hp : s.pos.length ≠ 0) (hn : s.neg.length ≠ 0) :
    pointwiseBandCIScript u s p fnr fpr thr nb powPos powNeg st =
      match scriptBootRun u s p (scriptTargetsF s p ts) (scriptTargetsG s p ts) st with
      | (.error e, st1) => (.error e, st1)
      | (.ok J, st1) => (pointwiseBandCI u s fnr fpr thr nb powPos powNeg (fun _ _ => J), st1) := by
  obtain ⟨tf, tg⟩ := c16s_targets_defined s p hp hn ts
  simp only [pointwiseBandCIScript, pointwiseBandCI, pointwiseScriptFrom, hsup, hp, hn, or_self,
    if_false, tf, tg, applyRuleOfThreeO_ok _ _ _ hp, applyRuleOfThreeO_ok _ _ _ hn]
  rcases scriptBootRun u s p (scriptTargetsF s p ts) (scriptTargetsG s p ts) st with ⟨r, st1⟩
  cases r <;> rfl

/-- **C16 / C14 (refinement, `pointwise_band_ci`).** The script model is `pointwiseBandCI` with
`boot` := `scriptBoot`; errors of `bootstrap_ci` propagate. -/
theorem C16_script_pointwise_refines (u : Ulp) (s : Scores) (p : BootParams)
    (fnr fpr thr : Option (List ℚ)) (nb : Option ℕ) (powPos powNeg : ℚ) (st : RngState) (ts : List ℚ)
    (hsup : findSupportThresholds u s fnr fpr thr nb "fnr" = .ok ts)
    (hp : s.pos.length ≠ 0) (hn : s.neg.length ≠ 0) :
    (∀ J st1, scriptBootRun u s p (scriptTargetsF s p ts) (scriptTargetsG s p ts) st = (.ok J, st1) →
      pointwiseBandCIScript u s p fnr fpr thr nb powPos powNeg st =
        (pointwiseBandCI u s fnr fpr thr nb powPos powNeg (scriptBoot u s p st), st1)) ∧
    (∀ e st1, scriptBootRun u s p (scriptTargetsF s p ts) (scriptTargetsG s p ts) st = (.error e, st1) →
      pointwiseBandCIScript u s p fnr fpr thr nb powPos powNeg st = (.error e, st1)) := by
  rw [c16s_pointwise_eq u s p fnr fpr thr nb powPos powNeg st ts hsup hp hn]
  refine ⟨fun J st1 hrun => ?_, fun e st1 hrun => by rw [hrun]⟩
  rw [hrun]
  have hb := c16s_scriptBoot_eq u s p ts st hp hn J (by rw [hrun])
  simp only [pointwiseBandCI, hsup, hb]

/-- **C16 (`pointwise_band_ci` on every `ok` run).** Same hypotheses as `C16_script_wellformed`
(on the plain support): the call returns, the RNG is left in the state after exactly `nb_samples`
draws, both bands have one row per threshold, are NaN-free and inside `[0,1]` (all methods), and are
ordered for the quantile method with `0 ≤ alpha ≤ 1`. -/
theorem C16_script_pointwise_wellformed (u : Ulp) (s : Scores) (p : BootParams)
    (fnr fpr thr : Option (List ℚ)) (nb : Option ℕ) (powPos powNeg : ℚ) (st : RngState) (ts : List ℚ)
    (hsup : findSupportThresholds u s fnr fpr thr nb "fnr" = .ok ts)
    (hp : s.pos.length ≠ 0) (hn : s.neg.length ≠ 0)
    (hrun : c11p_Runnable s p.cfg) (_hsm : p.cfg.smoothing = false) (hnb : p.nbSamples ≠ 0)
    (hp0 : 0 ≤ powPos) (hp1 : powPos ≤ 1) (hn0 : 0 ≤ powNeg) (hn1 : powNeg ≤ 1)
    (hok : (pointwiseBandCIScript u s p fnr fpr thr nb powPos powNeg st).2.ok = true) :
    ∃ c, pointwiseBandCIScript u s p fnr fpr thr nb powPos powNeg st =
        (.ok c, sampleStates s p.cfg p.nbSamples st) ∧
      ScriptCurveOK ts c (p.method = .quantile ∧ 0 ≤ p.alpha ∧ p.alpha ≤ 1) := by
  have heq := c16s_pointwise_eq u s p fnr fpr thr nb powPos powNeg st ts hsup hp hn
  have hstate : (pointwiseBandCIScript u s p fnr fpr thr nb powPos powNeg st).2 =
      (scriptBootRun u s p (scriptTargetsF s p ts) (scriptTargetsG s p ts) st).2 := by
    rw [heq]
    rcases scriptBootRun u s p (scriptTargetsF s p ts) (scriptTargetsG s p ts) st with ⟨r, st1⟩
    cases r <;> rfl
  rw [hstate] at hok
  obtain ⟨est, reps, _, _, hrunEq, l1, l2, facts⟩ :=
    c16s_run_facts u s p _ _ st hp hn hrun hnb hok
  obtain ⟨bf, bg, hJ, lf, lg, gf, gg⟩ := c16s_jointBootCI_facts p.nrm p.pow15 p.method p.alpha
    est reps facts (p.method = .quantile ∧ 0 ≤ p.alpha ∧ p.alpha ≤ 1)
    (by
      rintro ⟨hm, ha0, ha1⟩ r hr
      obtain ⟨col, th, _, _, rfl⟩ := c16s_bootCIOf_rows p.nrm p.pow15 p.method p.alpha est reps facts r hr
      rw [hm]
      exact C13_ordered_quantile p.nrm p.pow15 col th p.alpha ha0 ha1)
  obtain ⟨c, hc⟩ := pointwise_total u s hp hn fnr fpr thr nb powPos powNeg
    (fun _ _ => jointBootCI p.nrm p.pow15 p.method p.alpha est reps)
  obtain ⟨hts, _, _, e1, e2, o1, o2⟩ := C16_pointwise_band u s fnr fpr thr nb powPos powNeg _ c hc
    bf bg hJ
  rw [hsup] at hts
  injection hts with hts
  have lf' : bf.length = ts.length := by rw [lf, l1]; simp [scriptTargetsG]
  have lg' : bg.length = ts.length := by rw [lg, l2]; simp [scriptTargetsF]
  obtain ⟨nF, uF, _⟩ := c16_lift_good _ _
    (ruleOfThreeRows_good hp0 hp1 s.pos.length (c.thresholds.map s.fnrQ) _ gf)
  obtain ⟨nG, uG, _⟩ := c16_lift_good _ _
    (ruleOfThreeRows_good hn0 hn1 s.neg.length (c.thresholds.map s.fprQ) _ gg)
  refine ⟨c, ?_, hts.symm, ⟨?_, ?_⟩, ⟨?_, ?_⟩, ⟨?_, ?_⟩, fun ho => ⟨?_, ?_⟩⟩
  · rw [heq, hrunEq]
    simp only [hc]
  · rw [e1]
    simp only [C16.shapeOK, List.length_map, length_ruleOfThreeRows, ← hts, lf', Nat.min_self,
      beq_self_eq_true]
  · rw [e2]
    simp only [C16.shapeOK, List.length_map, length_ruleOfThreeRows, ← hts, lg', Nat.min_self,
      beq_self_eq_true]
  · rw [e1]; exact nF
  · rw [e2]; exact nG
  · rw [e1]; exact uF
  · rw [e2]; exact uG
  · exact o1 hp0 hp1 (fun r hr => (gf r hr).2 ho)
  · exact o2 hn0 hn1 (fun r hr => (gg r hr).2 ho)

/-! ### the hypotheses cannot be dropped / are satisfiable -/

/-- **`nb_samples ≥ 1` is needed.** Without a single replicate every pointwise interval of the
quantile method is `(NaN, NaN)` (`np.nanquantile` of an empty column), whatever the estimate. -/
theorem c16s_no_samples_nan (nrm : Normal) (p15 : ℚ → ℚ) (al : ℚ) (est : JointVal) :
    jointBootCI nrm p15 .quantile al est [] =
      (est.1.map fun _ => (none, none), est.2.map fun _ => (none, none)) := by
  have hq : ∀ q : ℚ, quantileLinear [] q = none := by
    intro q
    simp [quantileLinear, sortQ]
  have hall : bootstrapCIOf nrm p15 .quantile (fun j => ([] : List JointVal).getD j est) jointFlat est
      ([] : List JointVal).length al = (jointFlat est).map fun _ => (none, none) := by
    unfold bootstrapCIOf
    apply List.ext_getElem
    · simp
    · intro k h1 h2
      simp only [List.getElem_map, List.getElem_range, bootstrapMetric, List.length_nil,
        List.range_zero, List.map_nil, column]
      cases (jointFlat est).getD k none <;> simp only [ciComponent, bootstrapCI, hq]
  simp only [jointBootCI, hall, jointFlat, List.map_append]
  refine Prod.ext ?_ ?_
  · exact List.take_left' (by simp)
  · exact List.drop_left' (by simp)

/-- parameters for the examples: 3 samples, quantile method, alpha = 1/20, exact arithmetic -/
def c16sParams (m : SamplingMethod) (byLabel : Bool) : BootParams :=
  ⟨⟨m, byLabel, false, none, fun r n => r * n⟩, 3, .quantile, 1 / 20, Normal.toy, fun x => x,
    fun x => x⟩

theorem c16Example_inv : Inv c16Example :=
  make_sorted _ _ _ _ _ _ (fun h => absurd h (by simp))

theorem c16sParams_method (b : Bool) :
    samplingMethod c16Example (c16sParams .replacement b).cfg = .replacement := by
  simp [samplingMethod, c16sParams]

theorem c16s_example_run (b : Bool) (fT gT : List ℚ) :
    ∃ (eF eG : List ℚ) (st1 : RngState),
      scriptBootRun Ulp.half c16Example (c16sParams .replacement b) fT gT
        (RngState.init (List.replicate 3 (identityScript c16Example b false)).flatten) =
        (.ok (identityBoot (eF.map some) (eG.map some) [] []), st1) ∧ st1.ok = true := by
  obtain ⟨eF, eG, st1, _, h, hok, _⟩ := c16s_bootRun_identity Ulp.half c16Example
    (c16sParams .replacement b) fT gT
    (RngState.init (List.replicate 3 (identityScript c16Example b false)).flatten) false []
    c16Example_pos c16Example_neg c16Example_inv
    (Or.inl ⟨c16sParams_method b, rfl⟩) rfl (Nat.succ_ne_zero 2) rfl
    (List.append_nil _).symm
  exact ⟨eF, eG, st1, h, hok⟩

/-- **the hypotheses of `C16_script_wellformed` (and of its corollaries, `C16_script_state`,
`C16_script_requests`, `C16_script_identity`) are jointly satisfiable**: the example object of
SA/Theorems/C16.lean (ties, `score_class = neg`), replacement sampling (stratified or not; the same
holds for single-pass), three samples, the identity script: the support exists, the configuration
is runnable, and the run is `ok`. -/
theorem c16s_example_ok (b : Bool) :
    ∃ ts script, findSupportThresholdsCI Ulp.half c16Example none none none none rocCIExtraPoints
        "tar" = .ok ts ∧
      c11p_Runnable c16Example (c16sParams .replacement b).cfg ∧
      (c16sParams .replacement b).cfg.smoothing = false ∧ (c16sParams .replacement b).nbSamples ≠ 0 ∧
      (rocWithCIScript Ulp.half c16Example (c16sParams .replacement b) none none none none "tar"
        (1 / 2) (1 / 3) (RngState.init script)).2.ok = true ∧
      ∃ c, (rocWithCIScript Ulp.half c16Example (c16sParams .replacement b) none none none none "tar"
        (1 / 2) (1 / 3) (RngState.init script)).1 = .ok c := by
  have hsup := C16_total Ulp.half c16Example c16Example_pos c16Example_neg none none none none
    rocCIExtraPoints "tar" c16Example_support
  rw [show XAxis.ofString "tar" = some .tar from rfl] at hsup
  obtain ⟨ts, hts⟩ := hsup
  refine ⟨ts, (List.replicate 3 (identityScript c16Example b false)).flatten, hts,
    Or.inl (c16sParams_method b), rfl, Nat.succ_ne_zero 2, ?_⟩
  obtain ⟨eF, eG, st1, hrun, hok1⟩ := c16s_example_run b _ _
  rw [(C16_script_refines Ulp.half c16Example _ none none none none "tar" (1 / 2) (1 / 3) _ ts hts
    c16Example_pos c16Example_neg).1 _ _ hrun]
  exact ⟨hok1, C16_roc_total Ulp.half c16Example c16Example_pos c16Example_neg none none none none
    "tar" .tar rfl c16Example_support (1 / 2) (1 / 3) _⟩

/-- pow bounds, alpha bounds and lawful oracles of the examples -/
example : (0 : ℚ) ≤ 1 / 2 ∧ (1 / 2 : ℚ) ≤ 1 ∧ (0 : ℚ) ≤ 1 / 3 ∧ (1 / 3 : ℚ) ≤ 1 ∧
    (0 : ℚ) < (c16sParams .replacement true).alpha ∧ (c16sParams .replacement true).alpha < 1 ∧
    (c16sParams .replacement true).nrm.Lawful := by
  refine ⟨by norm_num, by norm_num, by norm_num, by norm_num, ?_, ?_, Normal.toy_lawful⟩ <;>
    norm_num [c16sParams]

/-- the hypotheses of `C16_script_samples`: three draws on the identity script are `ok` -/
example : c11p_Runnable c16Example (c16sParams .replacement true).cfg ∧
    (drawSamples c16Example (c16sParams .replacement true).cfg 3
      (RngState.init (List.replicate 3 (identityScript c16Example true false)).flatten)).2.ok = true :=
  ⟨Or.inl (c16sParams_method true),
    (c16s_drawMapped_identity c16Example (c16sParams .replacement true).cfg (fun smp => .ok smp)
      c16Example rfl false [] c16Example_inv (Or.inl ⟨c16sParams_method true, rfl⟩) rfl 3 _ rfl
      (List.append_nil _).symm).2.1⟩

/-- the hypotheses of `C16_script_pointwise_wellformed` / `_refines` are jointly satisfiable: the
plain support of the example exists and the run on the identity script is `ok` -/
example : ∃ ts script, findSupportThresholds Ulp.half c16Example none none none none "fnr" = .ok ts ∧
    c11p_Runnable c16Example (c16sParams .replacement true).cfg ∧
    (pointwiseBandCIScript Ulp.half c16Example (c16sParams .replacement true) none none none none
      (1 / 2) (1 / 3) (RngState.init script)).2.ok = true := by
  have hsup := C15_total Ulp.half c16Example c16Example_pos c16Example_neg none none none none "fnr"
  rw [show XAxis.ofString "fnr" = some .fnr from rfl] at hsup
  obtain ⟨ts, hts⟩ := hsup
  obtain ⟨eF, eG, st1, hrun, hok1⟩ := c16s_example_run true
    (scriptTargetsF c16Example (c16sParams .replacement true) ts)
    (scriptTargetsG c16Example (c16sParams .replacement true) ts)
  refine ⟨ts, (List.replicate 3 (identityScript c16Example true false)).flatten, hts,
    Or.inl (c16sParams_method true), ?_⟩
  rw [c16s_pointwise_eq Ulp.half c16Example _ none none none none (1 / 2) (1 / 3) _ ts hts
    c16Example_pos c16Example_neg, hrun]
  exact hok1

/-- the hypotheses of `c16s_sample_wellformed` / `c16s_sample_consumed` / `c16s_sample_ok_mono`: a
sample is returned and the state is `ok` (one draw on the identity script, started in the middle
of a longer script) -/
example : ∃ st out, st.trace ≠ [] ∧
    (bootstrapSample c16Example (c16sParams .replacement true).cfg st).1 = .ok out ∧
    (bootstrapSample c16Example (c16sParams .replacement true).cfg st).2.ok = true := by
  refine ⟨⟨identityScript c16Example true false, [(.normal 0, [])], true⟩, c16Example, by simp, ?_⟩
  obtain ⟨h1, h2, _⟩ := c16s_sample_identity c16Example (c16sParams .replacement true).cfg false
    ⟨identityScript c16Example true false, [(.normal 0, [])], true⟩ [] c16Example_inv
    (Or.inl ⟨c16sParams_method true, rfl⟩) rfl rfl (List.append_nil _).symm
  exact ⟨h1, h2⟩

/-- the hypotheses of `c16s_run_facts` (hence `RepsFacts`, the hypothesis of
`c16s_jointBootCI_facts` / `c16s_bootCIOf_rows`) are satisfiable: the identity run is `ok` -/
example : ∃ (fT gT : List ℚ) (st : RngState),
    (scriptBootRun Ulp.half c16Example (c16sParams .replacement true) fT gT st).2.ok = true ∧
    ∃ est reps, RepsFacts est reps := by
  obtain ⟨eF, eG, st1, hrun, hok1⟩ := c16s_example_run true [1 / 4] [1 / 2]
  have hok : (scriptBootRun Ulp.half c16Example (c16sParams .replacement true) [1 / 4] [1 / 2]
      (RngState.init (List.replicate 3 (identityScript c16Example true false)).flatten)).2.ok = true := by
    rw [hrun]; exact hok1
  obtain ⟨est, reps, _, _, _, _, _, facts⟩ := c16s_run_facts Ulp.half c16Example
    (c16sParams .replacement true) [1 / 4] [1 / 2] _ c16Example_pos c16Example_neg
    (Or.inl (c16sParams_method true)) (Nat.succ_ne_zero 2) hok
  exact ⟨_, _, _, hok, est, reps, facts⟩

end SA

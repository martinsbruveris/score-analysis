/-
C17 — general threshold search returns true solutions of the interpolated metric.

Also the spec clauses at `eps = 0`, `threshold_at_metric`, and the touch configurations as examples.
`x[j]` is written `x.getD j 0` (every index below is in range).
-/
import SA.Spec.C17
import SA.Proofs.InvertPL
import SA.Proofs.ListGetD
import SA.Theorems.C01

namespace SA
open Spec.C17

/-- The documented precondition of `invert_pl_function`: `x` non-decreasing, `y` of the same
length, duplicates in `x` carry equal `y`. -/
structure PLInput (x y : List ℚ) : Prop where
  sorted : x.Pairwise (· ≤ ·)
  len : x.length = y.length
  dup : ∀ j, j + 1 < x.length → x.getD j 0 = x.getD (j + 1) 0 → y.getD j 0 = y.getD (j + 1) 0

/-- the piecewise-linear interpolant on segment `j` -/
def interpSeg (x y : List ℚ) (j : ℕ) (z : ℚ) : ℚ :=
  y.getD j 0 + (z - x.getD j 0) * (y.getD (j + 1) 0 - y.getD j 0) / (x.getD (j + 1) 0 - x.getD j 0)

/-- `z` is a genuine solution of `f(z) = t` for the interpolant `f` of the samples: either it lies
on a non-degenerate segment whose interpolant takes the value `t` there, or it is a sample point
whose value is `t`. -/
def IsSolution (x y : List ℚ) (t z : ℚ) : Prop :=
  (∃ j, j + 1 < x.length ∧ x.getD j 0 < x.getD (j + 1) 0 ∧ x.getD j 0 ≤ z ∧ z ≤ x.getD (j + 1) 0 ∧
      interpSeg x y j z = t) ∨
  (∃ i, i < x.length ∧ z = x.getD i 0 ∧ y.getD i 0 = t)

/-- a crossing segment is non-degenerate: `y[j] ≠ y[j+1]`, hence `x[j] < x[j+1]` -/
theorem crossing_strict {x y : List ℚ} (h : PLInput x y) (t : ℚ) (j : ℕ) (hj : j ∈ crossIdx y t) :
    x.getD j 0 < x.getD (j + 1) 0 := by
  obtain ⟨hj1, hc⟩ := (mem_crossIdx y t j).mp hj
  have hjx : j + 1 < x.length := by rw [h.len]; exact hj1
  exact (getD_mono x h.sorted j (j + 1) (by omega) hjx).lt_of_ne fun heq =>
    (crossing_la _ _ _ hc).1 (h.dup j hjx heq)

theorem segPoint_spec {x y : List ℚ} (h : PLInput x y) (t : ℚ) (j : ℕ) (hj : j ∈ crossIdx y t) :
    x.getD j 0 ≤ segPoint x y t j ∧ segPoint x y t j < x.getD (j + 1) 0 ∧
    (segPoint x y t j - x.getD j 0) * (y.getD (j + 1) 0 - y.getD j 0)
      = (t - y.getD j 0) * (x.getD (j + 1) 0 - x.getD j 0) ∧
    interpSeg x y j (segPoint x y t j) = t := by
  have hx := crossing_strict h t j hj
  obtain ⟨s1, s2, s3⟩ := seg_spec _ _ _ _ t hx ((mem_crossIdx y t j).mp hj).2
  refine ⟨s1, s2, s3, ?_⟩
  rw [interpSeg, show (segPoint x y t j - x.getD j 0) * _ = _ from s3,
    mul_div_cancel_right₀ _ (sub_pos.mpr hx).ne', add_sub_cancel]

theorem invertPL_crossing_eq {x y : List ℚ} {t : ℚ} (hc : crossIdx y t ≠ []) :
    invertPL x y t = (crossIdx y t).map (segPoint x y t) := by
  unfold invertPL
  cases hh : crossIdx y t with
  | nil => exact absurd hh hc
  | cons _ _ => rfl

theorem invertPL_fallback_eq {x y : List ℚ} {t : ℚ} (hc : crossIdx y t = []) :
    invertPL x y t = [x.getD (argminAbs y t) 0] := by
  unfold invertPL; simp [hc]

/-- **C17 (solves).** If some segment crosses the target, every returned point `z` comes from a
crossing segment `j`; that segment has `x[j] < x[j+1]`, `z` lies in `[x[j], x[j+1])`, and the
interpolant of segment `j` at `z` equals the target
(`y[j] + (z - x[j]) * (y[j+1] - y[j]) / (x[j+1] - x[j]) = t`). -/
theorem C17_solves {x y : List ℚ} (h : PLInput x y) (t z : ℚ) (hc : crossIdx y t ≠ [])
    (hz : z ∈ invertPL x y t) :
    ∃ j, j + 1 < x.length ∧ isCrossing (y.getD j 0) (y.getD (j + 1) 0) t = true ∧
      z = segPoint x y t j ∧ x.getD j 0 < x.getD (j + 1) 0 ∧ x.getD j 0 ≤ z ∧ z < x.getD (j + 1) 0 ∧
      (z - x.getD j 0) * (y.getD (j + 1) 0 - y.getD j 0)
        = (t - y.getD j 0) * (x.getD (j + 1) 0 - x.getD j 0) ∧
      interpSeg x y j z = t := by
  rw [invertPL_crossing_eq hc, List.mem_map] at hz
  obtain ⟨j, hj, rfl⟩ := hz
  obtain ⟨hj1, hcr⟩ := (mem_crossIdx y t j).mp hj
  obtain ⟨s1, s2, s3, s4⟩ := segPoint_spec h t j hj
  exact ⟨j, by rw [h.len]; exact hj1, hcr, rfl, crossing_strict h t j hj, s1, s2, s3, s4⟩

/-- **C17 (fallback).** If no segment crosses the target, exactly one point is returned; it is a
sample point `x[i]` whose value is closest to the target, and `i` is the first such index
(`np.argmin`). -/
theorem C17_fallback (x y : List ℚ) (t : ℚ) (hy : y ≠ []) (hc : crossIdx y t = []) :
    ∃ i, i < y.length ∧ invertPL x y t = [x.getD i 0] ∧
      (∀ k, k < y.length → absPL (y.getD i 0 - t) ≤ absPL (y.getD k 0 - t)) ∧
      (∀ k, k < i → absPL (y.getD i 0 - t) < absPL (y.getD k 0 - t)) := by
  obtain ⟨h1, h2, h3⟩ := argminAbs_spec y t hy
  exact ⟨argminAbs y t, h1, invertPL_fallback_eq hc, h2, h3⟩

/-- **C17 (in range).** Every returned point lies in `[x[0], x[n-1]]`. -/
theorem C17_in_range {x y : List ℚ} (h : PLInput x y) (t z : ℚ) (hy : y ≠ [])
    (hz : z ∈ invertPL x y t) : x.getD 0 0 ≤ z ∧ z ≤ x.getD (x.length - 1) 0 := by
  have hn : 0 < x.length := by rw [h.len]; exact List.length_pos_iff.mpr hy
  by_cases hc : crossIdx y t = []
  · obtain ⟨i, hi, he, _⟩ := C17_fallback x y t hy hc
    rw [he, List.mem_singleton] at hz
    subst hz
    rw [← h.len] at hi
    exact ⟨getD_mono x h.sorted 0 i (by omega) hi, getD_mono x h.sorted i _ (by omega) (by omega)⟩
  · obtain ⟨j, hj, _, _, _, h1, h2, _⟩ := C17_solves h t z hc hz
    have a := getD_mono x h.sorted 0 j (by omega) (by omega)
    have b := getD_mono x h.sorted (j + 1) (x.length - 1) (by omega) (by omega)
    exact ⟨le_trans a h1, le_trans h2.le b⟩

/-- **C17 (strictly increasing).** Points from segments `j < k` satisfy
`z_j < x[j+1] ≤ x[k] ≤ z_k`. -/
theorem C17_strictly_increasing {x y : List ℚ} (h : PLInput x y) (t : ℚ) :
    (invertPL x y t).Pairwise (· < ·) := by
  by_cases hc : crossIdx y t = []
  · rw [invertPL_fallback_eq hc]; exact List.pairwise_singleton _ _
  · rw [invertPL_crossing_eq hc, List.pairwise_map]
    refine List.Pairwise.imp_of_mem ?_ (crossIdx_pairwise y t)
    intro j k hj hk hjk
    obtain ⟨_, a2, _⟩ := segPoint_spec h t j hj
    obtain ⟨b1, _⟩ := segPoint_spec h t k hk
    obtain ⟨hk1, _⟩ := (mem_crossIdx y t k).mp hk
    have := getD_mono x h.sorted (j + 1) k (by omega) (by rw [h.len]; omega)
    linarith only [a2, this, b1]

theorem C17_nonempty (x y : List ℚ) (t : ℚ) : invertPL x y t ≠ [] := by
  by_cases hc : crossIdx y t = []
  · rw [invertPL_fallback_eq hc]; simp
  · rw [invertPL_crossing_eq hc]
    exact fun e => hc (List.map_eq_nil_iff.mp e)

/-- **C17 (cross or touch ⇒ genuine solutions).** If some segment crosses the target or some
sample equals it, every returned point is a genuine solution: a crossing point solves the
interpolation equation on its segment, and without a crossing the fallback sample has `y[i] = t`.
(Touch at the last sample, plateau at the target, "V" touching from above: see the examples.) -/
theorem C17_touch {x y : List ℚ} (h : PLInput x y) (t : ℚ)
    (hct : crossIdx y t ≠ [] ∨ ∃ k, k < y.length ∧ y.getD k 0 = t) :
    ∀ z, z ∈ invertPL x y t → IsSolution x y t z := by
  intro z hz
  by_cases hc : crossIdx y t = []
  · rcases hct with hct | ⟨k, hk, hkt⟩
    · exact absurd hc hct
    · have hy : y ≠ [] := List.ne_nil_of_length_pos (Nat.zero_lt_of_lt hk)
      obtain ⟨i, hi, he, hmin, _⟩ := C17_fallback x y t hy hc
      rw [he, List.mem_singleton] at hz
      have h0 := hmin k hk
      rw [hkt, sub_self, absPL_zero] at h0
      exact Or.inr ⟨i, by rw [h.len]; exact hi, hz, sub_eq_zero.mp (absPL_le_zero.mp h0)⟩
  · obtain ⟨j, hj, _, _, hx, h1, h2, _, h4⟩ := C17_solves h t z hc hz
    exact Or.inl ⟨j, hj, hx, h1, h2.le, h4⟩

/-- **C17 (length).** One list per target, each the single-target inversion; the only error is the
empty sample vector (`np.argmin` raises `ValueError`). -/
theorem C17_length (x y ts : List ℚ) :
    (y ≠ [] → invertPLAll x y ts = .ok (ts.map (invertPL x y)) ∧
      (ts.map (invertPL x y)).length = ts.length) ∧
    (y = [] → invertPLAll x y ts = .error .valueError) := by
  unfold invertPLAll
  constructor
  · intro hy
    simp [List.isEmpty_eq_false_iff.mpr hy]
  · intro hy; subst hy; rfl

/-! ### the executable spec predicates hold on the model output with `eps = 0` -/

theorem increasingOK_of_pairwise (l : List ℚ) (h : l.Pairwise (· < ·)) : increasingOK l = true := by
  induction l with
  | nil => rfl
  | cons a r ih =>
    cases r with
    | nil => rfl
    | cons b r' =>
      rw [List.pairwise_cons] at h
      simp only [increasingOK, Bool.and_eq_true, decide_eq_true_eq]
      exact ⟨h.1 b (by simp), ih h.2⟩

theorem C17_spec_increasing {x y : List ℚ} (h : PLInput x y) (t : ℚ) :
    increasingOK (invertPL x y t) = true :=
  increasingOK_of_pairwise _ (C17_strictly_increasing h t)

theorem C17_spec_in_range {x y : List ℚ} (h : PLInput x y) (t : ℚ) (hy : y ≠ []) :
    inRangeOK x (invertPL x y t) 0 = true := by
  unfold inRangeOK
  rw [List.all_eq_true]
  intro z hz
  obtain ⟨a, b⟩ := C17_in_range h t z hy hz
  simp only [Bool.and_eq_true, decide_eq_true_eq, sub_zero, add_zero]
  exact ⟨a, b⟩

theorem C17_spec_fallback (x y : List ℚ) (t : ℚ) (hy : y ≠ []) (hc : crossIdx y t = []) :
    fallbackOK x y t (invertPL x y t) 0 = true := by
  obtain ⟨i, hi, he, hmin, _⟩ := C17_fallback x y t hy hc
  rw [he]
  simp only [fallbackOK, List.any_eq_true, List.mem_range, Bool.and_eq_true, decide_eq_true_eq,
    List.all_eq_true, add_zero]
  exact ⟨i, hi, rfl, fun k hk => hmin k hk⟩

theorem solvesAt_zero (x y : List ℚ) (t z : ℚ) (j : ℕ) : solvesAt x y t z 0 j = true ↔
    x.getD j 0 ≤ z ∧ z ≤ x.getD (j + 1) 0 ∧
      (if x.getD j 0 = x.getD (j + 1) 0 then y.getD j 0 = t
       else (z - x.getD j 0) * (y.getD (j + 1) 0 - y.getD j 0)
         = (t - y.getD j 0) * (x.getD (j + 1) 0 - x.getD j 0)) := by
  simp only [solvesAt, Bool.and_eq_true, decide_eq_true_eq, sub_zero, add_zero, zero_mul, and_assoc]
  refine and_congr_right fun _ => and_congr_right fun _ => ?_
  split <;> simp only [decide_eq_true_eq, absPL_le_zero, sub_eq_zero]

/-- a genuine solution passes `solvesAt`/`solvesOK` exactly -/
theorem solvesOK_of_solution {x y : List ℚ} (h : PLInput x y) (t : ℚ) (zs : List ℚ)
    (hz : ∀ z, z ∈ zs → IsSolution x y t z) : solvesOK x y t zs 0 = true := by
  unfold solvesOK
  rw [List.all_eq_true]
  intro z hzm
  -- name a segment on which `z` passes the exact test (or the single-sample clause)
  rw [Bool.or_eq_true, List.any_eq_true]
  have seg : ∀ j, j + 1 < x.length → solvesAt x y t z 0 j = true →
      ∃ j, j ∈ List.range (x.length - 1) ∧ solvesAt x y t z 0 j = true :=
    fun j hj hs => ⟨j, List.mem_range.mpr (by omega), hs⟩
  rcases hz z hzm with ⟨j, hj, hx, h1, h2, h3⟩ | ⟨i, hi, rfl, hyi⟩
  · refine Or.inl (seg j hj ((solvesAt_zero x y t z j).mpr ⟨h1, h2, ?_⟩))
    rw [if_neg hx.ne]
    unfold interpSeg at h3
    rwa [← eq_sub_iff_add_eq', div_eq_iff (sub_pos.mpr hx).ne'] at h3
  · by_cases hlast : i + 1 < x.length
    · -- a sample that is the left end of segment `i`
      refine Or.inl (seg i hlast ((solvesAt_zero x y t _ i).mpr
        ⟨le_refl _, getD_mono x h.sorted i (i + 1) (by omega) hlast, ?_⟩))
      split
      · exact hyi
      · rw [hyi, sub_self, sub_self, zero_mul, zero_mul]
    · rcases i with _ | m
      · -- the only sample
        have hn1 : x.length = 1 := by omega
        simp only [hn1, hyi, sub_self, absPL_zero, le_refl, decide_true, beq_self_eq_true,
          Bool.and_self, or_true]
      · -- the last sample is the right end of segment `m`
        refine Or.inl (seg m hi ((solvesAt_zero x y t _ m).mpr
          ⟨getD_mono x h.sorted m (m + 1) (by omega) hi, le_refl _, ?_⟩))
        split
        · rename_i he
          rw [h.dup m hi he, hyi]
        · rw [hyi, mul_comm]

theorem C17_spec_solves {x y : List ℚ} (h : PLInput x y) (t : ℚ)
    (hct : crossIdx y t ≠ [] ∨ ∃ k, k < y.length ∧ y.getD k 0 = t) :
    solvesOK x y t (invertPL x y t) 0 = true :=
  solvesOK_of_solution h t _ (C17_touch h t hct)

/-- the code's crossing test is exactly "strict straddle, or touch at the left end only" -/
theorem segSolves_eq_isCrossing (a b t : ℚ) : segSolves a b t = isCrossing a b t := by
  rw [Bool.eq_iff_iff]
  simp only [segSolves, straddles, isCrossing, Bool.or_eq_true, Bool.and_eq_true, decide_eq_true_eq,
    Bool.not_eq_true', decide_eq_false_iff_not, gt_iff_lt, ge_iff_le]
  constructor
  · rintro ((⟨h1, h2⟩ | ⟨h1, h2⟩) | ⟨h1, h2⟩)
    · exact Or.inl ⟨h1.le, h2⟩
    · exact Or.inr ⟨h2.le, h1⟩
    · rcases lt_or_gt_of_ne h2 with h | h
      · exact Or.inr ⟨h1.ge, h⟩
      · exact Or.inl ⟨h1.le, h⟩
  · rintro (⟨h1, h2⟩ | ⟨h1, h2⟩)
    · rcases lt_or_eq_of_le h1 with h | h
      · exact Or.inl (Or.inl ⟨h, h2⟩)
      · exact Or.inr ⟨h, ne_of_gt h2⟩
    · rcases lt_or_eq_of_le h1 with h | h
      · exact Or.inl (Or.inr ⟨h2, h⟩)
      · exact Or.inr ⟨h.symm, ne_of_lt h2⟩

theorem isCrossing_of_straddles (a b t : ℚ) (h : straddles a b t = true) :
    isCrossing a b t = true := by
  rw [← segSolves_eq_isCrossing, segSolves, h, Bool.true_or]

theorem straddles_of_isCrossing {a b t : ℚ} (h : isCrossing a b t = true) (ha : a ≠ t) :
    straddles a b t = true := by
  rwa [← segSolves_eq_isCrossing, segSolves, decide_eq_false ha, Bool.false_and, Bool.or_false] at h

/-- "cross or touch" in the property's sense gives a crossing segment or an exact touch -/
theorem crossOrTouch_true {y : List ℚ} {t : ℚ} (h : crossOrTouch y t = true) :
    crossIdx y t ≠ [] ∨ ∃ k, k < y.length ∧ y.getD k 0 = t := by
  unfold crossOrTouch at h
  rw [Bool.or_eq_true, List.any_eq_true, List.any_eq_true] at h
  rcases h with ⟨v, hv, hvt⟩ | ⟨j, hj, hs⟩
  · obtain ⟨k, hk, rfl⟩ := List.getElem_of_mem hv
    exact Or.inr ⟨k, hk, by rw [List.getD_eq_getElem y 0 hk]; exact of_decide_eq_true hvt⟩
  · have : j ∈ crossIdx y t := (mem_crossIdx y t j).mpr
      ⟨by have := List.mem_range.mp hj; omega, isCrossing_of_straddles _ _ _ hs⟩
    exact Or.inl (List.ne_nil_of_mem this)

theorem crossOrTouch_false_pointwise {y : List ℚ} {t : ℚ} (h : crossOrTouch y t = false) :
    (∀ k, k < y.length → y.getD k 0 ≠ t) ∧
      ∀ j, j + 1 < y.length → straddles (y.getD j 0) (y.getD (j + 1) 0) t = false := by
  unfold crossOrTouch at h
  rw [Bool.or_eq_false_iff, List.any_eq_false, List.any_eq_false] at h
  refine ⟨fun k hk e => h.1 (y.getD k 0) ?_ (decide_eq_true e), fun j hj =>
    Bool.eq_false_iff.mpr (h.2 j (List.mem_range.mpr (by omega)))⟩
  rw [List.getD_eq_getElem y 0 hk]
  exact List.getElem_mem _

theorem crossIdx_nil_of_not_crossOrTouch {y : List ℚ} {t : ℚ} (h : crossOrTouch y t = false) :
    crossIdx y t = [] := by
  obtain ⟨ht, hs⟩ := crossOrTouch_false_pointwise h
  rw [List.eq_nil_iff_forall_not_mem]
  intro j hj
  obtain ⟨hj1, hc⟩ := (mem_crossIdx y t j).mp hj
  exact absurd (straddles_of_isCrossing hc (ht j (by omega))) (Bool.eq_false_iff.mp (hs j hj1))

/-- **C17 (otherwise).** If the samples neither cross nor touch the target, all sample values lie
strictly on one side of it; the closest sample of `C17_fallback` is what is returned. -/
theorem C17_no_solution {y : List ℚ} {t : ℚ} (h : crossOrTouch y t = false) :
    (∀ k, k < y.length → y.getD k 0 < t) ∨ (∀ k, k < y.length → t < y.getD k 0) := by
  obtain ⟨ht, hs⟩ := crossOrTouch_false_pointwise h
  -- adjacent samples lie on the same side, hence all on the side of the first
  have same : ∀ k, k < y.length → (y.getD k 0 < t ↔ y.getD 0 0 < t) := by
    intro k
    induction k with
    | zero => exact fun _ => Iff.rfl
    | succ k ih =>
      intro hk
      rw [← ih (by omega)]
      have hst := hs k hk
      simp only [straddles, Bool.or_eq_false_iff, Bool.and_eq_false_iff, decide_eq_false_iff_not,
        not_lt] at hst
      have h1 := ht k (by omega)
      have h2 := ht (k + 1) hk
      constructor
      · intro hb
        exact lt_of_le_of_ne ((hst.2.resolve_left (not_le.mpr hb))) h1
      · intro ha
        exact lt_of_le_of_ne ((hst.1.resolve_left (not_le.mpr ha))) h2
  by_cases hn : y.length = 0
  · exact Or.inl fun k hk => absurd hk (by omega)
  · rcases lt_or_gt_of_ne (ht 0 (by omega)) with h0 | h0
    · exact Or.inl fun k hk => (same k hk).mpr h0
    · exact Or.inr fun k hk => lt_of_le_of_ne
        (not_lt.mp fun hlt => absurd ((same k hk).mp hlt) (not_lt.mpr h0.le)) (ht k hk).symm

/-- **C17 (complete).** Every segment whose end values strictly straddle the target, or whose left
end value equals it while the right one does not, contributes exactly one point, in segment order,
lying in `[x[j], x[j+1])`. -/
theorem C17_spec_complete {x y : List ℚ} (h : PLInput x y) (t : ℚ) :
    completeOK x y t (invertPL x y t) 0 = true := by
  unfold completeOK
  have e : ((List.range (y.length - 1)).filter fun j =>
      segSolves (y.getD j 0) (y.getD (j + 1) 0) t) = crossIdx y t := by
    unfold crossIdx
    apply List.filter_congr
    intro j _
    exact segSolves_eq_isCrossing _ _ _
  simp only [e]
  by_cases hc : crossIdx y t = []
  · simp [hc]
  · rw [invertPL_crossing_eq hc, Bool.or_eq_true]
    right
    rw [Bool.and_eq_true]
    refine ⟨by simp, ?_⟩
    apply List.all_zip_map
    intro j hj
    obtain ⟨a, b, _⟩ := segPoint_spec h t j hj
    simp only [Bool.and_eq_true, decide_eq_true_eq, sub_zero, add_zero]
    exact ⟨a, b.le⟩

/-- **C17 (spec).** The whole property as evaluated by the driver holds on the model output with
`eps = 0`: non-empty, strictly increasing, in range, genuine solutions when the samples cross or
touch the target and the closest sample otherwise. -/
theorem C17_spec {x y : List ℚ} (h : PLInput x y) (t : ℚ) (hy : y ≠ []) :
    resultOK x y t (invertPL x y t) 0 = true := by
  unfold resultOK
  have hne := List.isEmpty_eq_false_iff.mpr (C17_nonempty x y t)
  rw [hne, C17_spec_increasing h t, C17_spec_in_range h t hy, C17_spec_complete h t]
  simp only [Bool.not_false, Bool.and_self, Bool.true_and]
  by_cases hct : crossOrTouch y t = true
  · rw [if_pos hct]; exact C17_spec_solves h t (crossOrTouch_true hct)
  · rw [if_neg hct]
    exact C17_spec_fallback x y t hy (crossIdx_nil_of_not_crossOrTouch (by simpa using hct))

/-! ### `threshold_at_metric` -/

/-- NaN-free metric values: the NaN-aware inversion is the plain one -/
theorem invertPLO_some (x y : List ℚ) (t : ℚ) : invertPLO x (y.map some) t = invertPL x y t := by
  have : allSomePL (y.map some) = some y := by
    induction y with
    | nil => rfl
    | cons v r ih => simp [allSomePL, ih]
  unfold invertPLO; rw [this]

/-- `np.linspace(a, b, k)` for `k ≥ 2` and `a < b`: `k` strictly increasing points from `a` to `b` -/
theorem linspace_spec (a b : ℚ) (k : ℕ) (hab : a < b) :
    (linspace a b (k + 2)).length = k + 2 ∧ (linspace a b (k + 2)).head? = some a ∧
    (linspace a b (k + 2)).getLast? = some b ∧ (linspace a b (k + 2)).Pairwise (· < ·) := by
  have hk : (0 : ℚ) < ((k + 1 : ℕ) : ℚ) := by exact_mod_cast Nat.succ_pos k
  have hstep : 0 < (b - a) / ((k + 1 : ℕ) : ℚ) := div_pos (sub_pos.mpr hab) hk
  rw [linspace]
  refine ⟨?_, ?_, List.getLast?_concat, ?_⟩
  · rw [List.length_append, List.length_map, List.length_range, List.length_singleton]
  · rw [List.range_succ_eq_map]
    simp only [List.map_cons, List.cons_append, List.head?_cons, Nat.cast_zero, zero_mul, zero_add]
  · rw [List.pairwise_append]
    refine ⟨?_, List.pairwise_singleton _ _, ?_⟩
    · rw [List.pairwise_map]
      exact List.pairwise_lt_range.imp fun hij =>
        add_lt_add_left (mul_lt_mul_of_pos_right (Nat.cast_lt.mpr hij) hstep) a
    · intro z hz w hw
      rw [List.mem_singleton.mp hw]
      obtain ⟨i, hi, rfl⟩ := List.mem_map.mp hz
      have h2 := mul_lt_mul_of_pos_right
        (Nat.cast_lt (α := ℚ).mpr (List.mem_range.mp hi)) hstep
      rw [mul_div_cancel₀ _ hk.ne'] at h2
      exact lt_sub_iff_add_lt.mp h2

/-- **C17 (evaluation points).** `points=None`: all scores, sorted, `ValueError` iff fewer than two;
`points=k`: `linspace(min, max, k)`, `ValueError` iff `min ≥ max` (in particular when there is no
score at all); an array: the array itself.  In the first two cases the points are
non-decreasing. -/
theorem C17_points (s : Scores) :
    (s.thresholdAtMetricPoints .none =
      if s.pos.length + s.neg.length < 2 then .error .valueError
      else .ok (sortQ (s.pos ++ s.neg))) ∧
    (∀ k a b, s.minScore = some a → s.maxScore = some b →
      s.thresholdAtMetricPoints (.int k) =
        if a ≥ b then .error .valueError else .ok (linspace a b k)) ∧
    (∀ k, s.minScore = none → s.thresholdAtMetricPoints (.int k) = .error .valueError) ∧
    (∀ p, s.thresholdAtMetricPoints (.arr p) = .ok p) ∧
    (∀ pts, s.thresholdAtMetricPoints .none = .ok pts → pts.Pairwise (· ≤ ·)) ∧
    (∀ k pts, s.thresholdAtMetricPoints (.int (k + 2)) = .ok pts → pts.Pairwise (· ≤ ·)) := by
  refine ⟨?_, ?_, ?_, ?_, ?_, ?_⟩
  · simp only [Scores.thresholdAtMetricPoints, length_sortQ, List.length_append]
  · intro k a b ha hb
    simp only [Scores.thresholdAtMetricPoints, ha, hb]
  · intro k ha
    simp only [Scores.thresholdAtMetricPoints, ha]
  · intro p; rfl
  · intro pts hp
    simp only [Scores.thresholdAtMetricPoints] at hp
    split at hp
    · exact absurd hp (by simp)
    · have : sortQ (s.pos ++ s.neg) = pts := by simpa using hp
      rw [← this]; exact sortQ_pairwise _
  · intro k pts hp
    simp only [Scores.thresholdAtMetricPoints] at hp
    split at hp
    · split at hp
      · exact absurd hp (by simp)
      · rename_i a b _ _ hab
        rw [not_le] at hab
        have : linspace a b (k + 2) = pts := by simpa using hp
        rw [← this]
        exact (linspace_spec a b k hab).2.2.2.imp (fun h => le_of_lt h)
    · exact absurd hp (by simp)

/-- **C17 (metric).** `threshold_at_metric` is the inversion of the metric evaluated at the
selected points: whenever the points are selected without error and the metric is NaN-free there
(values `ys`), the result is `invertPL pts ys` for each target; moreover `(pts, ys)` satisfies the
duplicate rule of `invert_pl_function` automatically (equal points have equal metric values), so
with non-decreasing points every C17 theorem applies. -/
theorem C17_metric (s : Scores) (m : Metric) (pa : PointsArg) (ts pts ys : List ℚ)
    (hp : s.thresholdAtMetricPoints pa = .ok pts) (hys : pts.map (s.metricAt m) = ys.map some) :
    s.thresholdAtMetric m pa ts =
      (if pts = [] then .error .valueError else .ok (ts.map (invertPL pts ys))) ∧
    (pts.Pairwise (· ≤ ·) → PLInput pts ys) := by
  have hlen : pts.length = ys.length := by
    have := congrArg List.length hys
    simpa using this
  constructor
  · unfold Scores.thresholdAtMetric Scores.thresholdOnPoints invertPLAllO
    rw [hp]
    simp only [bind, Except.bind]
    rw [hys]
    by_cases he : pts = []
    · subst he
      have : ys = [] := List.length_eq_zero_iff.mp (by rw [← hlen]; rfl)
      subst this
      rfl
    · have hye : ys ≠ [] := by
        intro e; apply he; apply List.length_eq_zero_iff.mp; rw [hlen, e]; rfl
      have : (ys.map some).isEmpty = false :=
        List.isEmpty_eq_false_iff.mpr fun e => hye (List.map_eq_nil_iff.mp e)
      simp only [this, Bool.false_eq_true, if_false, he]
      congr 1
      apply List.map_congr_left
      intro t _
      exact invertPLO_some pts ys t
  · intro hs
    refine ⟨hs, hlen, ?_⟩
    intro j hj hx
    have e : ∀ i, i < pts.length → s.metricAt m (pts.getD i 0) = some (ys.getD i 0) := by
      intro i hi
      rw [List.getD_eq_getElem pts 0 hi, List.getD_eq_getElem ys 0 (hlen ▸ hi)]
      have := List.getElem_of_eq hys (by simpa using hi)
      rwa [List.getElem_map, List.getElem_map] at this
    have e1 := e j (by omega)
    have e2 := e (j + 1) hj
    rw [hx] at e1
    rw [e1] at e2
    exact Option.some.inj e2

theorem C17_spec_points (p : List ℚ) : pointsOK p p 0 = true := by
  unfold pointsOK
  simp only [beq_self_eq_true, Bool.true_and, List.all_eq_true, decide_eq_true_eq]
  intro ab hab
  rw [List.zip_eq_zipWith, List.zipWith_self, List.mem_map] at hab
  obtain ⟨v, _, rfl⟩ := hab
  rw [sub_self, absPL_zero]

/-! ### non-vacuity and the touch configurations -/

example : PLInput [0, 1, 1, 2] [0, 2, 2, 1] :=
  ⟨by decide +kernel, rfl, by
    intro j hj; have : j = 0 ∨ j = 1 ∨ j = 2 := by simp at hj; omega
    rcases this with rfl | rfl | rfl <;> decide +kernel⟩

/-- "V" touching the target from above: the touch point is reported once (segment 1, `la = 0`) -/
example : invertPL [0, 1, 2] [1, 0, 1] 0 = [1] := by decide +kernel
/-- "Λ" touching from below: reported once (segment 1) -/
example : invertPL [0, 1, 2] [0, 1, 0] 1 = [1] := by decide +kernel
/-- plateau at the target: only its right end is reported (segment 2), a genuine solution -/
example : invertPL [0, 1, 2, 3] [0, 1, 1, 2] 1 = [2] := by decide +kernel
/-- plateau at the target up to the last sample: no crossing; the fallback returns the first
sample of the plateau, a genuine solution -/
example : invertPL [0, 1, 2] [0, 1, 1] 1 = [1] := by decide +kernel
/-- touch at the last sample only: no crossing; the fallback returns it -/
example : invertPL [0, 1, 2] [0, 0, 1] 1 = [2] := by decide +kernel
/-- touch at the last sample plus a crossing elsewhere: the crossing is returned, the touch at
the last sample is NOT listed (every returned point is still a genuine solution; the docstring's
"contains all solutions" does not hold) -/
example : invertPL [0, 1, 2] [0, 2, 1] 1 = [1 / 2] := by decide +kernel
/-- no solution: the closest sample, first index on ties -/
example : invertPL [0, 1, 2] [1, 3, 1] 0 = [0] := by decide +kernel

/-- Non-vacuity of `C17_metric`: a concrete object, user points, FNR values `0, 1/3, 2/3`. -/
example : ∃ (s : Scores) (pts ys : List ℚ), s.thresholdAtMetricPoints (.arr [0, 2, 5 / 2]) = .ok pts ∧
    pts.map (s.metricAt .fnr) = ys.map some ∧ pts.Pairwise (· ≤ ·) := by
  refine ⟨⟨[1, 2, 3], [0, 3 / 2], 0, 0, ⟨.pos, .pos⟩⟩, [0, 2, 5 / 2], [0, 1 / 3, 2 / 3], rfl, ?_,
    by decide +kernel⟩
  have h : ∀ p, (⟨[1, 2, 3], [0, 3 / 2], 0, 0, ⟨.pos, .pos⟩⟩ : Scores).metricAt .fnr p =
      (countCM [1, 2, 3] [0, 3 / 2] 0 0 ⟨.pos, .pos⟩ (.fin p)).rate .fnr := by
    intro p
    unfold Scores.metricAt
    rw [cm_eq_countCM_of_sorted _ (by decide +kernel) (by decide +kernel)]
  simp only [List.map_cons, List.map_nil, h]
  decide +kernel

/-- Non-vacuity of `linspace_spec` / the `int` branch of `C17_points`. -/
example : linspace 0 1 3 = [0, 1 / 2, 1] := by decide +kernel

end SA

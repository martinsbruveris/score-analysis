/-
C18 — `showbias`: row labels, entries by counting, normalisation, bootstrap intervals.

Property theorems: `C18_rows`, `C18_entry`, `C18_partition`, `C18_by_overall`, `C18_by_min`
(+ `C18_by_min_nan`), `C18_cell`, `C18_ci_same_quantity`, `C18_ci_none`, `C18_ci_ordered_quantile`,
`C18_ci_ordered_bc`, the spec forms `C18_spec_*`, and the statement `C18_ci_by_min_statement`
which does NOT hold of the coded behaviour (`C18_ci_by_min_fails`; known finding).
-/
import SA.Theorems.C01
import SA.Theorems.C14
import SA.Proofs.Group
import SA.Spec.C18

namespace SA
open Spec.C18

/-! ### row labels: the sorted distinct keys -/

theorem sbInsertKey_mem (k x : List Nat) (l : List (List Nat)) :
    x ∈ sbInsertKey k l ↔ x = k ∨ x ∈ l := by
  induction l with
  | nil => simp [sbInsertKey]
  | cons a l ih =>
    unfold sbInsertKey
    by_cases h1 : k < a
    · simp [h1]
    · by_cases h2 : k = a
      · subst h2; simp
      · simp only [h1, h2, if_false, List.mem_cons, ih]
        exact or_left_comm

theorem sbInsertKey_sorted (k : List Nat) (l : List (List Nat)) (h : l.Pairwise (· < ·)) :
    (sbInsertKey k l).Pairwise (· < ·) := by
  induction l with
  | nil => simp [sbInsertKey]
  | cons a l ih =>
    rw [List.pairwise_cons] at h
    obtain ⟨ha, hl⟩ := h
    unfold sbInsertKey
    by_cases h1 : k < a
    · rw [if_pos h1]
      exact List.pairwise_cons.mpr ⟨fun y hy => (List.mem_cons.mp hy).elim (· ▸ h1)
        fun hy => List.lt_trans h1 (ha y hy), List.pairwise_cons.mpr ⟨ha, hl⟩⟩
    · by_cases h2 : k = a
      · rw [if_neg h1, if_pos h2]
        exact List.pairwise_cons.mpr ⟨ha, hl⟩
      · rw [if_neg h1, if_neg h2]
        have hak : a < k :=
          (List.le_iff_lt_or_eq.mp (List.not_lt.mp h1)).resolve_right fun h => h2 h.symm
        exact List.pairwise_cons.mpr ⟨fun y hy => ((sbInsertKey_mem k y l).mp hy).elim (· ▸ hak)
          (ha y), ih hl⟩

theorem sortedDistinct_mem (ks : List (List Nat)) (x : List Nat) :
    x ∈ sortedDistinct ks ↔ x ∈ ks := by
  induction ks with
  | nil => simp [sortedDistinct]
  | cons a l ih =>
    simp only [sortedDistinct, List.foldr_cons] at ih ⊢
    rw [sbInsertKey_mem, ih, List.mem_cons]

theorem sortedDistinct_sorted (ks : List (List Nat)) :
    (sortedDistinct ks).Pairwise (· < ·) := by
  induction ks with
  | nil => simp [sortedDistinct]
  | cons a l ih =>
    simp only [sortedDistinct, List.foldr_cons] at ih ⊢
    exact sbInsertKey_sorted a _ ih

theorem sortedDistinct_nodup (ks : List (List Nat)) : (sortedDistinct ks).Nodup :=
  (sortedDistinct_sorted ks).imp fun {a b} hab (he : a = b) => List.lt_irrefl b (he ▸ hab)

/-- **C18 (rows).** The row labels are exactly the group-value combinations occurring in the
data, strictly increasing in the lexicographic order (hence each once, in sorted order); every
data row carries exactly one of the labels; and the rows a frame row is computed from
(`groupRows`) are precisely the data rows carrying its label. -/
theorem C18_rows (rows : List SbRow) :
    (∀ k, k ∈ groupKeys rows ↔ ∃ r ∈ rows, r.key = k) ∧
    (groupKeys rows).Pairwise (· < ·) ∧
    (groupKeys rows).Nodup ∧
    (∀ r ∈ rows, (groupKeys rows).count r.key = 1) ∧
    (∀ k r, r ∈ groupRows rows k ↔ r ∈ rows ∧ r.key = k) := by
  have hmem : ∀ k, k ∈ groupKeys rows ↔ ∃ r ∈ rows, r.key = k := by
    intro k
    unfold groupKeys
    rw [sortedDistinct_mem, List.mem_map]
  refine ⟨hmem, sortedDistinct_sorted _, sortedDistinct_nodup _, ?_, ?_⟩
  · intro r hr
    exact List.count_eq_one_of_mem (sortedDistinct_nodup _) ((hmem r.key).mpr ⟨r, hr, rfl⟩)
  · intro k r
    simp [groupRows]

/-! ### entries by counting; the groups partition the data -/

/-- cell-wise sum of a list of matrices -/
def CM.sumList (l : List CM) : CM := l.foldr CM.add ⟨0, 0, 0, 0⟩

theorem sum_countP_groups (keys : List (List Nat)) (hnd : keys.Nodup) (rows : List SbRow)
    (hall : ∀ r ∈ rows, r.key ∈ keys) (P : SbRow → Bool) :
    (keys.map fun k => (groupRows rows k).countP P).sum = rows.countP P := by
  induction rows with
  | nil => simp [groupRows]
  | cons r rs ih =>
    have hstep : ∀ k, (groupRows (r :: rs) k).countP P =
        (groupRows rs k).countP P + (if r.key = k then (if P r then 1 else 0) else 0) := fun k => by
      unfold groupRows
      by_cases hk : r.key = k <;> simp [hk, List.countP_cons]
    simp only [hstep, List.sum_map_add, ih fun r' h => hall r' (List.mem_cons_of_mem _ h),
      List.countP_cons]
    congr 1
    by_cases hp : P r = true
    · simp only [hp, if_true]
      rw [c12_sum_indicator, List.count_eq_one_of_mem hnd (hall r List.mem_cons_self)]
    · simp [hp]

theorem countP_filter_scores (rows : List SbRow) (p : SbRow → Bool) (f : Rat → Bool) :
    (((rows.filter p).map (·.score)).countP f) = rows.countP (fun r => p r && f r.score) := by
  rw [List.countP_map, List.countP_filter]
  congr 1
  funext r
  simp only [Function.comp, Bool.and_comm]

/-- the four cells of the matrix of a set of rows, as counts over the rows themselves:
a row is a TP iff it is positive and accepted by the decision rule, etc. -/
theorem rowsCM_fields (cfg : Cfg) (rows : List SbRow) (t : ERat) :
    (rowsCM cfg rows t).tp = rows.countP (fun r => r.isPos && accept cfg r.score t) ∧
    (rowsCM cfg rows t).fn = rows.countP (fun r => r.isPos && !accept cfg r.score t) ∧
    (rowsCM cfg rows t).fp = rows.countP (fun r => !r.isPos && accept cfg r.score t) ∧
    (rowsCM cfg rows t).tn = rows.countP (fun r => !r.isPos && !accept cfg r.score t) := by
  simp only [rowsCM, countCM, Nat.add_zero, sbPos, sbNeg, countP_filter_scores, and_self]

/-- **C18 (entry).** The entry in the row labelled `k` is the requested metric of the matrix
obtained by counting, with the documented decision rule of the configuration, the rows whose
group values are `k`: positives accepted / rejected, negatives accepted / rejected.  That matrix
is what the implementation's route computes (`Scores.from_labels` of the group's labels and
scores followed by the binary-search `cm`, C01) and it is the sum of the per-sample membership
indicators of `pointwise_cm` over the group's rows. -/
theorem C18_entry (metric : SbMetric) (cfg : Cfg) (rows : List SbRow) (k : List Nat) (t : ERat) :
    sbEntry metric cfg rows k t =
      (countCM (sbPos (groupRows rows k)) (sbNeg (groupRows rows k)) 0 0 cfg t).toQ.sbMetric metric ∧
    groupCM cfg rows k t =
      (Scores.fromLabels ((groupRows rows k).map fun r => (r.isPos, r.score)) 0 0 cfg false).cm t ∧
    groupCM cfg rows k t =
      pointwiseSum cfg ((groupRows rows k).map fun r => (r.isPos, r.score)) t ∧
    (groupCM cfg rows k t).tp =
      rows.countP (fun r => r.key == k && (r.isPos && accept cfg r.score t)) ∧
    (groupCM cfg rows k t).fn =
      rows.countP (fun r => r.key == k && (r.isPos && !accept cfg r.score t)) ∧
    (groupCM cfg rows k t).fp =
      rows.countP (fun r => r.key == k && (!r.isPos && accept cfg r.score t)) ∧
    (groupCM cfg rows k t).tn =
      rows.countP (fun r => r.key == k && (!r.isPos && !accept cfg r.score t)) := by
  have hpos : ∀ l : List SbRow,
      ((l.map fun r => (r.isPos, r.score)).filter (fun s => s.1)).map (·.2) = sbPos l := by
    intro l; unfold sbPos; rw [List.filter_map, List.map_map]; rfl
  have hneg : ∀ l : List SbRow,
      ((l.map fun r => (r.isPos, r.score)).filter (fun s => !s.1)).map (·.2) = sbNeg l := by
    intro l; unfold sbNeg; rw [List.filter_map, List.map_map]; rfl
  obtain ⟨f1, f2, f3, f4⟩ := rowsCM_fields cfg (groupRows rows k) t
  have key : ∀ P : SbRow → Bool,
      (groupRows rows k).countP P = rows.countP (fun r => r.key == k && P r) := fun P => by
    unfold groupRows; rw [List.countP_filter]
    congr 1; funext r; rw [Bool.and_comm]
  refine ⟨rfl, ?_, ?_, f1.trans (key _), f2.trans (key _), f3.trans (key _), f4.trans (key _)⟩
  · unfold Scores.fromLabels
    rw [C01_cells, hpos, hneg]; rfl
  · rw [C01_pointwise_sum, hpos, hneg]; rfl

/-- **C18 (partition).** The groups partition the data: adding up the group matrices over the row
labels gives the matrix of the whole data set (the one `by_overall` divides by). -/
theorem C18_partition (cfg : Cfg) (rows : List SbRow) (t : ERat) :
    CM.sumList ((groupKeys rows).map fun k => groupCM cfg rows k t) = rowsCM cfg rows t := by
  obtain ⟨hmem, _, hnd, _, _⟩ := C18_rows rows
  obtain ⟨s1, s2, s3, s4⟩ := c12_sumCM_cells ((groupKeys rows).map fun k => groupCM cfg rows k t)
  have hsum := sum_countP_groups _ hnd rows fun r hr => (hmem r.key).mpr ⟨r, hr, rfl⟩
  -- each cell is a count over rows, and the group counts add up to the count over all rows
  have key : ∀ (f : CM → ℕ) (P : SbRow → Bool), (∀ l, f (rowsCM cfg l t) = l.countP P) →
      (((groupKeys rows).map fun k => groupCM cfg rows k t).map f).sum = f (rowsCM cfg rows t) := by
    intro f P hf
    rw [hf, List.map_map, ← hsum P]
    exact congrArg _ (List.map_congr_left fun k _ => hf _)
  apply c12_CM_ext
  · exact s1.trans (key _ _ fun l => (rowsCM_fields cfg l t).1)
  · exact s2.trans (key _ _ fun l => (rowsCM_fields cfg l t).2.1)
  · exact s3.trans (key _ _ fun l => (rowsCM_fields cfg l t).2.2.1)
  · exact s4.trans (key _ _ fun l => (rowsCM_fields cfg l t).2.2.2)

/-! ### normalisation of a column -/

/-- **C18 (by_overall).** Divisor 0: the column is returned unchanged; a non-zero divisor: every
entry is divided by it (NaN stays NaN); NaN divisor: every entry is NaN. -/
theorem C18_by_overall (col : List (Option ℚ)) :
    normaliseCol .byOverall col (some 0) = col ∧
    (∀ d : ℚ, d ≠ 0 → normaliseCol .byOverall col (some d) = col.map (Option.map (· / d))) ∧
    normaliseCol .byOverall col none = col.map (fun _ => none) := by
  refine ⟨?_, ?_, ?_⟩
  · simp [normaliseCol, divNorm]
  · intro d hd
    simp [normaliseCol, divNorm, hd]
  · simp [normaliseCol, divNorm]

theorem divNorm_eq_none_iff (v den : Option ℚ) : divNorm v den = none ↔ den = none ∨ v = none := by
  cases den with
  | none => simp [divNorm]
  | some d => by_cases hd : d = 0 <;> cases v <;> simp [divNorm, hd]

theorem colMin_some (vals : List ℚ) (hne : vals ≠ []) :
    ∃ m, m ∈ vals ∧ (∀ v ∈ vals, m ≤ v) ∧ colMin (vals.map some) = some m := by
  induction vals with
  | nil => exact absurd rfl hne
  | cons a l ih =>
    cases l with
    | nil => exact ⟨a, by simp, by simp, rfl⟩
    | cons b l' =>
      obtain ⟨m, hm, hle, hc⟩ := ih (by simp)
      simp only [List.map_cons] at hc
      by_cases hab : a ≤ m
      · exact ⟨a, List.mem_cons_self,
          List.forall_mem_cons.mpr ⟨le_rfl, fun v hv => hab.trans (hle v hv)⟩,
          by simp only [List.map_cons, colMin, hc, minO, hab, if_true]⟩
      · exact ⟨m, List.mem_cons_of_mem _ hm, List.forall_mem_cons.mpr ⟨(not_le.mp hab).le, hle⟩,
          by simp only [List.map_cons, colMin, hc, minO, hab, if_false]⟩

theorem colMin_nan (col : List (Option ℚ)) (h : none ∈ col) : colMin col = none := by
  induction col with
  | nil => cases h
  | cons a l ih =>
    cases l with
    | nil =>
      rcases List.mem_cons.mp h with h | h
      · simp [colMin, ← h]
      · cases h
    | cons b l' =>
      rcases List.mem_cons.mp h with h | h
      · subst h; simp [colMin, minO]
      · rw [colMin, ih h]; cases a <;> rfl

/-- **C18 (by_min).** For a column of defined entries the divisor is the smallest entry `m`.
`m = 0`: the column is returned unchanged.  `m ≠ 0`: every entry is divided by `m`, so the
smallest row becomes exactly 1; and if `m > 0` every entry of the result is `≥ 1`.
(With `max` in place of `min` the smallest row would become `m / max < 1`.) -/
theorem C18_by_min (vals : List ℚ) (hne : vals ≠ []) (ov : Option ℚ) :
    ∃ m, m ∈ vals ∧ (∀ v ∈ vals, m ≤ v) ∧ colMin (vals.map some) = some m ∧
      (m = 0 → normaliseCol .byMin (vals.map some) ov = vals.map some) ∧
      (m ≠ 0 → normaliseCol .byMin (vals.map some) ov = vals.map (fun v => some (v / m)) ∧
        some 1 ∈ normaliseCol .byMin (vals.map some) ov) ∧
      (0 < m → ∀ x ∈ normaliseCol .byMin (vals.map some) ov, ∃ v, x = some v ∧ 1 ≤ v) := by
  obtain ⟨m, hm, hle, hc⟩ := colMin_some vals hne
  have hnz : m ≠ 0 → normaliseCol .byMin (vals.map some) ov = vals.map (fun v => some (v / m)) := by
    intro h0
    simp only [normaliseCol, hc, divNorm, h0, if_false, List.map_map]
    rfl
  refine ⟨m, hm, hle, hc, fun h0 => ?_, fun h0 => ⟨hnz h0, ?_⟩, fun hpos => ?_⟩
  · simp only [normaliseCol, hc, divNorm, h0, if_true, List.map_id']
  · rw [hnz h0]
    exact List.mem_map.mpr ⟨m, hm, by rw [div_self h0]⟩
  · rw [hnz (ne_of_gt hpos)]
    intro x hx
    obtain ⟨v, hv, rfl⟩ := List.mem_map.mp hx
    exact ⟨v / m, rfl, (one_le_div hpos).mpr (hle v hv)⟩

/-- a NaN entry makes `np.min` NaN and with it the whole column -/
theorem C18_by_min_nan (col : List (Option ℚ)) (h : none ∈ col) (ov : Option ℚ) :
    normaliseCol .byMin col ov = col.map (fun _ => none) := by
  simp [normaliseCol, colMin_nan col h, divNorm]

/-! ### the frame, cell by cell -/

/-- the normalised value of an entry, given the overall metric and the column minimum -/
def normEntry (mode : NormMode) (e : Option ℚ) (overall colmin : Option ℚ) : Option ℚ :=
  match mode with
  | .none => e
  | .byOverall => divNorm e overall
  | .byMin => divNorm e colmin

/-- the cell in the row labelled `k` of the model frame -/
def sbCellVal (metric : SbMetric) (cfg : Cfg) (mode : NormMode) (rows : List SbRow)
    (k : List Nat) (t : ERat) : Option ℚ :=
  normEntry mode (sbEntry metric cfg rows k t) (sbOverall metric cfg rows t)
    (colMin (sbRawCol metric cfg rows t))

theorem sbCol_eq (metric : SbMetric) (cfg : Cfg) (mode : NormMode) (rows : List SbRow) (t : ERat) :
    sbCol metric cfg mode rows t = (groupKeys rows).map fun k => sbCellVal metric cfg mode rows k t := by
  unfold sbCol sbCellVal
  cases mode <;> simp [normaliseCol, normEntry, sbRawCol, List.map_map, Function.comp_def]

/-- **C18 (frame).** The returned frame has one row per label (in `groupKeys` order) and one
column per threshold; the cell `(k, t)` is the entry of group `k` at `t`, divided by the overall
metric at `t` (`by_overall`) or by the smallest group entry at `t` (`by_min`) in the sense of
`divNorm` (unchanged for divisor 0). -/
theorem sbTable_eq (metric : SbMetric) (cfg : Cfg) (mode : NormMode) (rows : List SbRow)
    (ts : List ERat) (hne : rows ≠ []) :
    sbTable metric cfg mode rows ts =
      .ok ((groupKeys rows).map fun k => ts.map fun t => sbCellVal metric cfg mode rows k t) := by
  unfold sbTable
  rw [if_neg hne]
  congr 1
  apply List.ext_getElem
  · simp
  · intro i h1 h2
    simp only [List.length_map, List.length_range] at h1
    simp only [List.getElem_map, List.getElem_range]
    apply List.map_congr_left
    intro t _
    rw [sbCol_eq, List.getD_eq_getElem?_getD, List.getElem?_map, List.getElem?_eq_getElem h1]
    rfl

theorem groupKeys_findIdx (rows : List SbRow) (k : List Nat) (hk : k ∈ groupKeys rows) :
    ∃ h : (groupKeys rows).findIdx (· == k) < (groupKeys rows).length,
      (groupKeys rows)[(groupKeys rows).findIdx (· == k)] = k :=
  have hlt := List.findIdx_lt_length_of_exists (xs := groupKeys rows) (p := (· == k))
    ⟨k, hk, beq_self_eq_true k⟩
  ⟨hlt, beq_iff_eq.mp (List.findIdx_getElem (w := hlt))⟩

theorem keyIndex_of_mem (rows : List SbRow) (k : List Nat) (hk : k ∈ groupKeys rows) :
    ∃ i, ∃ h : i < (groupKeys rows).length, keyIndex rows k = some i ∧ (groupKeys rows)[i] = k := by
  obtain ⟨hlt, e⟩ := groupKeys_findIdx rows k hk
  exact ⟨_, hlt, by simp only [keyIndex, hlt, if_true], e⟩

/-- **C18 (cell).** Looking a label up in the frame gives the normalised entry of that group. -/
theorem C18_cell (metric : SbMetric) (cfg : Cfg) (mode : NormMode) (rows : List SbRow)
    (k : List Nat) (t : ERat) (hk : k ∈ groupKeys rows) :
    sbCell metric cfg mode rows k t = some (sbCellVal metric cfg mode rows k t) := by
  obtain ⟨i, hi, hki, hik⟩ := keyIndex_of_mem rows k hk
  unfold sbCell
  rw [hki]
  simp only [sbCol_eq, List.getD_eq_getElem?_getD, List.getElem?_map, List.getElem?_eq_getElem hi,
    hik, Option.map, Option.getD]

/-- `by_overall` cell: entry / overall whenever the overall metric is defined and non-zero,
the entry itself when it is 0. -/
theorem C18_cell_by_overall (metric : SbMetric) (cfg : Cfg) (rows : List SbRow)
    (k : List Nat) (t : ERat) (hk : k ∈ groupKeys rows) (d : ℚ)
    (hd : sbOverall metric cfg rows t = some d) :
    sbCell metric cfg .byOverall rows k t =
      some (if d = 0 then sbEntry metric cfg rows k t
            else (sbEntry metric cfg rows k t).map (· / d)) := by
  rw [C18_cell _ _ _ _ _ _ hk]
  simp only [sbCellVal, normEntry, hd, divNorm]

/-! ### bootstrap intervals of a cell -/

theorem bootstrapCI_pow_irrelevant (nrm : Normal) (p15 p15' : ℚ → ℚ) (m : BootMethod)
    (hm : m ≠ .bca) (vals : List (Option ℚ)) (th al : ℚ) :
    bootstrapCI nrm p15 m vals th al = bootstrapCI nrm p15' m vals th al := by
  cases m
  · rfl
  · simp [bootstrapCI]
  · exact absurd rfl hm

theorem sbRepsNorm_by_overall (reps : List (Option ℚ)) (d : ℚ) (hd : d ≠ 0) :
    sbRepsNorm .byOverall reps (some d) = reps.map (Option.map fun x => (1 / d) * x + 0) := by
  simp only [sbRepsNorm, divNorm, hd, if_false]
  apply List.map_congr_left
  intro v _
  cases v with
  | none => rfl
  | some x => simp only [Option.map]; rw [add_zero, one_div, div_eq_inv_mul]

/-- **C18 (same quantity, by_overall).** The replicates and the estimate are divided by the same
divisor `d > 0` (the overall metric of the original data: it does not depend on the replicate),
so the interval reported next to the normalised value `e / d` is the interval of the raw metric
around `e`, divided by `d` — for the quantile and BC methods unconditionally, for BCa under the
homogeneity of the `** 1.5` oracle that C13_affine needs. -/
theorem C18_ci_same_quantity (nrm : Normal) (p15 : ℚ → ℚ) (m : BootMethod)
    (reps : List (Option ℚ)) (e d alpha : ℚ) (hd : 0 < d)
    (hp : m = .bca → ∀ x, p15 ((1 / d) * (1 / d) * x) = (1 / d) * (1 / d) * (1 / d) * p15 x) :
    sbCI nrm p15 m .byOverall reps (e / d) (some d) alpha =
      ((bootstrapCI nrm p15 m reps e alpha).1.map (· / d),
       (bootstrapCI nrm p15 m reps e alpha).2.map (· / d)) := by
  have hc : 0 < 1 / d := one_div_pos.mpr hd
  have hf : (fun x : ℚ => x / d) = fun x => (1 / d) * x + 0 := by
    funext x; rw [add_zero, one_div, div_eq_inv_mul]
  have he : e / d = (1 / d) * e + 0 := congrFun hf e
  unfold sbCI
  rw [sbRepsNorm_by_overall reps d (ne_of_gt hd), he, hf]
  by_cases hm : m = .bca
  · exact C13_affine nrm p15 m reps e alpha (1 / d) 0 hc (hp hm)
  · rw [bootstrapCI_pow_irrelevant nrm p15 (fun _ => 0) m hm,
      bootstrapCI_pow_irrelevant nrm p15 (fun _ => 0) m hm reps]
    exact C13_affine nrm (fun _ => 0) m reps e alpha (1 / d) 0 hc (by intro x; ring)

/-- without normalisation the interval is `utils.bootstrap_ci` of the raw replicates -/
theorem C18_ci_none (nrm : Normal) (p15 : ℚ → ℚ) (m : BootMethod) (reps : List (Option ℚ))
    (e : ℚ) (ov : Option ℚ) (alpha : ℚ) :
    sbCI nrm p15 m .none reps e ov alpha = bootstrapCI nrm p15 m reps e alpha := rfl

/-- **C18 (ordered, quantile).** `lower ≤ upper` (NaN only together) for every normalisation. -/
theorem C18_ci_ordered_quantile (nrm : Normal) (p15 : ℚ → ℚ) (mode : NormMode)
    (reps : List (Option ℚ)) (est : ℚ) (ov : Option ℚ) (al : ℚ) (h0 : 0 ≤ al) (h1 : al ≤ 1) :
    optLe (sbCI nrm p15 .quantile mode reps est ov al).1 (sbCI nrm p15 .quantile mode reps est ov al).2 :=
  C13_ordered_quantile nrm p15 _ est al h0 h1

/-- **C18 (ordered, BC)** under the oracle hypotheses of C13. -/
theorem C18_ci_ordered_bc (nrm : Normal) (hn : nrm.Lawful) (p15 : ℚ → ℚ) (mode : NormMode)
    (reps : List (Option ℚ)) (est : ℚ) (ov : Option ℚ) (al : ℚ) (h0 : 0 < al) (h1 : al < 1) :
    optLe (sbCI nrm p15 .bc mode reps est ov al).1 (sbCI nrm p15 .bc mode reps est ov al).2 :=
  C13_ordered_bc nrm hn p15 _ est al h0 h1

/-! ### `by_min`: the interval is not the interval of the reported quantity -/

theorem quantileLinear_single (c q : ℚ) : quantileLinear [some c] q = some c :=
  C14_quantile_const 1 c q (le_refl 1)

/-- What `C18_ci_same_quantity` would say for `by_min`: the interval is the interval of the raw
replicates divided by the divisor of the reported value (the minimum over the GROUPS).
NOT a theorem of the coded behaviour — see `C18_ci_by_min_fails` (known finding:
`np.min(samples, axis=0)` is the minimum over the bootstrap axis). -/
def C18_ci_by_min_statement : Prop :=
  ∀ (nrm : Normal) (p15 : ℚ → ℚ) (m : BootMethod) (col : List ℚ) (g : ℕ) (e mn : ℚ)
    (repsG : List (Option ℚ)) (alpha : ℚ),
    col[g]? = some e → colMin (col.map some) = some mn → 0 < mn →
    sbCI nrm p15 m .byMin repsG (e / mn) none alpha =
      ((bootstrapCI nrm p15 m repsG e alpha).1.map (· / mn),
       (bootstrapCI nrm p15 m repsG e alpha).2.map (· / mn))

/-- Counterexample in the model of the coded behaviour: groups with metric 1/2 and 1, one
replicate equal to the estimate 1 of the second group (identity sampler), quantile method.  The
reported value is 1 / (1/2) = 2; the coded interval is [1, 1]. -/
theorem C18_ci_by_min_fails : ¬ C18_ci_by_min_statement := by
  intro h
  -- the instance below would read `(some 1, some 1) = (some 2, some 2)`
  have := h Normal.toy (fun _ => 0) .quantile [1 / 2, 1] 1 1 (1 / 2) [some 1] (1 / 2) rfl
    (by simp [colMin, minO]; norm_num) (by norm_num)
  simp only [sbCI, sbRepsNorm, colMin, divNorm, List.map_cons, List.map_nil, bootstrapCI,
    quantileLinear_single, Option.map, Prod.mk.injEq] at this
  norm_num at this
  rw [quantileLinear_single] at this
  norm_num at this

/-- the coded interval of that counterexample: `[1, 1]` next to the reported value 2 -/
example : sbCI Normal.toy (fun _ => 0) .quantile .byMin [some 1] 2 none (1 / 2) = (some 1, some 1) := by
  simp only [sbCI, sbRepsNorm, colMin, divNorm, List.map_cons, List.map_nil, bootstrapCI]
  norm_num
  constructor <;> exact quantileLinear_single _ _

/-! ### the executable spec clauses hold of the model (eps = 0) -/

theorem c18_nearO_self (x : Option ℚ) : nearO 0 x x = true := by
  cases x <;> simp [nearO, absQ]

theorem c18_rowNear_self (l : List (Option ℚ)) : rowNear 0 l l = true := by
  simp only [rowNear, beq_self_eq_true, Bool.true_and, List.zip, List.zipWith_self, List.all_map,
    List.all_eq_true]
  exact fun a _ => c18_nearO_self a

theorem sbTable_ok (metric : SbMetric) (cfg : Cfg) (mode : NormMode) (rows : List SbRow)
    (ts : List ERat) (T : List (List (Option ℚ))) (h : sbTable metric cfg mode rows ts = .ok T) :
    T = (groupKeys rows).map fun k => ts.map fun t => sbCellVal metric cfg mode rows k t := by
  rw [sbTable_eq _ _ _ _ _ (fun h0 => by rw [h0] at h; cases h)] at h
  exact (Except.ok.inj h).symm

theorem C18_spec_labels (rows : List SbRow) (ts : List ERat) :
    labelsOK rows ts (groupKeys rows) ts = true := by
  simp [labelsOK]

theorem C18_spec_entry (metric : SbMetric) (cfg : Cfg) (rows : List SbRow) (ts : List ERat)
    (T : List (List (Option ℚ))) (h : sbTable metric cfg .none rows ts = .ok T) :
    entryOK 0 metric cfg rows ts (groupKeys rows) T = true := by
  obtain rfl := sbTable_ok _ _ _ _ _ _ h
  simp only [entryOK, List.length_map, beq_self_eq_true, Bool.true_and]
  apply List.all_zip_map
  intro k _
  exact c18_rowNear_self _

theorem C18_spec_norm (metric : SbMetric) (cfg : Cfg) (mode : NormMode) (rows : List SbRow)
    (ts : List ERat) (T : List (List (Option ℚ))) (h : sbTable metric cfg mode rows ts = .ok T) :
    normOK 0 metric cfg mode rows ts (groupKeys rows) T = true := by
  obtain rfl := sbTable_ok _ _ _ _ _ _ h
  simp only [normOK, List.length_map, beq_self_eq_true, Bool.true_and]
  apply List.all_zip_map
  intro k hk
  simp only [List.length_map, beq_self_eq_true, Bool.true_and]
  apply List.all_zip_map
  intro t _
  simp only [C18_cell metric cfg mode rows k t hk, c18_nearO_self]

theorem allSome_of_colMin (col : List (Option ℚ)) (m : ℚ) (h : colMin col = some m) :
    ∃ vals : List ℚ, col = vals.map some := by
  have hn : none ∉ col := fun hc => by rw [colMin_nan col hc] at h; cases h
  refine ⟨col.filterMap id, ?_⟩
  clear h
  induction col with
  | nil => rfl
  | cons a l ih =>
    cases a with
    | none => exact absurd (List.mem_cons_self) hn
    | some x =>
      have := ih (fun hc => hn (List.mem_cons_of_mem _ hc))
      simp only [List.filterMap_cons, id, List.map_cons]
      simp only [id] at this
      rw [← this]

theorem colMin_byMin (vals : List ℚ) (hne : vals ≠ []) (ov : Option ℚ) (m : ℚ)
    (hc : colMin (vals.map some) = some m) :
    (m = 0 → colMin (normaliseCol .byMin (vals.map some) ov) = some 0) ∧
    (0 < m → colMin (normaliseCol .byMin (vals.map some) ov) = some 1) := by
  obtain ⟨m', hm, hle, hc', h0, hnz, hpos⟩ := C18_by_min vals hne ov
  rw [hc] at hc'
  injection hc' with hmm
  subst hmm
  constructor
  · intro hz
    rw [h0 hz, hc, hz]
  · intro hp
    obtain ⟨heq, hone⟩ := hnz (ne_of_gt hp)
    have hne' : (vals.map fun v => v / m) ≠ [] := by
      intro h; exact hne (List.map_eq_nil_iff.mp h)
    obtain ⟨w, hw, hwle, hwc⟩ := colMin_some (vals.map fun v => v / m) hne'
    have hmap : normaliseCol .byMin (vals.map some) ov = (vals.map fun v => v / m).map some := by
      rw [heq, List.map_map]; rfl
    rw [hmap, hwc]
    congr 1
    apply le_antisymm
    · have : m / m ∈ vals.map fun v => v / m := List.mem_map.mpr ⟨m, hm, rfl⟩
      have := hwle _ this
      rwa [div_self (ne_of_gt hp)] at this
    · obtain ⟨v, hv, rfl⟩ := List.mem_map.mp hw
      exact (one_le_div hp).mpr (hle v hv)

theorem obsCol_model (metric : SbMetric) (cfg : Cfg) (mode : NormMode) (rows : List SbRow)
    (ts : List ERat) (j : Nat) (t : ERat) (hj : ts[j]? = some t) :
    obsCol ((groupKeys rows).map fun k => ts.map fun t => sbCellVal metric cfg mode rows k t) j =
      sbCol metric cfg mode rows t := by
  rw [sbCol_eq]
  unfold obsCol
  rw [List.map_map]
  apply List.map_congr_left
  intro k _
  simp only [Function.comp, List.getD_eq_getElem?_getD, List.getElem?_map, hj, Option.map,
    Option.getD]

theorem C18_spec_minrow (metric : SbMetric) (cfg : Cfg) (rows : List SbRow)
    (ts : List ERat) (T : List (List (Option ℚ))) (h : sbTable metric cfg .byMin rows ts = .ok T) :
    minRowOK 0 metric cfg rows ts T = true := by
  obtain rfl := sbTable_ok _ _ _ _ _ _ h
  unfold minRowOK
  rw [List.all_eq_true]
  intro tj htj
  obtain ⟨t, j⟩ := tj
  have hj : ts[j]? = some t := List.mem_zipIdx_iff_getElem?.mp htj
  dsimp only
  rw [obsCol_model metric cfg .byMin rows ts j t hj]
  cases hcm : colMin (sbRawCol metric cfg rows t) with
  | none => rfl
  | some m =>
    dsimp only
    obtain ⟨vals, hv⟩ := allSome_of_colMin _ m hcm
    have hvne : vals ≠ [] := by
      intro h0; rw [h0] at hv; rw [hv] at hcm; simp [colMin] at hcm
    have hcol : sbCol metric cfg .byMin rows t =
        normaliseCol .byMin (vals.map some) (sbOverall metric cfg rows t) := by
      unfold sbCol; rw [hv]
    rw [hv] at hcm
    obtain ⟨hz, hp⟩ := colMin_byMin vals hvne (sbOverall metric cfg rows t) m hcm
    by_cases h0 : m = 0
    · rw [if_pos h0, hcol, hz h0]; exact c18_nearO_self _
    · rw [if_neg h0]
      by_cases hpos : 0 < m
      · rw [if_pos hpos, hcol, hp hpos]; exact c18_nearO_self _
      · rw [if_neg hpos]

theorem C18_spec_ci_ordered (lo hi : Option ℚ) (h : optLe lo hi) :
    ciOrderedOK 0 [[lo]] [[hi]] = true := by
  match lo, hi, h with
  | none, none, _ => rfl
  | some lo, some hi, h =>
    have h' : lo ≤ hi + 0 := (add_zero hi).symm ▸ h
    simp only [ciOrderedOK, List.length_cons, List.length_nil, beq_self_eq_true, List.zip_cons_cons,
      List.zip_nil_right, List.all_cons, List.all_nil, Bool.and_true, Bool.true_and,
      decide_eq_true_eq]
    exact h'

/-! ### non-vacuity: the hypotheses are satisfiable, and a concrete frame -/

/-- two group columns, keys given unsorted with a repetition: three rows, sorted -/
example : groupKeys [⟨[1, 0], true, 1⟩, ⟨[0, 2], false, 2⟩, ⟨[1, 0], false, 3⟩, ⟨[0, 1], true, 0⟩]
    = [[0, 1], [0, 2], [1, 0]] := by decide +kernel

/-- `by_min` on the column (1/2, 1): the smallest row becomes 1 (with `max` it would be 1/2) -/
example : normaliseCol .byMin [some (1 / 2), some 1] none = [some 1, some 2] := by
  decide +kernel

/-- hypothesis `vals ≠ []` of `C18_by_min` -/
example : ([1 / 2, 1] : List ℚ) ≠ [] := by simp

/-- hypotheses of `C18_ci_same_quantity` for BCa: `x ↦ 0` is homogeneous; `d = 2` -/
example : (0 : ℚ) < 2 ∧ ∀ x : ℚ, (fun _ : ℚ => (0 : ℚ)) ((1 / 2) * (1 / 2) * x) =
    (1 / 2) * (1 / 2) * (1 / 2) * (fun _ : ℚ => (0 : ℚ)) x :=
  ⟨two_pos, fun _ => (mul_zero _).symm⟩

/-- hypothesis of `C18_ci_ordered_bc` -/
example : Normal.toy.Lawful := Normal.toy_lawful

/-- hypothesis of the `C18_spec_*` theorems: a non-empty frame has a table -/
example : ∃ T, sbTable .tpr ⟨.pos, .pos⟩ .byMin [⟨[0], true, 1⟩] [.fin 0] = .ok T :=
  ⟨_, sbTable_eq _ _ _ _ _ (by simp)⟩

/-- hypothesis of `C18_cell`: the key of a data row is a row label -/
example : ([0] : List Nat) ∈ groupKeys [⟨[0], true, 1⟩] := by decide +kernel

end SA

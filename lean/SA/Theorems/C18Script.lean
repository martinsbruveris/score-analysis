/-
C18 / C12 / C13 — `showbias(..., bootstrap_ci=True)` end to end on the scripted RNG.

`showbiasScript` (SA/Model/ShowbiasScript.lean) is `showbias` with the bootstrap replicates computed
inside the model from a script of RNG answers: group keys -> `score_object` -> point estimate ->
`nb_samples` consecutive `GroupScores.bootstrap_sample` runs threading one `RngState` -> group metric
of every sample -> normalisation -> `utils.bootstrap_ci` per component -> three frames.

`np.argsort` is not stable, so the implementation's `score_object` holds SOME admissible joint order
of the rows; every theorem is stated for `sbScriptFrom … g` with `g` ANY admissible object
(`SbObjectOf cfg rows g`, i.e. `c12_TieEq (sbObject cfg rows) g`; `C12_tie_order_irrelevant` shows all
observables of `g` are those of the model's object) and specialised to `showbiasScript`.

* refinement (`C18_script_refines`): the value frame IS the table of the component model
  (`sbTable`), and every interval cell IS `sbCI` / `ciComponent` of the component model
  (SA/Model/Showbias.lean) with the script-driven replicates;
* the RNG stream (`C18_script_state`, `C18_script_requests`): exactly `nb_samples` sample draws;
* totality (`C18_script_total`): a runnable configuration returns frames on EVERY script;
* shape (`C18_script_shape`), ordering (`C18_script_ordered_quantile`, `C18_script_ordered_bc`),
  same quantity (`C18_script_same_quantity`, from `C18_ci_same_quantity`),
  NaN (`C18_script_nan`, `C18_script_nan_value`);
* in-support runs (`C18_script_replicates`): every replicate is the group metric of a sorted
  sample whose labelled pairs are pairs of the data.

Helper lemmas: SA/Proofs/ShowbiasScript.lean, and the inversion / shape lemmas next to their use.
-/
import SA.Proofs.ShowbiasScript

namespace SA

theorem c18s_from_ok (metric : SbMetric) (mode : NormMode) (keys : List (List ℕ)) (ts : List ERat)
    (p : SbBootParams) (g : GScores) (st : RngState) (F : SbFrames) (st1 : RngState)
    (h : sbScriptFrom metric mode keys ts p g st = (.ok F, st1)) :
    ∃ reps, gDrawMapped g p.cfg (sbGroupMetric metric ts) p.nbSamples st = (.ok reps, st1) ∧
      F = sbFramesOf p mode keys ts (sbGroupMetric metric ts g) (sbOverallMetric metric ts g) reps := by
  unfold sbScriptFrom at h
  rcases hd : gDrawMapped g p.cfg (sbGroupMetric metric ts) p.nbSamples st with ⟨r, s1⟩
  rw [hd] at h
  cases r with
  | error e => simp only at h; cases h
  | ok reps =>
    simp only [Prod.mk.injEq, Except.ok.injEq] at h
    exact ⟨reps, by rw [h.2], h.1.symm⟩

theorem c18s_frames_lower (p : SbBootParams) (mode : NormMode) (keys : List (List ℕ))
    (ts : List ERat) (est : List (List (Option ℚ))) (ov : List (Option ℚ))
    (reps : List (List (List (Option ℚ)))) (i j : ℕ) (hi : i < est.length) (hj : j < ts.length) :
    sbCellAt (sbFramesOf p mode keys ts est ov reps).lower i j =
      (sbScriptCI p mode reps (sbNormalise mode est ov) ov i j).1 ∧
    sbCellAt (sbFramesOf p mode keys ts est ov reps).upper i j =
      (sbScriptCI p mode reps (sbNormalise mode est ov) ov i j).2 := by
  simp only [sbFramesOf, List.map_map, Function.comp_def]
  have hi' : i < (List.range est.length).length := by rw [List.length_range]; exact hi
  have hj' : j < (List.range ts.length).length := by rw [List.length_range]; exact hj
  constructor <;>
    rw [sbCellAt_map _ _ _ i j hi' hj', List.getElem_range, List.getElem_range]

/-- the conclusions of the refinement theorem about the returned frames `F` and the replicate
array `reps` -/
structure SbRefines (metric : SbMetric) (cfg : Cfg) (mode : NormMode) (rows : List SbRow)
    (ts : List ERat) (p : SbBootParams) (F : SbFrames)
    (reps : List (List (List (Option ℚ)))) : Prop where
  /-- row labels: the sorted distinct keys (C18_rows); columns: the thresholds -/
  keys : F.keys = groupKeys rows
  cols : F.cols = ts
  /-- the value frame is the table of the component model (`C18_entry`, `C18_by_overall`, … apply) -/
  table : sbTable metric cfg mode rows ts = .ok F.values
  cell : ∀ i j (hi : i < (groupKeys rows).length) (hj : j < ts.length),
    sbCellAt F.values i j = sbCellVal metric cfg mode rows (groupKeys rows)[i] ts[j]
  /-- every interval cell is `utils.bootstrap_ci` of the normalised script-driven replicates of that
  component around the reported value -/
  ci : ∀ i j (_ : i < (groupKeys rows).length) (hj : j < ts.length),
    (sbCellAt F.lower i j, sbCellAt F.upper i j) =
      ciComponent p.nrm p.pow15 p.method
        (sbRepsNorm mode (sbRepsCol reps i j) (sbOverall metric cfg rows ts[j]))
        (sbCellAt F.values i j) p.alpha
  /-- … i.e. the component model `sbCI` wherever the reported value is a number -/
  sbci : ∀ i j (_ : i < (groupKeys rows).length) (hj : j < ts.length) (e : ℚ),
    sbCellAt F.values i j = some e →
    (sbCellAt F.lower i j, sbCellAt F.upper i j) =
      sbCI p.nrm p.pow15 p.method mode (sbRepsCol reps i j) e (sbOverall metric cfg rows ts[j]) p.alpha

/-- **C18 (refinement).** For a non-empty frame and ANY admissible `score_object` `g`: whenever the
script model returns frames `F`, the replicate loop returned an array `reps` (one (G, T) array per
sample, drawn from the script), the value frame is the table of SA/Model/Showbias.lean, and every
interval cell is the component model's interval with the script-driven replicates `reps[:, i, j]`. -/
theorem C18_script_refines (metric : SbMetric) (cfg : Cfg) (mode : NormMode) (rows : List SbRow)
    (ts : List ERat) (p : SbBootParams) (g : GScores) (st : RngState) (hne : rows ≠ [])
    (hg : SbObjectOf cfg rows g) (F : SbFrames) (st1 : RngState)
    (h : sbScriptFrom metric mode (groupKeys rows) ts p g st = (.ok F, st1)) :
    ∃ reps, gDrawMapped g p.cfg (sbGroupMetric metric ts) p.nbSamples st = (.ok reps, st1) ∧
      reps.length = p.nbSamples ∧ SbRefines metric cfg mode rows ts p F reps := by
  obtain ⟨reps, hd, hF⟩ := c18s_from_ok metric mode _ ts p g st F st1 h
  have hlen := (c18s_draw_state g p.cfg _ p.nbSamples st reps (by rw [hd])).2
  have hest := c18s_groupMetric_eq hg metric ts
  have hov := c18s_overallMetric_eq hg metric ts
  have hvals : F.values =
      (groupKeys rows).map fun k => ts.map fun t => sbCellVal metric cfg mode rows k t := by
    rw [hF]
    show sbNormalise mode _ _ = _
    rw [hest, hov]
    exact c18s_values_eq metric cfg mode rows ts
  have hcell : ∀ i j (hi : i < (groupKeys rows).length) (hj : j < ts.length),
      sbCellAt F.values i j = sbCellVal metric cfg mode rows (groupKeys rows)[i] ts[j] := by
    intro i j hi hj
    rw [hvals]
    exact sbCellAt_map _ _ _ i j hi hj
  have hestlen : (sbGroupMetric metric ts g).length = (groupKeys rows).length := by
    rw [hest, List.length_map]
  have hci : ∀ i j (_ : i < (groupKeys rows).length) (hj : j < ts.length),
      (sbCellAt F.lower i j, sbCellAt F.upper i j) =
        ciComponent p.nrm p.pow15 p.method
          (sbRepsNorm mode (sbRepsCol reps i j) (sbOverall metric cfg rows ts[j]))
          (sbCellAt F.values i j) p.alpha := by
    intro i j hi hj
    have hov' : (sbOverallMetric metric ts g).getD j none = sbOverall metric cfg rows ts[j] := by
      rw [hov]; simp [List.getD_eq_getElem?_getD, hj]
    obtain ⟨l1, l2⟩ := c18s_frames_lower p mode (groupKeys rows) ts (sbGroupMetric metric ts g)
      (sbOverallMetric metric ts g) reps i j (hestlen ▸ hi) hj
    rw [hF, l1, l2]
    simp only [sbScriptCI, hov']
    rfl
  refine ⟨reps, hd, hlen, ⟨by rw [hF]; rfl, by rw [hF]; rfl, ?_, hcell, hci, ?_⟩⟩
  · rw [sbTable_eq _ _ _ _ _ hne, hvals]
  · intro i j hi hj e he
    rw [hci i j hi hj, he]
    rfl

/-- the same for `showbias` itself (the model's stably sorted object) -/
theorem C18_script_refines_top (metric : SbMetric) (cfg : Cfg) (mode : NormMode)
    (rows : List SbRow) (ts : List ERat) (p : SbBootParams) (st : RngState) (F : SbFrames)
    (st1 : RngState) (h : showbiasScript metric cfg mode rows ts p st = (.ok F, st1)) :
    rows ≠ [] ∧ ∃ reps,
      gDrawMapped (sbObject cfg rows) p.cfg (sbGroupMetric metric ts) p.nbSamples st = (.ok reps, st1) ∧
      reps.length = p.nbSamples ∧ SbRefines metric cfg mode rows ts p F reps := by
  unfold showbiasScript at h
  by_cases hne : rows = []
  · rw [if_pos hne] at h; simp at h
  · rw [if_neg hne] at h
    exact ⟨hne, C18_script_refines metric cfg mode rows ts p _ st hne (SbObjectOf.self cfg rows) F st1 h⟩

/-- **C18 (empty frame).** `np.stack` raises `ValueError` in the point estimate, before anything is
drawn — as in the table model. -/
theorem C18_script_empty (metric : SbMetric) (cfg : Cfg) (mode : NormMode) (ts : List ERat)
    (p : SbBootParams) (st : RngState) :
    showbiasScript metric cfg mode [] ts p st = (.error .valueError, st) ∧
    sbTable metric cfg mode [] ts = .error .valueError := ⟨rfl, rfl⟩

/-- **C18 / C12 (the RNG stream).** Whenever the frames are returned, the RNG state is the one
after exactly `nb_samples` consecutive `GroupScores.bootstrap_sample(config)` calls on the
`score_object`, started in the state `showbias` was called in: nothing else touches the generator
(the point estimate, the normalisation and `utils.bootstrap_ci` draw nothing). -/
theorem C18_script_state (metric : SbMetric) (mode : NormMode) (keys : List (List ℕ))
    (ts : List ERat) (p : SbBootParams) (g : GScores) (st : RngState) (F : SbFrames)
    (h : (sbScriptFrom metric mode keys ts p g st).1 = .ok F) :
    (sbScriptFrom metric mode keys ts p g st).2 = gSampleStates g p.cfg p.nbSamples st := by
  rcases hr : sbScriptFrom metric mode keys ts p g st with ⟨r, st1⟩
  rw [hr] at h
  simp only at h
  subst h
  obtain ⟨reps, hd, _⟩ := c18s_from_ok metric mode keys ts p g st F st1 hr
  have := (c18s_draw_state g p.cfg _ p.nbSamples st reps (by rw [hd])).1
  rw [hd] at this
  exact this

/-- **C18 / C12 (the request sequence).** Whenever the frames are returned, the requests issued (in
call order) are those issued before the call followed by the requests of `bootstrap_sample` call
`0, 1, ..., nb_samples - 1`,
each started in the state its predecessor left (`gCallRequests`; their shape per call is what
`C12_strat_requests` describes). -/
theorem C18_script_requests (metric : SbMetric) (mode : NormMode) (keys : List (List ℕ))
    (ts : List ERat) (p : SbBootParams) (g : GScores) (st : RngState) (F : SbFrames)
    (h : (sbScriptFrom metric mode keys ts p g st).1 = .ok F) :
    (sbScriptFrom metric mode keys ts p g st).2.requests =
      st.requests ++ ((List.range p.nbSamples).map fun j =>
        gCallRequests g p.cfg (gSampleStates g p.cfg j st)).flatten := by
  rw [C18_script_state metric mode keys ts p g st F h, c18s_states_requests]

/-- an error of the sampler (smoothing, proportion sampling, unknown method / stratification)
propagates; the frames are not built -/
theorem C18_script_error (metric : SbMetric) (mode : NormMode) (keys : List (List ℕ))
    (ts : List ERat) (p : SbBootParams) (g : GScores) (st : RngState) (e : Err) (st1 : RngState)
    (h : gDrawMapped g p.cfg (sbGroupMetric metric ts) p.nbSamples st = (.error e, st1)) :
    sbScriptFrom metric mode keys ts p g st = (.error e, st1) := by
  simp only [sbScriptFrom, h]

/-- the part of `SbRunnable` that concerns the configuration alone -/
def SbCfgRunnable (c : GBootCfg) : Prop :=
  c.smoothing = false ∧ (c.method = .replacement ∨ c.method = .singlePass ∨ c.method = .dynamic) ∧
  c.strat ≠ .unknown

theorem c18s_runnable {cfg : Cfg} {rows : List SbRow} {g : GScores} (hg : SbObjectOf cfg rows g)
    (hne : rows ≠ []) {c : GBootCfg} (hc : SbCfgRunnable c) : SbRunnable g c := by
  refine ⟨hc.1, hc.2.1, hc.2.2, ?_⟩
  rw [hg.groups_eq]
  intro h
  obtain ⟨r, rest, rfl⟩ := List.exists_cons_of_ne_nil hne
  have := c18s_row_key_mem (r :: rest) r List.mem_cons_self
  rw [List.eq_nil_of_length_eq_zero (List.range_eq_nil.mp h)] at this
  cases this

/-- **C18 (totality).** Non-empty frame, built-in sampler that does not raise by design
(replacement, single-pass or dynamic; no / label / group stratification; smoothing off): `showbias`
returns its three frames on EVERY script — in-support or not — and leaves the RNG in the state
after `nb_samples` draws; the replicate array is the group metric of `nb_samples` samples, each
carrying the object's group list and flags. -/
theorem C18_script_total (metric : SbMetric) (cfg : Cfg) (mode : NormMode) (rows : List SbRow)
    (ts : List ERat) (p : SbBootParams) (g : GScores) (st : RngState) (hne : rows ≠ [])
    (hg : SbObjectOf cfg rows g) (hc : SbCfgRunnable p.cfg) :
    ∃ smps : List GScores, smps.length = p.nbSamples ∧
      (∀ smp ∈ smps, smp.groups = g.groups ∧ smp.cfg = g.cfg) ∧
      sbScriptFrom metric mode (groupKeys rows) ts p g st =
        (.ok (sbFramesOf p mode (groupKeys rows) ts (sbGroupMetric metric ts g)
          (sbOverallMetric metric ts g) (smps.map (sbGroupMetric metric ts))),
         gSampleStates g p.cfg p.nbSamples st) := by
  obtain ⟨smps, hl, hd, hall, _⟩ := c18s_draw_spec g hg.inv' p.cfg (c18s_runnable hg hne hc)
    (sbGroupMetric metric ts) p.nbSamples st
  exact ⟨smps, hl, hall, by simp only [sbScriptFrom, hd]⟩

/-- a (G, T) array: `G` rows of `T` entries -/
def SbShape (G T : ℕ) (a : List (List (Option ℚ))) : Prop :=
  a.length = G ∧ ∀ r ∈ a, r.length = T

theorem c18s_normalise_shape (mode : NormMode) (a : List (List (Option ℚ))) (ov : List (Option ℚ))
    (G T : ℕ) (h : SbShape G T a) : SbShape G T (sbNormalise mode a ov) := by
  obtain ⟨f, hf, e⟩ := sbNormalise_rows mode a ov
  rw [e]
  refine ⟨(List.length_map _).trans h.1, fun r hr => ?_⟩
  obtain ⟨row, hrow, rfl⟩ := List.mem_map.mp hr
  exact (hf row).trans (h.2 row hrow)

/-- **C18 (shape).** All three frames have one row per group (= per distinct key, in `groupKeys`
order) and one column per threshold; index and columns are the keys and the thresholds. -/
theorem C18_script_shape (metric : SbMetric) (cfg : Cfg) (mode : NormMode) (rows : List SbRow)
    (ts : List ERat) (p : SbBootParams) (g : GScores) (st : RngState)
    (hg : SbObjectOf cfg rows g) (F : SbFrames) (st1 : RngState)
    (h : sbScriptFrom metric mode (groupKeys rows) ts p g st = (.ok F, st1)) :
    F.keys = groupKeys rows ∧ F.cols = ts ∧
    SbShape (groupKeys rows).length ts.length F.values ∧
    SbShape (groupKeys rows).length ts.length F.lower ∧
    SbShape (groupKeys rows).length ts.length F.upper := by
  obtain ⟨reps, _, hF⟩ := c18s_from_ok metric mode _ ts p g st F st1 h
  have hest := c18s_groupMetric_eq hg metric ts
  have hshape : SbShape (groupKeys rows).length ts.length (sbGroupMetric metric ts g) := by
    rw [hest]
    refine ⟨by simp, ?_⟩
    intro r hr
    obtain ⟨k, _, rfl⟩ := List.mem_map.mp hr
    simp
  rw [hF]
  refine ⟨rfl, rfl, c18s_normalise_shape mode _ _ _ _ hshape, ?_, ?_⟩ <;>
  · refine ⟨by simp [sbFramesOf, hshape.1], fun r hr => ?_⟩
    simp only [sbFramesOf, List.map_map, List.mem_map, List.mem_range] at hr
    obtain ⟨i, _, rfl⟩ := hr
    simp

/-- **C18 (ordered, quantile).** For every script, every normalisation (`by_min` as coded included)
and `0 ≤ alpha ≤ 1`: in every cell `lower ≤ upper`, NaN only together. -/
theorem C18_script_ordered_quantile (metric : SbMetric) (cfg : Cfg) (mode : NormMode)
    (rows : List SbRow) (ts : List ERat) (p : SbBootParams) (g : GScores) (st : RngState)
    (hne : rows ≠ []) (hg : SbObjectOf cfg rows g) (hm : p.method = .quantile)
    (h0 : 0 ≤ p.alpha) (h1 : p.alpha ≤ 1) (F : SbFrames) (st1 : RngState)
    (h : sbScriptFrom metric mode (groupKeys rows) ts p g st = (.ok F, st1)) :
    ∀ i j, i < (groupKeys rows).length → j < ts.length →
      optLe (sbCellAt F.lower i j) (sbCellAt F.upper i j) := by
  obtain ⟨reps, _, _, R⟩ := C18_script_refines metric cfg mode rows ts p g st hne hg F st1 h
  intro i j hi hj
  have e1 : sbCellAt F.lower i j = _ := congrArg Prod.fst (R.ci i j hi hj)
  have e2 : sbCellAt F.upper i j = _ := congrArg Prod.snd (R.ci i j hi hj)
  rw [e1, e2, hm]
  cases sbCellAt F.values i j <;> exact C13_ordered_quantile p.nrm p.pow15 _ 0 p.alpha h0 h1

/-- **C18 (ordered, BC)** with lawful normal oracles (monotone cdf / ppf, cdf ≥ 0, ppf finite inside
`(0,1)`) and `0 < alpha < 1`.  (BCa: `C13_ordered_bca` gives it per component on the branch
`a (z0 + z_alpha) < 1`; beyond the pole the formula itself is unordered.) -/
theorem C18_script_ordered_bc (metric : SbMetric) (cfg : Cfg) (mode : NormMode)
    (rows : List SbRow) (ts : List ERat) (p : SbBootParams) (g : GScores) (st : RngState)
    (hne : rows ≠ []) (hg : SbObjectOf cfg rows g) (hm : p.method = .bc) (hlaw : p.nrm.Lawful)
    (h0 : 0 < p.alpha) (h1 : p.alpha < 1) (F : SbFrames) (st1 : RngState)
    (h : sbScriptFrom metric mode (groupKeys rows) ts p g st = (.ok F, st1)) :
    ∀ i j, i < (groupKeys rows).length → j < ts.length →
      optLe (sbCellAt F.lower i j) (sbCellAt F.upper i j) := by
  obtain ⟨reps, _, _, R⟩ := C18_script_refines metric cfg mode rows ts p g st hne hg F st1 h
  intro i j hi hj
  have e1 : sbCellAt F.lower i j = _ := congrArg Prod.fst (R.ci i j hi hj)
  have e2 : sbCellAt F.upper i j = _ := congrArg Prod.snd (R.ci i j hi hj)
  rw [e1, e2, hm]
  cases sbCellAt F.values i j with
  | none => exact trivial
  | some th => exact C13_ordered_bc p.nrm hlaw p.pow15 _ th p.alpha h0 h1

/-- **C18 (same quantity, end to end).** `by_overall`, a cell whose un-normalised entry is `e` and
whose column has the overall metric `d > 0`: the reported value is `e / d` and the reported interval
is the interval of the RAW script-driven replicates around `e`, divided by the same `d` — for
quantile and BC unconditionally, for BCa under the homogeneity of the `** 1.5` oracle
(`C18_ci_same_quantity`). -/
theorem C18_script_same_quantity (metric : SbMetric) (cfg : Cfg) (rows : List SbRow)
    (ts : List ERat) (p : SbBootParams) (g : GScores) (st : RngState) (hne : rows ≠ [])
    (hg : SbObjectOf cfg rows g) (F : SbFrames) (st1 : RngState)
    (h : sbScriptFrom metric .byOverall (groupKeys rows) ts p g st = (.ok F, st1)) :
    ∃ reps, gDrawMapped g p.cfg (sbGroupMetric metric ts) p.nbSamples st = (.ok reps, st1) ∧
      ∀ i j (hi : i < (groupKeys rows).length) (hj : j < ts.length) (e d : ℚ),
        sbEntry metric cfg rows (groupKeys rows)[i] ts[j] = some e →
        sbOverall metric cfg rows ts[j] = some d → 0 < d →
        (p.method = .bca → ∀ x, p.pow15 ((1 / d) * (1 / d) * x) = (1 / d) * (1 / d) * (1 / d) * p.pow15 x) →
        sbCellAt F.values i j = some (e / d) ∧
        (sbCellAt F.lower i j, sbCellAt F.upper i j) =
          ((bootstrapCI p.nrm p.pow15 p.method (sbRepsCol reps i j) e p.alpha).1.map (· / d),
           (bootstrapCI p.nrm p.pow15 p.method (sbRepsCol reps i j) e p.alpha).2.map (· / d)) := by
  obtain ⟨reps, hd, _, R⟩ := C18_script_refines metric cfg .byOverall rows ts p g st hne hg F st1 h
  refine ⟨reps, hd, ?_⟩
  intro i j hi hj e d he hov hpos hp15
  have hv : sbCellAt F.values i j = some (e / d) := by
    rw [R.cell i j hi hj]
    simp only [sbCellVal, normEntry, he, hov, divNorm, ne_of_gt hpos, if_false, Option.map_some]
  refine ⟨hv, ?_⟩
  rw [R.sbci i j hi hj (e / d) hv, hov]
  exact C18_ci_same_quantity p.nrm p.pow15 p.method _ e d p.alpha hpos hp15

/-- without normalisation: the reported interval is the interval of the raw replicates around the
raw value -/
theorem C18_script_none_quantity (metric : SbMetric) (cfg : Cfg) (rows : List SbRow)
    (ts : List ERat) (p : SbBootParams) (g : GScores) (st : RngState) (hne : rows ≠ [])
    (hg : SbObjectOf cfg rows g) (F : SbFrames) (st1 : RngState)
    (h : sbScriptFrom metric .none (groupKeys rows) ts p g st = (.ok F, st1)) :
    ∃ reps, gDrawMapped g p.cfg (sbGroupMetric metric ts) p.nbSamples st = (.ok reps, st1) ∧
      ∀ i j (hi : i < (groupKeys rows).length) (hj : j < ts.length) (e : ℚ),
        sbEntry metric cfg rows (groupKeys rows)[i] ts[j] = some e →
        sbCellAt F.values i j = some e ∧
        (sbCellAt F.lower i j, sbCellAt F.upper i j) =
          bootstrapCI p.nrm p.pow15 p.method (sbRepsCol reps i j) e p.alpha := by
  obtain ⟨reps, hd, _, R⟩ := C18_script_refines metric cfg .none rows ts p g st hne hg F st1 h
  refine ⟨reps, hd, ?_⟩
  intro i j hi hj e he
  have hv : sbCellAt F.values i j = some e := by
    rw [R.cell i j hi hj]
    simp only [sbCellVal, normEntry, he]
  exact ⟨hv, by rw [R.sbci i j hi hj e hv]; rfl⟩

/-- **C18 (NaN limits).** In every cell `lower` is NaN iff `upper` is; and where the reported value
is a number, the limits are NaN EXACTLY when the component has no finite (normalised) replicate —
e.g. a group that has no row of the class a rate is conditioned on in any of the samples. -/
theorem C18_script_nan (metric : SbMetric) (cfg : Cfg) (mode : NormMode) (rows : List SbRow)
    (ts : List ERat) (p : SbBootParams) (g : GScores) (st : RngState) (hne : rows ≠ [])
    (hg : SbObjectOf cfg rows g) (F : SbFrames) (st1 : RngState)
    (h : sbScriptFrom metric mode (groupKeys rows) ts p g st = (.ok F, st1)) :
    ∃ reps, gDrawMapped g p.cfg (sbGroupMetric metric ts) p.nbSamples st = (.ok reps, st1) ∧
      ∀ i j (_ : i < (groupKeys rows).length) (hj : j < ts.length),
        (sbCellAt F.lower i j = none ↔ sbCellAt F.upper i j = none) ∧
        (∀ e, sbCellAt F.values i j = some e →
          (sbCellAt F.lower i j = none ↔
            (sbRepsNorm mode (sbRepsCol reps i j) (sbOverall metric cfg rows ts[j])).filterMap id = [])) ∧
        ((sbRepsNorm mode (sbRepsCol reps i j) (sbOverall metric cfg rows ts[j])).filterMap id = [] →
          sbCellAt F.lower i j = none ∧ sbCellAt F.upper i j = none) := by
  obtain ⟨reps, hd, _, R⟩ := C18_script_refines metric cfg mode rows ts p g st hne hg F st1 h
  refine ⟨reps, hd, ?_⟩
  intro i j hi hj
  have h1 : sbCellAt F.lower i j = _ := congrArg Prod.fst (R.ci i j hi hj)
  have h2 : sbCellAt F.upper i j = _ := congrArg Prod.snd (R.ci i j hi hj)
  rw [h1, h2]
  cases hv : sbCellAt F.values i j with
  | some e =>
    obtain ⟨n1, n2⟩ := c18s_bootstrapCI_nan p.nrm p.pow15 p.method
      (sbRepsNorm mode (sbRepsCol reps i j) (sbOverall metric cfg rows ts[j])) e p.alpha
    simp only [ciComponent]
    exact ⟨by rw [n1, n2], fun _ _ => n1, fun hnil => ⟨n1.mpr hnil, n2.mpr hnil⟩⟩
  | none =>
    cases hm : p.method with
    | quantile =>
      obtain ⟨n1, n2⟩ := c18s_bootstrapCI_nan p.nrm p.pow15 .quantile
        (sbRepsNorm mode (sbRepsCol reps i j) (sbOverall metric cfg rows ts[j])) 0 p.alpha
      simp only [ciComponent]
      exact ⟨by rw [n1, n2], fun e' he' => (by cases he'), fun hnil => ⟨n1.mpr hnil, n2.mpr hnil⟩⟩
    | bc | bca =>
      simp only [ciComponent]
      exact ⟨trivial, fun e' he' => (by cases he'), fun _ => ⟨trivial, trivial⟩⟩

/-- **C18 / C12 (the replicates of an in-support run).** Non-empty frame, runnable configuration, a
script on which the run is `ok` (every answer lies in the support of its request and the script does
not run out): the replicate array is the group metric of `nb_samples` samples, each of which carries
the object's group list and flags, is sorted, and consists of `(score, group)` pairs of the data's
same class — so entry `[a, i, j]` is the metric of the matrix counted, by the documented decision
rule, on the rows of sample `a` labelled with group `i`. -/
theorem C18_script_replicates (metric : SbMetric) (cfg : Cfg) (mode : NormMode) (rows : List SbRow)
    (ts : List ERat) (p : SbBootParams) (g : GScores) (st : RngState) (hne : rows ≠ [])
    (hg : SbObjectOf cfg rows g) (hc : SbCfgRunnable p.cfg)
    (hok : (sbScriptFrom metric mode (groupKeys rows) ts p g st).2.ok = true) :
    ∃ smps : List GScores, smps.length = p.nbSamples ∧
      gDrawMapped g p.cfg (sbGroupMetric metric ts) p.nbSamples st =
        (.ok (smps.map (sbGroupMetric metric ts)), gSampleStates g p.cfg p.nbSamples st) ∧
      ∀ smp ∈ smps, smp.groups = List.range (groupKeys rows).length ∧ smp.cfg = cfg ∧ GInv smp ∧
        (∀ q ∈ smp.pos, q ∈ g.pos) ∧ (∀ q ∈ smp.neg, q ∈ g.neg) ∧
        ∀ i j (_ : i < (groupKeys rows).length) (hj : j < ts.length),
          sbCellAt (sbGroupMetric metric ts smp) i j =
            (countCM (c12_filterGroup smp.pos i) (c12_filterGroup smp.neg i) 0 0 cfg ts[j]).toQ.sbMetric
              metric := by
  obtain ⟨smps, hl, hd, hall, hin⟩ := c18s_draw_spec g hg.inv' p.cfg (c18s_runnable hg hne hc)
    (sbGroupMetric metric ts) p.nbSamples st
  have hok' : (gSampleStates g p.cfg p.nbSamples st).ok = true := by
    simp only [sbScriptFrom, hd] at hok
    exact hok
  have hgcfg : g.cfg = cfg := (c12_TieEq.cfg hg).trans (sbObject_cfg cfg rows)
  refine ⟨smps, hl, hd, ?_⟩
  intro smp hsmp
  obtain ⟨h1, h2⟩ := hall smp hsmp
  obtain ⟨h3, h4, h5⟩ := hin hok' smp hsmp
  have hgr : smp.groups = List.range (groupKeys rows).length := by rw [h1, hg.groups_eq]
  refine ⟨hgr, h2.trans hgcfg, h3, h4, h5, ?_⟩
  intro i j hi hj
  rw [c18s_groupMetric_cell metric ts smp _ hgr i j hi hj,
    cm_eq_countCM_of_sorted _ (c12_groupScores_sorted h3 i).1 (c12_groupScores_sorted h3 i).2]
  show (countCM _ _ 0 0 smp.cfg ts[j]).toQ.sbMetric metric = _
  rw [h2, hgcfg]
  rfl

/-- **C18 (NaN values, in-support scripts).** `normalize` `None` or `by_overall`, runnable
configuration, an in-support script: wherever the reported value is NaN — the group has no row in the
class / decision the metric is conditioned on, or the overall metric is NaN — EVERY normalised
replicate of that component is NaN as well (a sample of the data cannot contain what the data lacks),
hence both limits are NaN.  This is what the implementation returns there (no finite replicate:
`nb_not_nan = 0`), so the model's convention for a NaN point estimate (`ciComponent`) is never
consulted on a component with a finite replicate.  (`by_min` is excluded: there the value is NaN as
soon as ANOTHER group's entry is, while the component's own replicates are finite.) -/
theorem C18_script_nan_value (metric : SbMetric) (cfg : Cfg) (mode : NormMode) (rows : List SbRow)
    (ts : List ERat) (p : SbBootParams) (g : GScores) (st : RngState) (hne : rows ≠ [])
    (hg : SbObjectOf cfg rows g) (hc : SbCfgRunnable p.cfg) (hmode : mode ≠ .byMin)
    (hok : (sbScriptFrom metric mode (groupKeys rows) ts p g st).2.ok = true) :
    ∃ F reps, sbScriptFrom metric mode (groupKeys rows) ts p g st =
        (.ok F, gSampleStates g p.cfg p.nbSamples st) ∧
      gDrawMapped g p.cfg (sbGroupMetric metric ts) p.nbSamples st =
        (.ok reps, gSampleStates g p.cfg p.nbSamples st) ∧
      ∀ i j (_ : i < (groupKeys rows).length) (hj : j < ts.length),
        sbCellAt F.values i j = none →
        (sbRepsNorm mode (sbRepsCol reps i j) (sbOverall metric cfg rows ts[j])).filterMap id = [] ∧
        sbCellAt F.lower i j = none ∧ sbCellAt F.upper i j = none := by
  obtain ⟨smps, hl, hd, hfacts⟩ := C18_script_replicates metric cfg mode rows ts p g st hne hg hc hok
  have hrun : sbScriptFrom metric mode (groupKeys rows) ts p g st =
      (.ok (sbFramesOf p mode (groupKeys rows) ts (sbGroupMetric metric ts g)
        (sbOverallMetric metric ts g) (smps.map (sbGroupMetric metric ts))),
       gSampleStates g p.cfg p.nbSamples st) := by simp only [sbScriptFrom, hd]
  refine ⟨_, _, hrun, hd, ?_⟩
  obtain ⟨reps', hd', _, R⟩ := C18_script_refines metric cfg mode rows ts p g st hne hg _ _ hrun
  obtain rfl : smps.map (sbGroupMetric metric ts) = reps' :=
    Except.ok.inj (Prod.mk.inj (hd.symm.trans hd')).1
  obtain ⟨repsN, hdN, hnan⟩ := C18_script_nan metric cfg mode rows ts p g st hne hg _ _ hrun
  obtain rfl : smps.map (sbGroupMetric metric ts) = repsN :=
    Except.ok.inj (Prod.mk.inj (hd.symm.trans hdN)).1
  intro i j hi hj hv
  have hgcfg : g.cfg = cfg := (c12_TieEq.cfg hg).trans (sbObject_cfg cfg rows)
  -- the raw entry of the data, as a metric of the object's group matrix
  have hentry : sbEntry metric cfg rows (groupKeys rows)[i] ts[j] =
      ((g.groupScores i).cm ts[j]).toQ.sbMetric metric := by
    rw [c12_tieEq_groupScores hg, sbObject_groupCM cfg rows i hi]
    rfl
  -- a NaN entry of the data is NaN in every sample
  have hraw : sbEntry metric cfg rows (groupKeys rows)[i] ts[j] = none →
      ∀ smp ∈ smps, sbCellAt (sbGroupMetric metric ts smp) i j = none := by
    intro he smp hsmp
    obtain ⟨hgr, hcf, hinv, hp, hn, _⟩ := hfacts smp hsmp
    rw [c18s_groupMetric_cell metric ts smp _ hgr i j hi hj]
    rw [hentry] at he
    exact c18s_metric_nan_mono _ _ (c18s_group_cm_dominated g smp hg.inv' hinv (hcf.trans hgcfg.symm)
      hp hn i ts[j]) metric he
  have hnil : (sbRepsNorm mode (sbRepsCol (smps.map (sbGroupMetric metric ts)) i j)
      (sbOverall metric cfg rows ts[j])).filterMap id = [] := by
    rw [R.cell i j hi hj] at hv
    cases mode with
    | byMin => exact absurd rfl hmode
    | none =>
      simp only [sbRepsNorm, sbRepsCol, List.map_map, c18s_filterMap_map_nil]
      exact hraw hv
    | byOverall =>
      simp only [sbRepsNorm, sbRepsCol, List.map_map, c18s_filterMap_map_nil]
      intro smp hsmp
      exact (divNorm_eq_none_iff _ _).mpr (((divNorm_eq_none_iff _ _).mp hv).imp_right
        fun he => hraw he smp hsmp)
  exact ⟨hnil, (hnan i j hi hj).2.2 hnil⟩

/-- totality and shape for `showbias` itself (the model's stably sorted object) -/
theorem C18_script_total_top (metric : SbMetric) (cfg : Cfg) (mode : NormMode) (rows : List SbRow)
    (ts : List ERat) (p : SbBootParams) (st : RngState) (hne : rows ≠ [])
    (hc : SbCfgRunnable p.cfg) :
    ∃ F, showbiasScript metric cfg mode rows ts p st =
        (.ok F, gSampleStates (sbObject cfg rows) p.cfg p.nbSamples st) ∧
      F.keys = groupKeys rows ∧ F.cols = ts ∧
      SbShape (groupKeys rows).length ts.length F.values ∧
      SbShape (groupKeys rows).length ts.length F.lower ∧
      SbShape (groupKeys rows).length ts.length F.upper := by
  obtain ⟨smps, _, _, hrun⟩ := C18_script_total metric cfg mode rows ts p _ st hne
    (SbObjectOf.self cfg rows) hc
  have hrun' : showbiasScript metric cfg mode rows ts p st =
      sbScriptFrom metric mode (groupKeys rows) ts p (sbObject cfg rows) st := by
    unfold showbiasScript
    rw [if_neg hne]
  exact ⟨_, hrun'.trans hrun,
    C18_script_shape metric cfg mode rows ts p _ st (SbObjectOf.self cfg rows) _ _ hrun⟩

/-! ### Non-vacuity: a concrete frame, script and run -/

/-- two groups (keys `[0]`, `[1]`), five rows; group `[1]` has no positive row -/
def c18s_exRows : List SbRow :=
  [⟨[1], false, 1 / 2⟩, ⟨[0], true, 3 / 4⟩, ⟨[0], false, 1 / 4⟩, ⟨[0], true, 1 / 4⟩, ⟨[1], false, 1⟩]

def c18s_exParams (m : BootMethod) : SbBootParams :=
  ⟨⟨.replacement, .byLabel, false⟩, 2, m, 1 / 2, Normal.toy, fun _ => 0⟩

/-- two `bootstrap_sample` calls, stratified by label: each asks for 2 positive and 3 negative
indices with replacement -/
def c18s_exScript : List (List ℕ) := [[0, 1], [0, 1, 2], [1, 1], [2, 2, 0]]

/-- the hypotheses of the theorems hold together: non-empty frame, an admissible object (the
model's own), a runnable configuration, the quantile method with `0 ≤ alpha ≤ 1`, lawful oracles
with `0 < alpha < 1` -/
example : c18s_exRows ≠ [] ∧ SbObjectOf ⟨.pos, .pos⟩ c18s_exRows (sbObject ⟨.pos, .pos⟩ c18s_exRows) ∧
    SbCfgRunnable (c18s_exParams .quantile).cfg ∧ (c18s_exParams .quantile).method = .quantile ∧
    (0 : ℚ) ≤ (c18s_exParams .quantile).alpha ∧ (c18s_exParams .quantile).alpha ≤ 1 ∧
    (c18s_exParams .bc).nrm.Lawful ∧ (0 : ℚ) < (c18s_exParams .bc).alpha ∧
    (c18s_exParams .bc).alpha < 1 := by
  exact ⟨by simp [c18s_exRows], SbObjectOf.self _ _, ⟨rfl, Or.inl rfl, by simp [c18s_exParams]⟩, rfl,
    one_half_pos.le, half_le_self zero_le_one, Normal.toy_lawful, one_half_pos, one_half_lt_one⟩

/-- `SbObjectOf` is satisfied by every admissible order, not only by the model's own object
(`c12_tieEq_of_admissible`; `c12_tieAB` is an instance with a tied block in which two admissible
orders differ) -/
example (g : GScores) (hp : c12_Admissible (sbPosPairs c18s_exRows) g.pos)
    (hn : c12_Admissible (sbNegPairs c18s_exRows) g.neg) (hc : g.cfg = ⟨.pos, .pos⟩)
    (hgr : g.groups = (sbObject ⟨.pos, .pos⟩ c18s_exRows).groups) :
    SbObjectOf ⟨.pos, .pos⟩ c18s_exRows g :=
  c12_tieEq_of_admissible _ _ _ none g hp hn hc hgr

/-- the run exists (by the totality theorem, for any script) and has the two row labels -/
example : ∃ F, showbiasScript .tpr ⟨.pos, .pos⟩ .byOverall c18s_exRows [.fin (1 / 2)]
    (c18s_exParams .quantile) (RngState.init c18s_exScript) =
      (.ok F, gSampleStates (sbObject ⟨.pos, .pos⟩ c18s_exRows) (c18s_exParams .quantile).cfg 2
        (RngState.init c18s_exScript)) ∧ F.keys = [[0], [1]] := by
  obtain ⟨F, h, hk, _⟩ := C18_script_total_top .tpr ⟨.pos, .pos⟩ .byOverall c18s_exRows [.fin (1 / 2)]
    (c18s_exParams .quantile) (RngState.init c18s_exScript) (by simp [c18s_exRows])
    ⟨rfl, Or.inl rfl, by simp [c18s_exParams]⟩
  exact ⟨F, h, by rw [hk]; decide +kernel⟩

end SA

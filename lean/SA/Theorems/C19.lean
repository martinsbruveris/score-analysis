/-
C19 — a `FraudScores` object is a `Scores` object with pos=genuines, neg=frauds, the
translated score class and `equal_class = pos`, guarded by a `[0, 1]` range validation.
The model is a thin wrapper: the content of the theorems is that it adds nothing but the validation.
-/
import SA.Spec.C19
import SA.Theorems.C01

namespace SA
open Spec.C19

/-! ### helper lemmas -/

theorem outOfRange_sortQ (l : List Rat) : outOfRange (sortQ l) = outOfRange l := by
  unfold outOfRange
  rw [(sortQ_perm l).any_eq, (sortQ_perm l).any_eq]

theorem anyOutside_eq (g f : List Rat) : anyOutside g f = (outOfRange g || outOfRange f) := by
  rw [Bool.eq_iff_iff]
  simp only [anyOutside, outOfRange, List.any_eq_true, List.mem_append, Bool.or_eq_true,
    decide_eq_true_eq,
    gt_iff_lt, or_and_right, and_or_left, exists_or]
  exact or_or_or_comm

/-- The constructor in closed form: validation of the inputs as given (the sort in between
does not matter), then the plain `Scores` constructor. -/
theorem FraudScores.make_eq (g f : List Rat) (eg ef : Nat) (sc : DocLabel) :
    FraudScores.make g f eg ef sc =
      if anyOutside g f then .error .valueError
      else .ok (Scores.make g f eg ef ⟨docToBinary sc, .pos⟩ false) := by
  simp only [FraudScores.make, Scores.make, Bool.false_eq_true, if_false, docToBinary,
    outOfRange_sortQ, anyOutside_eq]
  cases outOfRange g <;> cases outOfRange f <;> rfl

/-! ### C19 (refinement) -/

/-- **C19 (refines).** Whenever construction succeeds, the object built IS the `Scores`
object with pos=genuines, neg=frauds, the same easy counts, the translated score class and
`equal_class = pos` (as an equality of objects: same held arrays, counts and flags). -/
theorem C19_refines (g f : List Rat) (eg ef : Nat) (sc : DocLabel) (s : Scores)
    (h : FraudScores.make g f eg ef sc = .ok s) :
    s = Scores.make g f eg ef ⟨docToBinary sc, .pos⟩ false := by
  rw [FraudScores.make_eq] at h
  split at h
  · cases h
  · exact (Except.ok.inj h).symm

/-- Corollary: every confusion matrix (any threshold incl. ±inf) coincides. -/
theorem C19_refines_cm (g f : List Rat) (eg ef : Nat) (sc : DocLabel) (s : Scores)
    (h : FraudScores.make g f eg ef sc = .ok s) (t : ERat) :
    s.cm t = (Scores.make g f eg ef ⟨docToBinary sc, .pos⟩ false).cm t := by
  rw [C19_refines g f eg ef sc s h]

/-- Corollary: threshold setting coincides for every metric, method, target and `nextafter`
oracle — including the error branch (empty relevant array). -/
theorem C19_refines_thresholdAt (g f : List Rat) (eg ef : Nat) (sc : DocLabel) (s : Scores)
    (h : FraudScores.make g f eg ef sc = .ok s) (u : Ulp) (metric : Metric) (r : Rat)
    (m : Method) :
    s.thresholdAt u metric r m =
      (Scores.make g f eg ef ⟨docToBinary sc, .pos⟩ false).thresholdAt u metric r m := by
  rw [C19_refines g f eg ef sc s h]

/-- Corollary: `swap()` coincides. -/
theorem C19_refines_swap (g f : List Rat) (eg ef : Nat) (sc : DocLabel) (s : Scores)
    (h : FraudScores.make g f eg ef sc = .ok s) :
    s.swap = (Scores.make g f eg ef ⟨docToBinary sc, .pos⟩ false).swap := by
  rw [C19_refines g f eg ef sc s h]

/-- Corollary (with C01): the matrix of a `FraudScores` object is the count by the decision
rule "accept iff score >= t" (`score_class = genuine`) resp. "accept iff score <= t"
(`score_class = fraud`), genuines being the positives; easy genuines are added to TP and easy
frauds to TN. -/
theorem C19_cm_counts (g f : List Rat) (eg ef : Nat) (sc : DocLabel) (s : Scores)
    (h : FraudScores.make g f eg ef sc = .ok s) (t : ERat) :
    s.cm t = countCM g f eg ef ⟨docToBinary sc, .pos⟩ t := by
  rw [C19_refines_cm g f eg ef sc s h, C01_cells]

/-! ### C19 (validation) -/

/-- **C19 (validates).** Construction fails — with ValueError — iff some genuine or fraud
score is `< 0` or `> 1` (decidable predicate `anyOutside` on the inputs as given). -/
theorem C19_validates (g f : List Rat) (eg ef : Nat) (sc : DocLabel) :
    FraudScores.make g f eg ef sc = .error .valueError ↔ anyOutside g f = true := by
  rw [FraudScores.make_eq]
  cases anyOutside g f <;> simp

/-- The other side: construction succeeds iff every score is in `[0, 1]`; no third outcome
(the only error the constructor can produce is the ValueError above). -/
theorem C19_validates_ok (g f : List Rat) (eg ef : Nat) (sc : DocLabel) :
    (∃ s, FraudScores.make g f eg ef sc = .ok s) ↔ anyOutside g f = false := by
  rw [FraudScores.make_eq]
  cases anyOutside g f
  · exact iff_of_true ⟨_, rfl⟩ rfl
  · exact iff_of_false (fun ⟨_, h⟩ => nomatch h) (nomatch ·)

/-- `anyOutside` says what it should: some member of either list is `< 0` or `> 1`. -/
theorem C19_validates_pointwise (g f : List Rat) :
    anyOutside g f = true ↔ ∃ x, (x ∈ g ∨ x ∈ f) ∧ (x < 0 ∨ 1 < x) := by
  simp only [anyOutside, List.any_eq_true, List.mem_append, Bool.or_eq_true, decide_eq_true_eq]

/-- Values exactly `0` and `1` are accepted (closed interval). -/
theorem C19_validates_closed (eg ef : Nat) (sc : DocLabel) :
    ∃ s, FraudScores.make [0, 1] [1, 0] eg ef sc = .ok s :=
  (C19_validates_ok _ _ eg ef sc).mpr (by decide +kernel)

/-- The held arrays of a constructed object lie in `[0, 1]`. -/
theorem C19_held_in_range (g f : List Rat) (eg ef : Nat) (sc : DocLabel) (s : Scores)
    (h : FraudScores.make g f eg ef sc = .ok s) :
    ∀ x, x ∈ s.pos ∨ x ∈ s.neg → 0 ≤ x ∧ x ≤ 1 := by
  have hok : anyOutside g f = false := (C19_validates_ok g f eg ef sc).mp ⟨s, h⟩
  obtain rfl := C19_refines g f eg ef sc s h
  intro x hx
  have hx' : x ∈ g ∨ x ∈ f := hx.imp (sortQ_perm g).mem_iff.mp (sortQ_perm f).mem_iff.mp
  have hnot : ¬ (x < 0 ∨ 1 < x) := fun hc =>
    Bool.false_ne_true (hok.symm.trans ((C19_validates_pointwise g f).mpr ⟨x, hx', hc⟩))
  exact ⟨Rat.not_lt.mp fun hc => hnot (Or.inl hc), Rat.not_lt.mp fun hc => hnot (Or.inr hc)⟩

/-! ### C19 (labels) -/

/-- **C19 (labels).** genuine↔pos, fraud↔neg and the two translations are mutually inverse. -/
theorem C19_labels_inverse :
    (∀ l : DocLabel, binaryToDoc (docToBinary l) = l) ∧
    (∀ b : Label, docToBinary (binaryToDoc b) = b) ∧
    docToBinary .genuine = .pos ∧ docToBinary .fraud = .neg := by
  refine ⟨?_, ?_, rfl, rfl⟩
  · intro l; cases l <;> rfl
  · intro b; cases b <;> rfl

/-! ### C19 (from_labels, aliases) -/

/-- **C19 (from_labels).** `from_labels` is the constructor applied to the scores whose label
equals the genuine label (genuines) and to all others (frauds), in the order given; when it
succeeds the object is the one `Scores.from_labels` builds with `pos_label = genuine_label`. -/
theorem C19_from_labels (samples : List (Bool × Rat)) (eg ef : Nat) (sc : DocLabel) :
    FraudScores.fromLabels samples eg ef sc =
        FraudScores.make ((samples.filter (fun s => s.1)).map (·.2))
          ((samples.filter (fun s => !s.1)).map (·.2)) eg ef sc ∧
    ∀ s, FraudScores.fromLabels samples eg ef sc = .ok s →
      s = Scores.fromLabels samples eg ef ⟨docToBinary sc, .pos⟩ false := by
  refine ⟨rfl, ?_⟩
  intro s h
  exact C19_refines _ _ eg ef sc s h

/-- **C19 (aliases).** `genuines` / `frauds` are the held positive / negative arrays, which are
the sorted inputs; easy counts and flags are passed through (`equal_class = pos`). -/
theorem C19_aliases (g f : List Rat) (eg ef : Nat) (sc : DocLabel) (s : Scores)
    (h : FraudScores.make g f eg ef sc = .ok s) :
    FraudScores.genuines s = s.pos ∧ FraudScores.frauds s = s.neg ∧
    s.pos = sortQ g ∧ s.neg = sortQ f ∧
    s.pos.Pairwise (· ≤ ·) ∧ s.neg.Pairwise (· ≤ ·) ∧
    s.easyPos = eg ∧ s.easyNeg = ef ∧ s.cfg = ⟨docToBinary sc, .pos⟩ := by
  have hs := C19_refines g f eg ef sc s h
  subst hs
  simp only [FraudScores.genuines, FraudScores.frauds, Scores.make, Bool.false_eq_true, if_false,
    true_and]
  exact ⟨sortQ_pairwise g, sortQ_pairwise f, trivial⟩

/-! ### The executable spec clauses hold of the model -/

def FraudScores.raised (r : Except Err Scores) : Bool :=
  match r with
  | .error _ => true
  | .ok _ => false

theorem C19_spec_valid (g f : List Rat) (eg ef : Nat) (sc : DocLabel) :
    validOK g f (FraudScores.raised (FraudScores.make g f eg ef sc)) = true := by
  rw [FraudScores.make_eq]
  cases h : anyOutside g f <;> simp [validOK, FraudScores.raised, h]

theorem C19_spec_cm (g f : List Rat) (eg ef : Nat) (sc : DocLabel) (s : Scores)
    (h : FraudScores.make g f eg ef sc = .ok s) (t : ERat) :
    cmOK g f eg ef sc t (s.cm t) = true := by
  rw [C19_refines_cm g f eg ef sc s h]
  exact C01_spec_cells g f eg ef (cfgOf sc) t

theorem C19_spec_alias (g f : List Rat) (eg ef : Nat) (sc : DocLabel) (s : Scores)
    (h : FraudScores.make g f eg ef sc = .ok s) :
    aliasOK g f (FraudScores.genuines s) (FraudScores.frauds s) s.pos s.neg = true := by
  obtain ⟨h1, h2, h3, h4, _⟩ := C19_aliases g f eg ef sc s h
  simp [aliasOK, h1, h2, h3, h4]

theorem C19_spec_flags (g f : List Rat) (eg ef : Nat) (sc : DocLabel) (s : Scores)
    (h : FraudScores.make g f eg ef sc = .ok s) :
    flagsOK sc s.cfg.scoreClass s.cfg.equalClass = true := by
  obtain ⟨_, _, _, _, _, _, _, _, h9⟩ := C19_aliases g f eg ef sc s h
  simp [flagsOK, h9]

theorem C19_spec_labels :
    labelsOK (docToBinary .genuine) (docToBinary .fraud) (binaryToDoc .pos) (binaryToDoc .neg)
      = true := by decide

/-! ### Non-vacuity: the hypothesis `make = .ok s` is satisfiable (unsorted input, ties across
classes, boundary values, both score classes), and so is the failure branch. -/

example : ∃ s, FraudScores.make [1/2, 0, 1] [1, 1/4, 1/2] 2 3 .fraud = .ok s :=
  (C19_validates_ok _ _ 2 3 .fraud).mpr (by decide +kernel)

example : ∃ s, FraudScores.make [] [] 0 0 .genuine = .ok s :=
  (C19_validates_ok _ _ 0 0 .genuine).mpr (by decide +kernel)

example : FraudScores.make [1/2] [1/4, 9/8] 0 0 .genuine = .error .valueError :=
  (C19_validates _ _ 0 0 .genuine).mpr (by decide +kernel)

example : FraudScores.make [1/2, -1/1024] [1/4] 0 0 .fraud = .error .valueError :=
  (C19_validates _ _ 0 0 .fraud).mpr (by decide +kernel)

end SA

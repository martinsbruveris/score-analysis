/-
C20 — synthetic datasets hit their specified operating points and proportions
(`score_analysis/experimental/datasets.py`).

Oracle hypotheses are stated per theorem:
* `N.RightInv` : `Phi (PhiInv p) = p` for `0 < p < 1`   (rate ∘ threshold = id, from_metrics),
* `N.LeftInv`  : `PhiInv (Phi x) = x`                    (threshold ∘ rate = id),
* `rng.Lawful` (`SampleRng`, `BernRng`) : the generator returns what NumPy documents (a binomial draw
  is `≤ n`, `normal` returns `size` values, `shuffle` permutes, `binomial(1, p, n)` / `choice(4, n)`
  return `n` values in range).  `np.sqrt` needs no hypothesis.
-/
import SA.Spec.C20
import SA.Proofs.Bisect
import Mathlib.Tactic.Linarith
import Mathlib.Tactic.Ring

namespace SA
open Spec.C20

/-! ### oracle hypotheses -/

/-- `Phi (PhiInv p) = p` on `(0, 1)` -/
def StdNormal.RightInv (N : StdNormal) : Prop := ∀ p, 0 < p → p < 1 → N.Phi (N.PhiInv p) = p

/-- `PhiInv (Phi x) = x` -/
def StdNormal.LeftInv (N : StdNormal) : Prop := ∀ x, N.PhiInv (N.Phi x) = x

/-- a toy inverse pair (the theorems below are algebraic: any inverse pair will do) -/
def StdNormal.toy : StdNormal := ⟨fun x => x, fun p => p⟩

theorem StdNormal.toy_rightInv : StdNormal.toy.RightInv := fun _ _ _ => rfl
theorem StdNormal.toy_leftInv : StdNormal.toy.LeftInv := fun _ => rfl

structure SampleRng.Lawful (rng : SampleRng) : Prop where
  binomial_le : ∀ n p, rng.binomial n p ≤ n
  normalPos_len : ∀ loc sc k, (rng.normalPos loc sc k).length = k
  normalNeg_len : ∀ loc sc k, (rng.normalNeg loc sc k).length = k

structure BernRng.Lawful (rng : BernRng) : Prop where
  shuffle_perm : ∀ l, (rng.shuffle l).Perm l
  binomial1_len : ∀ p n, (rng.binomial1 p n).length = n
  binomial1_bin : ∀ p n, ∀ x ∈ rng.binomial1 p n, x ≤ 1
  choice4_len : ∀ p n, (rng.choice4 p n).length = n
  choice4_lt : ∀ p n, ∀ x ∈ rng.choice4 p n, x < 4

def SampleRng.toy : SampleRng :=
  ⟨fun n _ => n, fun loc _ k => List.replicate k loc, fun loc _ k => List.replicate k loc⟩

theorem SampleRng.toy_lawful : SampleRng.toy.Lawful :=
  ⟨fun _ _ => Nat.le_refl _, fun _ _ _ => List.length_replicate, fun _ _ _ => List.length_replicate⟩

def BernRng.toy : BernRng :=
  ⟨fun _ n => List.replicate n 0, fun _ n => List.replicate n 0, fun l => l⟩

theorem BernRng.toy_lawful : BernRng.toy.Lawful where
  shuffle_perm := fun l => List.Perm.refl l
  binomial1_len := fun _ _ => List.length_replicate
  binomial1_bin := by intro p n x hx; rw [List.eq_of_mem_replicate hx]; exact Nat.zero_le _
  choice4_len := fun _ _ => List.length_replicate
  choice4_lt := by intro p n x hx; rw [List.eq_of_mem_replicate hx]; exact Nat.succ_pos _

/-! ### location-scale forms -/

theorem StdNormal.cdf_ppf (N : StdNormal) (hN : N.RightInv) (loc scale p : ℚ) (hs : 0 < scale)
    (h0 : 0 < p) (h1 : p < 1) : N.cdf (N.ppf p loc scale) loc scale = p := by
  unfold StdNormal.cdf StdNormal.ppf
  rw [add_sub_cancel_left, mul_div_cancel_left₀ _ hs.ne']
  exact hN p h0 h1

theorem StdNormal.ppf_cdf (N : StdNormal) (hN : N.LeftInv) (loc scale x : ℚ) (hs : 0 < scale) :
    N.ppf (N.cdf x loc scale) loc scale = x := by
  unfold StdNormal.cdf StdNormal.ppf
  rw [hN, mul_comm, div_mul_cancel₀ _ hs.ne', add_sub_cancel]

theorem StdNormal.sf_isf (N : StdNormal) (hN : N.RightInv) (loc scale p : ℚ) (hs : 0 < scale)
    (h0 : 0 < p) (h1 : p < 1) : N.sf (N.isf p loc scale) loc scale = p := by
  unfold StdNormal.sf StdNormal.isf
  rw [N.cdf_ppf hN loc scale (1 - p) hs (sub_pos.mpr h1) (sub_lt_self 1 h0), sub_sub_cancel]

theorem StdNormal.isf_sf (N : StdNormal) (hN : N.LeftInv) (loc scale x : ℚ) (hs : 0 < scale) :
    N.isf (N.sf x loc scale) loc scale = x := by
  unfold StdNormal.sf StdNormal.isf
  rw [sub_sub_cancel]
  exact N.ppf_cdf hN loc scale x hs

/-! ### the spec clauses at `eps = 0` -/

theorem near_refl (a : ℚ) : near 0 a a = true := by
  simp [near, Spec.C20.absQ]

theorem nearAll_refl (l : List ℚ) : nearAll 0 l l = true := by
  induction l with
  | nil => rfl
  | cons a l ih => simp only [nearAll, near_refl, ih, Bool.and_self]

theorem nearRelAll_refl (l : List ℚ) : nearRelAll 0 l l = true := by
  induction l with
  | nil => rfl
  | cons a l ih => simp [nearRelAll, nearRel, Spec.C20.absQ, ih]

theorem binaryAll_of {l : List ℕ} (h : ∀ x ∈ l, x = 0 ∨ x = 1) : binaryAll l = true :=
  List.all_eq_true.mpr fun x hx => decide_eq_true (Nat.le_one_iff_eq_zero_or_eq_one.mpr (h x hx))

theorem map_eq_self {f : ℚ → ℚ} {l : List ℚ} (h : ∀ x ∈ l, f x = x) : l.map f = l :=
  (List.map_congr_left h).trans (List.map_id l)

/-! ### C20: rates and thresholds are mutually inverse -/

/-- **C20 (inverse, FNR).** `fnr(threshold_at_fnr(r)) = r` for `0 < r < 1`
(needs `Phi ∘ PhiInv = id`, `sigma_pos > 0`). -/
theorem C20_inverse_fnr (N : StdNormal) (hN : N.RightInv) (d : NormalDataset)
    (hs : 0 < d.sigmaPos) (r : ℚ) (h0 : 0 < r) (h1 : r < 1) :
    d.fnr N (d.thresholdAtFnr N r) = r :=
  N.cdf_ppf hN _ _ r hs h0 h1

/-- **C20 (inverse, FPR).** `fpr(threshold_at_fpr(r)) = r` for `0 < r < 1`
(needs `Phi ∘ PhiInv = id`, `sigma_neg > 0`). -/
theorem C20_inverse_fpr (N : StdNormal) (hN : N.RightInv) (d : NormalDataset)
    (hs : 0 < d.sigmaNeg) (r : ℚ) (h0 : 0 < r) (h1 : r < 1) :
    d.fpr N (d.thresholdAtFpr N r) = r :=
  N.sf_isf hN _ _ r hs h0 h1

/-- **C20 (inverse, threshold from FNR).** `threshold_at_fnr(fnr(t)) = t` for every threshold
(needs `PhiInv ∘ Phi = id`, `sigma_pos > 0`). -/
theorem C20_inverse_thr_fnr (N : StdNormal) (hN : N.LeftInv) (d : NormalDataset)
    (hs : 0 < d.sigmaPos) (t : ℚ) : d.thresholdAtFnr N (d.fnr N t) = t :=
  N.ppf_cdf hN _ _ t hs

/-- **C20 (inverse, threshold from FPR).** `threshold_at_fpr(fpr(t)) = t` for every threshold
(needs `PhiInv ∘ Phi = id`, `sigma_neg > 0`). -/
theorem C20_inverse_thr_fpr (N : StdNormal) (hN : N.LeftInv) (d : NormalDataset)
    (hs : 0 < d.sigmaNeg) (t : ℚ) : d.thresholdAtFpr N (d.fpr N t) = t :=
  N.isf_sf hN _ _ t hs

/-- **C20 (inverse).** All four relations together. -/
theorem C20_inverse (N : StdNormal) (hR : N.RightInv) (hL : N.LeftInv) (d : NormalDataset)
    (hp : 0 < d.sigmaPos) (hn : 0 < d.sigmaNeg) :
    (∀ r, 0 < r → r < 1 → d.fnr N (d.thresholdAtFnr N r) = r) ∧
    (∀ r, 0 < r → r < 1 → d.fpr N (d.thresholdAtFpr N r) = r) ∧
    (∀ t, d.thresholdAtFnr N (d.fnr N t) = t) ∧
    (∀ t, d.thresholdAtFpr N (d.fpr N t) = t) :=
  ⟨fun r => C20_inverse_fnr N hR d hp r, fun r => C20_inverse_fpr N hR d hn r,
   C20_inverse_thr_fnr N hL d hp, C20_inverse_thr_fpr N hL d hn⟩

example : ∃ (N : StdNormal) (d : NormalDataset), N.RightInv ∧ N.LeftInv ∧ 0 < d.sigmaPos ∧
    0 < d.sigmaNeg :=
  ⟨StdNormal.toy, NormalDataset.make 1, StdNormal.toy_rightInv, StdNormal.toy_leftInv,
    by decide +kernel, by decide +kernel⟩

/-! ### C20: roc() -/

/-- **C20 (roc consistent).** Whenever `roc` returns, its rates are the analytic FNR and FPR at
its own thresholds (no oracle hypothesis needed), one rate per requested point. -/
theorem C20_roc_consistent (N : StdNormal) (d : NormalDataset) (fnr fpr : Option (List ℚ))
    (R : ROC) (h : d.roc N fnr fpr = .ok R) :
    R.fnr = R.thresholds.map (d.fnr N) ∧ R.fpr = R.thresholds.map (d.fpr N) ∧
    (∀ f, fnr = some f → R.thresholds = f.map (d.thresholdAtFnr N)) ∧
    (∀ g, fpr = some g → R.thresholds = g.map (d.thresholdAtFpr N)) := by
  cases fnr <;> cases fpr <;> simp only [NormalDataset.roc, reduceCtorEq, Except.ok.injEq] at h <;> subst h
  · exact ⟨rfl, rfl, nofun, fun _ hg => by cases hg; rfl⟩
  · exact ⟨rfl, rfl, fun _ hf => by cases hf; rfl, nofun⟩

/-- **C20 (roc errors).** `roc` raises exactly when both or neither of `fnr`, `fpr` are given. -/
theorem C20_roc_errors (N : StdNormal) (d : NormalDataset) (fnr fpr : Option (List ℚ)) :
    (d.roc N fnr fpr = .error .rocNeither ↔ (fnr = none ∧ fpr = none)) ∧
    (d.roc N fnr fpr = .error .rocBoth ↔ (fnr.isSome ∧ fpr.isSome)) ∧
    ((∃ R, d.roc N fnr fpr = .ok R) ↔ (fnr.isSome ≠ fpr.isSome)) := by
  cases fnr <;> cases fpr <;> simp [NormalDataset.roc]

/-- **C20 (roc reproduces the requested rates).** With `Phi ∘ PhiInv = id` and points in `(0,1)`
the curve built from FNR points has exactly these FNRs; likewise for FPR points. -/
theorem C20_roc_points (N : StdNormal) (hN : N.RightInv) (d : NormalDataset)
    (hp : 0 < d.sigmaPos) (hn : 0 < d.sigmaNeg) (pts : List ℚ)
    (hpts : ∀ r ∈ pts, 0 < r ∧ r < 1) :
    (∃ R, d.roc N (some pts) none = .ok R ∧ R.fnr = pts) ∧
    (∃ R, d.roc N none (some pts) = .ok R ∧ R.fpr = pts) := by
  refine ⟨⟨_, rfl, ?_⟩, ⟨_, rfl, ?_⟩⟩
  · show (pts.map _).map (d.fnr N) = pts
    rw [List.map_map]
    exact map_eq_self fun r hr => C20_inverse_fnr N hN d hp r (hpts r hr).1 (hpts r hr).2
  · show (pts.map _).map (d.fpr N) = pts
    rw [List.map_map]
    exact map_eq_self fun r hr => C20_inverse_fpr N hN d hn r (hpts r hr).1 (hpts r hr).2

example : ∃ (N : StdNormal) (d : NormalDataset) (pts : List ℚ), N.RightInv ∧ 0 < d.sigmaPos ∧
    0 < d.sigmaNeg ∧ ∀ r ∈ pts, 0 < r ∧ r < 1 :=
  ⟨StdNormal.toy, NormalDataset.make 1, [1 / 2], StdNormal.toy_rightInv, by decide +kernel,
    by decide +kernel, by intro r hr; simp at hr; subst hr; constructor <;> norm_num⟩

/-! ### C20: from_metrics -/

theorem truncQ_of_nonneg (x : ℚ) (h : 0 ≤ x) : truncQ x = x.floor := by
  unfold truncQ; rw [if_pos h]

theorem one_le_floor_div (s : ℤ) (r : ℚ) (hs : 1 ≤ s) (h0 : 0 < r) (h1 : r < 1) :
    s ≤ ((s : ℚ) / r).floor := by
  rw [Rat.le_floor_iff, le_div_iff₀ h0]
  exact mul_le_of_le_one_right (Int.cast_nonneg (zero_le_one.trans hs)) h1.le

/-- **C20 (from_metrics).** For rates in `(0,1)`, supports `≥ 1` and positive sigmas the
constructed model has `FNR(0) = fnr`, `FPR(0) = fpr` (needs `Phi ∘ PhiInv = id`),
`n = ⌊fnr_support / fnr⌋ + ⌊fpr_support / fpr⌋`, `p_pos = ⌊fnr_support / fnr⌋ / n`, at least
`fnr_support` positives and `fpr_support` negatives, the given sigmas and `score_class = pos`. -/
theorem C20_from_metrics (N : StdNormal) (hN : N.RightInv) (fnr fpr : ℚ) (s1 s2 : ℤ) (σp σn : ℚ)
    (hf0 : 0 < fnr) (hf1 : fnr < 1) (hp0 : 0 < fpr) (hp1 : fpr < 1) (hs1 : 1 ≤ s1) (hs2 : 1 ≤ s2)
    (hσp : 0 < σp) (hσn : 0 < σn) :
    ∃ d, NormalDataset.fromMetrics N fnr fpr s1 s2 σp σn = .ok d ∧
      d.fnr N 0 = fnr ∧ d.fpr N 0 = fpr ∧
      d.n = some (((s1 : ℚ) / fnr).floor + ((s2 : ℚ) / fpr).floor) ∧
      d.pPos = ((((s1 : ℚ) / fnr).floor : ℤ) : ℚ) /
        (((((s1 : ℚ) / fnr).floor + ((s2 : ℚ) / fpr).floor : ℤ)) : ℚ) ∧
      s1 ≤ ((s1 : ℚ) / fnr).floor ∧ s2 ≤ ((s2 : ℚ) / fpr).floor ∧
      d.sigmaPos = σp ∧ d.sigmaNeg = σn ∧ d.scoreClass = .pos := by
  have hk1 := one_le_floor_div s1 fnr hs1 hf0 hf1
  have hk2 := one_le_floor_div s2 fpr hs2 hp0 hp1
  have t1 : truncQ ((s1 : ℚ) / fnr) = ((s1 : ℚ) / fnr).floor :=
    truncQ_of_nonneg _ (div_nonneg (Int.cast_nonneg (zero_le_one.trans hs1)) hf0.le)
  have t2 : truncQ ((s2 : ℚ) / fpr) = ((s2 : ℚ) / fpr).floor :=
    truncQ_of_nonneg _ (div_nonneg (Int.cast_nonneg (zero_le_one.trans hs2)) hp0.le)
  have hn : ¬ ((s1 : ℚ) / fnr).floor + ((s2 : ℚ) / fpr).floor = 0 :=
    (add_pos (zero_lt_one.trans_le (hs1.trans hk1)) (zero_lt_one.trans_le (hs2.trans hk2))).ne'
  simp only [NormalDataset.fromMetrics, if_neg hf0.ne', if_neg hp0.ne', t1, t2, if_neg hn]
  refine ⟨_, rfl, ?_, ?_, rfl, rfl, hk1, hk2, rfl, rfl, rfl⟩
  -- the means are chosen so that 0 is the threshold at the requested rate
  · have z : (0 : ℚ) = N.ppf fnr (-(N.PhiInv fnr) * σp) σp := by unfold StdNormal.ppf; ring
    exact (congrArg (N.cdf · _ σp) z).trans (N.cdf_ppf hN _ σp fnr hσp hf0 hf1)
  · have z : (0 : ℚ) = N.isf fpr (-(N.PhiInv (1 - fpr)) * σn) σn := by unfold StdNormal.isf StdNormal.ppf; ring
    exact (congrArg (N.sf · _ σn) z).trans (N.sf_isf hN _ σn fpr hσn hp0 hp1)

example : ∃ (N : StdNormal) (fnr fpr : ℚ) (s1 s2 : ℤ) (σp σn : ℚ), N.RightInv ∧ 0 < fnr ∧ fnr < 1 ∧
    0 < fpr ∧ fpr < 1 ∧ 1 ≤ s1 ∧ 1 ≤ s2 ∧ 0 < σp ∧ 0 < σn :=
  ⟨StdNormal.toy, 1 / 2, 1 / 2, 1, 1, 1, 1, StdNormal.toy_rightInv, by norm_num, by norm_num,
    by norm_num, by norm_num, by norm_num, by norm_num, by norm_num, by norm_num⟩

/-! ### C20: sample() -/

/-- **C20 (sample split).** For every response `k = rng.binomial(n, p)` of the generator
(`k ≤ n`) the sample holds `k` positive and `n - k` negative scores (`n` in total, namely the
sorted normal draws) and keeps the model's score direction. -/
theorem C20_sample_split (d : NormalDataset) (rng : SampleRng) (hr : rng.Lawful) (n : Option ℤ)
    (pPos : Option ℚ) (m : ℕ)
    (hm : d.pickN n = some (m : ℤ)) :
    ∃ s, d.sample rng n pPos = .ok s ∧
      s.pos.length = rng.binomial m (d.pickP pPos) ∧
      s.neg.length = m - rng.binomial m (d.pickP pPos) ∧
      s.pos.length + s.neg.length = m ∧
      s.cfg.scoreClass = d.scoreClass ∧ s.cfg.equalClass = .pos ∧
      s.easyPos = 0 ∧ s.easyNeg = 0 ∧
      s.pos.Perm (rng.normalPos d.muPos d.sigmaPos s.pos.length) ∧
      s.neg.Perm (rng.normalNeg d.muNeg d.sigmaNeg s.neg.length) := by
  have hk := hr.binomial_le m (d.pickP pPos)
  simp only [NormalDataset.sample, hm, Int.toNat_natCast, if_neg
    (Int.not_lt.mpr (Int.natCast_nonneg m)),
    if_neg (Int.not_lt.mpr (Int.sub_nonneg_of_le (Int.ofNat_le.mpr hk))), Int.toNat_sub]
  generalize rng.binomial m (d.pickP pPos) = k at hk ⊢
  have lp : (sortQ (rng.normalPos d.muPos d.sigmaPos k)).length = k := by rw [length_sortQ, hr.normalPos_len]
  have ln : (sortQ (rng.normalNeg d.muNeg d.sigmaNeg (m - k))).length = m - k := by
    rw [length_sortQ, hr.normalNeg_len]
  refine ⟨_, rfl, lp, ln, ?_, rfl, rfl, rfl, rfl, ?_, ?_⟩
  · show (sortQ _).length + (sortQ _).length = m
    rw [lp, ln]; exact Nat.add_sub_cancel' hk
  · show (sortQ _).Perm (rng.normalPos _ _ (sortQ _).length)
    rw [lp]; exact sortQ_perm _
  · show (sortQ _).Perm (rng.normalNeg _ _ (sortQ _).length)
    rw [ln]; exact sortQ_perm _

example : ∃ (d : NormalDataset) (rng : SampleRng) (n : Option ℤ) (m : ℕ), rng.Lawful ∧
    d.pickN n = some (m : ℤ) :=
  ⟨NormalDataset.make 1, SampleRng.toy, some 3, 3, SampleRng.toy_lawful, rfl⟩

/-- `sample` raises when neither the call nor the dataset provides `n`. -/
theorem C20_sample_none (d : NormalDataset) (rng : SampleRng) (pPos : Option ℚ) (h : d.n = none) :
    d.sample rng none pPos = .error .nNone := by
  unfold NormalDataset.sample; simp [NormalDataset.pickN, h]

/-! ### floors and `np.repeat` -/

theorem lt_floor_add_one (x : ℚ) : x < x.floor + 1 := by
  have := Rat.lt_floor_add_one x
  rwa [Int.cast_add, Int.cast_one] at this

theorem floorOK_floor (x : ℚ) (k : ℤ) (h : k = x.floor) : floorOK 0 x k = true := by
  subst h
  simp only [floorOK, zero_mul, add_zero, sub_zero, Bool.and_eq_true, decide_eq_true_eq]
  exact ⟨Rat.floor_le x, lt_floor_add_one x⟩

theorem floor_natCast_mul_nonneg (m : ℕ) {q : ℚ} (hq : 0 ≤ q) : 0 ≤ ((m : ℚ) * q).floor := by
  rw [Rat.le_floor_iff, Int.cast_zero]
  exact mul_nonneg (Nat.cast_nonneg m) hq

theorem sub_two_floors (T x y : ℚ) :
    T - x - y ≤ T - x.floor - y.floor ∧ T - x.floor - y.floor < T - x - y + 2 := by
  have := Rat.floor_le x
  have := Rat.floor_le y
  have := lt_floor_add_one x
  have := lt_floor_add_one y
  constructor <;> linarith

theorem rest_of_two_floors {m a c ones : ℕ} {qa qc p : ℚ} (ha : (a : ℤ) = ((m : ℚ) * qa).floor)
    (hc : (c : ℤ) = ((m : ℚ) * qc).floor) (h : a + c + ones = m) (hp : p = 1 - qa - qc) :
    (m : ℚ) * p ≤ ones ∧ (ones : ℚ) < m * p + 2 := by
  have e : (ones : ℚ) = m - ((m : ℚ) * qa).floor - ((m : ℚ) * qc).floor := by
    rw [← ha, ← hc, ← h]; push_cast; ring
  rw [e, hp, mul_sub, mul_sub, mul_one]
  exact sub_two_floors _ _ _

theorem le_of_mem_repeatFrom {x : ℕ}
    : ∀ {i : ℕ} {ks : List ℤ}, x ∈ repeatFrom i ks → i ≤ x ∧ x < i + ks.length
  | _, [], h => by simp [repeatFrom] at h
  | i, k :: ks, h => by
    rcases List.mem_append.mp h with h | h
    · rw [List.eq_of_mem_replicate h]; exact ⟨Nat.le_refl _, Nat.lt_add_of_pos_right (Nat.succ_pos _)⟩
    · have := le_of_mem_repeatFrom h
      rw [List.length_cons, Nat.add_comm ks.length 1, ← Nat.add_assoc]
      exact ⟨Nat.le_of_succ_le this.1, this.2⟩

theorem length_repeatFrom
    : ∀ (i : ℕ) (ks : List ℤ), (repeatFrom i ks).length = (ks.map Int.toNat).sum
  | _, [] => rfl
  | i, k :: ks => by
    rw [repeatFrom, List.length_append, List.length_replicate, length_repeatFrom (i + 1) ks,
      List.map_cons,
      List.sum_cons]

theorem count_repeatFrom
    : ∀ (i n : ℕ) (ks : List ℤ), (repeatFrom i ks).count (i + n) = (ks.getD n 0).toNat
  | _, _, [] => rfl
  | i, 0, k :: ks => by
    have h : (repeatFrom (i + 1) ks).count i = 0 :=
      List.count_eq_zero.mpr fun h => absurd (le_of_mem_repeatFrom h).1 (Nat.not_succ_le_self i)
    rw [Nat.add_zero, repeatFrom, List.count_append, List.count_replicate_self, h]; rfl
  | i, n + 1, k :: ks => by
    have h : (List.replicate k.toNat i).count (i + (n + 1)) = 0 :=
      List.count_eq_zero.mpr fun h => absurd (List.eq_of_mem_replicate h)
        (Nat.ne_of_gt (Nat.lt_add_of_pos_right (Nat.succ_pos n)))
    have e : i + (n + 1) = i + 1 + n := by rw [Nat.add_comm n 1, Nat.add_assoc]
    rw [repeatFrom, List.count_append, h, zero_add, e, count_repeatFrom (i + 1) n ks]; rfl

theorem count_repeatFrom_zero (n : ℕ) (ks : List ℤ)
    : (repeatFrom 0 ks).count n = (ks.getD n 0).toNat := by
  have := count_repeatFrom 0 n ks
  rwa [Nat.zero_add] at this

/-! ### C20: Bernoulli sampling -/

/-- **C20 (Bernoulli, non-random).** For `0 ≤ p ≤ 1` the non-random sample has `n` entries, all
0 or 1, exactly `⌊n p⌋` of them ones (and `n - ⌊n p⌋` zeros), for every shuffle. -/
theorem C20_bernoulli (rng : BernRng) (hr : rng.Lawful) (p : ℚ) (hp0 : 0 ≤ p) (hp1 : p ≤ 1)
    (selfN n : Option ℕ) (m : ℕ) (hm : resolveN n selfN = .ok m) :
    ∃ l, bernoulliSample rng p selfN n false = .ok l ∧ l.length = m ∧
      ((l.count 1 : ℕ) : ℤ) = ((m : ℚ) * p).floor ∧
      ((l.count 0 : ℕ) : ℤ) = (m : ℤ) - ((m : ℚ) * p).floor ∧
      (∀ x ∈ l, x = 0 ∨ x = 1) := by
  obtain ⟨k, hk⟩ := Int.eq_ofNat_of_zero_le (floor_natCast_mul_nonneg m hp0)
  have hkm : k ≤ m := by
    exact_mod_cast hk ▸ (Rat.floor_le _).trans (mul_le_of_le_one_right (Nat.cast_nonneg m) hp1)
  have hneg : ¬ ((m : ℤ) - k < 0 ∨ (k : ℤ) < 0) :=
    not_or.mpr ⟨not_lt.mpr (sub_nonneg.mpr (Int.ofNat_le.mpr hkm)), not_lt.mpr
      (Int.natCast_nonneg k)⟩
  have hperm := hr.shuffle_perm (repeatFrom 0 [(m : ℤ) - k, k])
  simp only [bernoulliSample, hm, Bool.false_eq_true, if_false, hk, if_neg hneg]
  refine ⟨_, rfl, ?_, ?_, ?_, ?_⟩
  · rw [hperm.length_eq, length_repeatFrom]
    show ((m : ℤ) - k).toNat + ((k : ℤ).toNat + 0) = m
    rw [Int.toNat_sub, Int.toNat_natCast, Nat.add_zero, Nat.sub_add_cancel hkm]
  · rw [hperm.count_eq, count_repeatFrom_zero]; rfl
  · rw [hperm.count_eq, count_repeatFrom_zero]
    show (((m : ℤ) - k).toNat : ℤ) = m - k
    rw [Int.toNat_sub, Nat.cast_sub hkm]
  · exact fun x hx => Nat.le_one_iff_eq_zero_or_eq_one.mp
      (Nat.le_of_lt_succ (le_of_mem_repeatFrom (hperm.mem_iff.mp hx)).2)

/-- **C20 (Bernoulli, spec form).** The model's non-random sample satisfies the executable
clause with `eps = 0`. -/
theorem C20_spec_bernoulli (rng : BernRng) (hr : rng.Lawful) (p : ℚ) (hp0 : 0 ≤ p) (hp1 : p ≤ 1)
    (selfN n : Option ℕ) (m : ℕ) (hm : resolveN n selfN = .ok m) :
    ∃ l, bernoulliSample rng p selfN n false = .ok l ∧ bernoulliOK 0 m p l = true := by
  obtain ⟨l, hl, hlen, hc1, _, hbin⟩ := C20_bernoulli rng hr p hp0 hp1 selfN n m hm
  refine ⟨l, hl, ?_⟩
  simp only [bernoulliOK, hlen, decide_true, binaryAll_of hbin, Bool.true_and]
  exact floorOK_floor _ _ hc1

/-- **C20 (Bernoulli, random).** The random sample has `n` entries, all 0 or 1. -/
theorem C20_bernoulli_random (rng : BernRng) (hr : rng.Lawful) (p : ℚ) (selfN n : Option ℕ) (m : ℕ)
    (hm : resolveN n selfN = .ok m) :
    ∃ l, bernoulliSample rng p selfN n true = .ok l ∧ l.length = m ∧ ∀ x ∈ l, x = 0 ∨ x = 1 := by
  simp only [bernoulliSample, hm]
  exact ⟨_, rfl, hr.binomial1_len p m, fun x hx => Nat.le_one_iff_eq_zero_or_eq_one.mp
    (hr.binomial1_bin p m x hx)⟩

/-- `n or self.n`: ValueError exactly when no positive `n` is given and the dataset has none. -/
theorem C20_resolveN (n selfN : Option ℕ) :
    (resolveN n selfN = .error .nNone ↔ ((n = none ∨ n = some 0) ∧ selfN = none)) ∧
    (∀ k, 0 < k → resolveN (some k) selfN = .ok k) := by
  refine ⟨?_, fun k hk => ?_⟩
  · rcases n with _ | _ | k <;> cases selfN <;> simp [resolveN]
  · cases k with
    | zero => exact absurd hk (lt_irrefl 0)
    | succ k => rfl

example : ∃ (rng : BernRng) (p : ℚ) (selfN n : Option ℕ) (m : ℕ), rng.Lawful ∧ 0 ≤ p ∧ p ≤ 1 ∧
    resolveN n selfN = .ok m :=
  ⟨BernRng.toy, 1 / 2, none, some 4, 4, BernRng.toy_lawful, by norm_num, by norm_num, rfl⟩

/-! ### C20: correlated pair -/

/-- **C20 (joint sum).** The four joint probabilities sum to one, whatever `sqrt` returns. -/
theorem C20_joint_sum (sqrt : ℚ → ℚ) (p1 p2 rho : ℚ) :
    (correlatedJoint sqrt p1 p2 rho).sum = 1 := by
  simp only [correlatedJoint, List.sum_cons, List.sum_nil]
  ring

theorem correlatedJoint_marginals {sqrt : ℚ → ℚ} {p1 p2 rho q0 q1 q2 q3 : ℚ}
    (h : correlatedJoint sqrt p1 p2 rho = [q0, q1, q2, q3]) :
    q1 + q3 = p1 ∧ q2 + q3 = p2 ∧ q0 + q1 + q2 + q3 = 1 := by
  simp only [correlatedJoint, List.cons.injEq, and_true] at h
  obtain ⟨rfl, rfl, rfl, rfl⟩ := h
  refine ⟨?_, ?_, ?_⟩ <;> ring

/-- the marginals of the joint distribution are `p1` and `p2` -/
theorem C20_joint_marginals (sqrt : ℚ → ℚ) (p1 p2 rho : ℚ) :
    ∃ q0 q1 q2 q3, correlatedJoint sqrt p1 p2 rho = [q0, q1, q2, q3] ∧
      q1 + q3 = p1 ∧ q2 + q3 = p2 ∧ q0 + q1 + q2 + q3 = 1 :=
  ⟨_, _, _, _, rfl, correlatedJoint_marginals rfl⟩

theorem any_neg_eq_false_iff (p : List ℚ)
    : (p.any fun q => decide (q < 0)) = false ↔ ∀ q ∈ p, 0 ≤ q := by
  simp only [List.any_eq_false, decide_eq_true_eq, not_lt]

/-- counts of the non-random joint sample for a valid distribution -/
theorem jointCounts_valid (m : ℕ) (q0 q1 q2 q3 : ℚ) (h0 : 0 ≤ q0) (h1 : 0 ≤ q1) (h2 : 0 ≤ q2)
    (h3 : 0 ≤ q3) (hsum : q0 + q1 + q2 + q3 = 1) :
    ∃ a b c e : ℕ, jointCounts m [q0, q1, q2, q3] = [(a : ℤ), (b : ℤ), (c : ℤ), (e : ℤ)] ∧
      (a : ℤ) = ((m : ℚ) * q0).floor ∧ (b : ℤ) = ((m : ℚ) * q1).floor ∧
      (c : ℤ) = ((m : ℚ) * q2).floor ∧ a + b + c + e = m := by
  have hle : ((m : ℚ) * q0).floor + ((m : ℚ) * q1).floor + ((m : ℚ) * q2).floor ≤ (m : ℤ) := by
    have hm : (m : ℚ) * q0 + m * q1 + m * q2 + m * q3 = m := by
      rw [← mul_add, ← mul_add, ← mul_add, hsum, mul_one]
    rw [← Int.cast_le (R := ℚ), Int.cast_add, Int.cast_add, Int.cast_natCast]
    calc _ ≤ (m : ℚ) * q0 + m * q1 + m * q2 :=
          add_le_add (add_le_add (Rat.floor_le _) (Rat.floor_le _)) (Rat.floor_le _)
      _ = m - m * q3 := eq_sub_of_add_eq hm
      _ ≤ m := sub_le_self _ (mul_nonneg (Nat.cast_nonneg m) h3)
  obtain ⟨a, ha⟩ := Int.eq_ofNat_of_zero_le (floor_natCast_mul_nonneg m h0)
  obtain ⟨b, hb⟩ := Int.eq_ofNat_of_zero_le (floor_natCast_mul_nonneg m h1)
  obtain ⟨c, hc⟩ := Int.eq_ofNat_of_zero_le (floor_natCast_mul_nonneg m h2)
  rw [ha, hb, hc] at hle
  have hle' : a + b + c ≤ m := by exact_mod_cast hle
  refine ⟨a, b, c, m - (a + b + c), ?_, ha.symm, hb.symm, hc.symm, Nat.add_sub_cancel' hle'⟩
  simp only [jointCounts, List.map_cons, List.map_nil, ha, hb, hc, List.dropLast, List.sum_cons,
    List.sum_nil,
    List.cons_append, List.nil_append, and_true, add_zero, ← add_assoc, Nat.cast_sub hle',
    Nat.cast_add]

theorem correlatedSample_invalid (sqrt : ℚ → ℚ) (rng : BernRng) (p1 p2 rho : ℚ) {selfN n : Option ℕ}
    (random : Bool) {m : ℕ} (hm : resolveN n selfN = .ok m)
    (hinv : jointInvalid (correlatedJoint sqrt p1 p2 rho) = true) :
    correlatedSample sqrt rng p1 p2 rho selfN n random = .error .negProb := by
  simp only [correlatedSample, hm]
  exact if_pos hinv

theorem correlatedSample_random (sqrt : ℚ → ℚ) (rng : BernRng) (p1 p2 rho : ℚ) {selfN n : Option ℕ}
    {m : ℕ} (hm : resolveN n selfN = .ok m) (hvalid : ∀ q ∈ correlatedJoint sqrt p1 p2 rho, 0 ≤ q) :
    correlatedSample sqrt rng p1 p2 rho selfN n true =
      .ok ((rng.choice4 (correlatedJoint sqrt p1 p2 rho) m).map (· % 2),
        (rng.choice4 (correlatedJoint sqrt p1 p2 rho) m).map (· / 2)) := by
  simp only [correlatedSample, hm, (any_neg_eq_false_iff _).mpr hvalid, Bool.false_eq_true,
    if_false, if_true]

theorem correlatedSample_nonrandom (sqrt : ℚ → ℚ) (rng : BernRng) (p1 p2 rho : ℚ)
    {selfN n : Option ℕ}
    {m : ℕ} (hm : resolveN n selfN = .ok m) (hvalid : ∀ q ∈ correlatedJoint sqrt p1 p2 rho, 0 ≤ q) :
    correlatedSample sqrt rng p1 p2 rho selfN n false =
      .ok ((rng.shuffle (repeatFrom 0 (jointCounts m (correlatedJoint sqrt p1 p2 rho)))).map
      (· % 2),
        (rng.shuffle (repeatFrom 0 (jointCounts m (correlatedJoint sqrt p1 p2 rho)))).map
          (· / 2)) := by
  have hnn : ((jointCounts m (correlatedJoint sqrt p1 p2 rho)).any fun k => decide (k < 0)) =
    false := by
    obtain ⟨q0, q1, q2, q3, hj, _, _, hsum⟩ := C20_joint_marginals sqrt p1 p2 rho
    rw [hj] at hvalid ⊢
    simp only [List.forall_mem_cons] at hvalid
    obtain ⟨a, b, c, e, hcnt, _⟩ :=
      jointCounts_valid m q0 q1 q2 q3 hvalid.1 hvalid.2.1 hvalid.2.2.1 hvalid.2.2.2.1 hsum
    rw [hcnt]
    simp only [List.any_cons, List.any_nil, Bool.or_false, Bool.or_eq_false_iff,
      decide_eq_false_iff_not, not_lt]
    exact ⟨Int.natCast_nonneg a, Int.natCast_nonneg b, Int.natCast_nonneg c, Int.natCast_nonneg e⟩
  simp only [correlatedSample, hm, (any_neg_eq_false_iff _).mpr hvalid, hnn, Bool.false_eq_true,
    if_false]

/-- **C20 (joint valid).** With a resolved `n`, `sample` raises the "negative probabilities"
ValueError iff one of the four joint probabilities is negative (a decidable predicate, the one
evaluated by `Spec.C20.jointInvalid`); for a valid joint distribution it raises nothing at all. -/
theorem C20_joint_valid (sqrt : ℚ → ℚ) (rng : BernRng) (p1 p2 rho : ℚ) (selfN n : Option ℕ)
    (random : Bool) (m : ℕ) (hm : resolveN n selfN = .ok m) :
    (correlatedSample sqrt rng p1 p2 rho selfN n random = .error .negProb ↔
      jointInvalid (correlatedJoint sqrt p1 p2 rho) = true) ∧
    ((∃ e, correlatedSample sqrt rng p1 p2 rho selfN n random = .error e) ↔
      ∃ q ∈ correlatedJoint sqrt p1 p2 rho, q < 0) := by
  by_cases hinv : jointInvalid (correlatedJoint sqrt p1 p2 rho) = true
  · have e := correlatedSample_invalid sqrt rng p1 p2 rho random hm hinv
    have hex : ∃ q ∈ correlatedJoint sqrt p1 p2 rho, q < 0 := by
      simpa only [jointInvalid, List.any_eq_true, decide_eq_true_eq] using hinv
    exact ⟨⟨fun _ => hinv, fun _ => e⟩, ⟨fun _ => hex, fun _ => ⟨_, e⟩⟩⟩
  · have hvalid := (any_neg_eq_false_iff _).mp (Bool.eq_false_iff.mpr hinv)
    obtain ⟨r, hr⟩ : ∃ r, correlatedSample sqrt rng p1 p2 rho selfN n random = .ok r := by
      cases random
      · exact ⟨_, correlatedSample_nonrandom sqrt rng p1 p2 rho hm hvalid⟩
      · exact ⟨_, correlatedSample_random sqrt rng p1 p2 rho hm hvalid⟩
    rw [hr]
    refine ⟨⟨fun h => (by cases h), fun h => absurd h hinv⟩, ⟨fun ⟨_, h⟩ => (by cases h), ?_⟩⟩
    rintro ⟨q, hq, hlt⟩
    exact absurd (hvalid q hq) (not_le.mpr hlt)

/-- the non-random joint sample, row by row -/
theorem corr_nonrandom (sqrt : ℚ → ℚ) (rng : BernRng) (hr : rng.Lawful) (p1 p2 rho : ℚ)
    (selfN n : Option ℕ) (m : ℕ) (hm : resolveN n selfN = .ok m)
    (hvalid : ∀ q ∈ correlatedJoint sqrt p1 p2 rho, 0 ≤ q) :
    ∃ (q0 q1 q2 q3 : ℚ) (a b c e : ℕ) (j : List ℕ),
      correlatedJoint sqrt p1 p2 rho = [q0, q1, q2, q3] ∧
      correlatedSample sqrt rng p1 p2 rho selfN n false = .ok (j.map (· % 2), j.map (· / 2)) ∧
      (a : ℤ) = ((m : ℚ) * q0).floor ∧ (b : ℤ) = ((m : ℚ) * q1).floor ∧
      (c : ℤ) = ((m : ℚ) * q2).floor ∧ a + b + c + e = m ∧
      j.length = m ∧ (j.map (· % 2)).count 1 = b + e ∧ (j.map (· / 2)).count 1 = c + e ∧
      j.count 0 = a ∧ j.count 1 = b ∧ j.count 2 = c ∧ (∀ x ∈ j, x < 4) := by
  have hs := correlatedSample_nonrandom sqrt rng p1 p2 rho hm hvalid
  obtain ⟨q0, q1, q2, q3, hj, _, _, hsum⟩ := C20_joint_marginals sqrt p1 p2 rho
  rw [hj] at hvalid hs
  simp only [List.forall_mem_cons] at hvalid
  obtain ⟨a, b, c, e, hcnt, ha, hb, hc, htot⟩ :=
    jointCounts_valid m q0 q1 q2 q3 hvalid.1 hvalid.2.1 hvalid.2.2.1 hvalid.2.2.2.1 hsum
  rw [hcnt] at hs
  have hperm := hr.shuffle_perm (repeatFrom 0 [(a : ℤ), b, c, e])
  have hlt : ∀ x ∈ rng.shuffle (repeatFrom 0 [(a : ℤ), b, c, e]), x < 4 := fun x hx =>
    (le_of_mem_repeatFrom (hperm.mem_iff.mp hx)).2
  have hcount : ∀ k, (rng.shuffle (repeatFrom 0 [(a : ℤ), b, c, e])).count k =
      ([(a : ℤ), b, c, e].getD k 0).toNat := fun k => by rw [hperm.count_eq, count_repeatFrom_zero]
  refine ⟨q0, q1, q2, q3, a, b, c, e, _, hj, hs, ha, hb, hc, htot, ?_, ?_, ?_, hcount 0, hcount 1,
    hcount 2, hlt⟩
  · rw [hperm.length_eq, length_repeatFrom, ← htot, Nat.add_assoc, Nat.add_assoc]; rfl
  -- the cell code is `row0 + 2 row1`: ones of row 0 in cells 1, 3; of row 1 in cells 2, 3
  · rw [(hperm.map _).count_eq]; simp [repeatFrom, List.count_replicate]
  · rw [(hperm.map _).count_eq]; simp [repeatFrom, List.count_replicate]

/-- **C20 (marginals).** For a valid joint distribution the non-random sample has exactly `n`
columns, and the number of ones in row 0 exceeds `n p1` by less than 2 (`0 ≤ ones - n p1 < 2`),
likewise row 1 and `p2` — hence both marginals are reproduced to within three draws. -/
theorem C20_marginals (sqrt : ℚ → ℚ) (rng : BernRng) (hr : rng.Lawful) (p1 p2 rho : ℚ)
    (selfN n : Option ℕ) (m : ℕ) (hm : resolveN n selfN = .ok m)
    (hvalid : ∀ q ∈ correlatedJoint sqrt p1 p2 rho, 0 ≤ q) :
    ∃ r0 r1, correlatedSample sqrt rng p1 p2 rho selfN n false = .ok (r0, r1) ∧
      r0.length = m ∧ r1.length = m ∧
      (m : ℚ) * p1 ≤ (r0.count 1 : ℕ) ∧ ((r0.count 1 : ℕ) : ℚ) < (m : ℚ) * p1 + 2 ∧
      (m : ℚ) * p2 ≤ (r1.count 1 : ℕ) ∧ ((r1.count 1 : ℕ) : ℚ) < (m : ℚ) * p2 + 2 := by
  obtain ⟨q0, q1, q2, q3, a, b, c, e, j, hj, hs, ha, hb, hc, htot, hlen, hr0, hr1, _, _, _, _⟩ :=
    corr_nonrandom sqrt rng hr p1 p2 rho selfN n m hm hvalid
  obtain ⟨hm1, hm2, hsum⟩ := correlatedJoint_marginals hj
  -- the ones of row 0 are what the cells 0 and 2 leave of `m`; row 1: the cells 0 and 1
  obtain ⟨l1, u1⟩ := rest_of_two_floors (ones := b + e) (p := p1) ha hc (by rw [← htot]; ring) (by rw [← hm1, ← hsum]; ring)
  obtain ⟨l2, u2⟩ := rest_of_two_floors (ones := c + e) (p := p2) ha hb (by rw [← htot]; ring) (by rw [← hm2, ← hsum]; ring)
  rw [← hr0] at l1 u1
  rw [← hr1] at l2 u2
  exact ⟨_, _, hs, by rw [List.length_map, hlen], by rw [List.length_map, hlen], l1, u1, l2, u2⟩

/-- **C20 (shape).** Whenever the correlated sample returns (random or not), it consists of two
rows of `n` entries, all 0 or 1. -/
theorem C20_shape (sqrt : ℚ → ℚ) (rng : BernRng) (hr : rng.Lawful) (p1 p2 rho : ℚ)
    (selfN n : Option ℕ) (random : Bool) (m : ℕ) (hm : resolveN n selfN = .ok m) (r0 r1 : List ℕ)
    (h : correlatedSample sqrt rng p1 p2 rho selfN n random = .ok (r0, r1)) :
    r0.length = m ∧ r1.length = m ∧ (∀ x ∈ r0, x = 0 ∨ x = 1) ∧ (∀ x ∈ r1, x = 0 ∨ x = 1) := by
  have hvalid : ∀ q ∈ correlatedJoint sqrt p1 p2 rho, 0 ≤ q :=
    (any_neg_eq_false_iff _).mp (Bool.eq_false_iff.mpr fun hinv => by
      rw [correlatedSample_invalid sqrt rng p1 p2 rho random hm hinv] at h; cases h)
  obtain ⟨j, rfl, rfl, hlen, hlt⟩ : ∃ j : List ℕ, r0 = j.map (· % 2) ∧ r1 = j.map (· / 2) ∧
    j.length = m ∧
      ∀ x ∈ j, x < 4 := by
    cases random
    · obtain ⟨_, _, _, _, _, _, _, _, j, _, hs, _, _, _, _, hlen, _, _, _, _, _, hlt⟩ :=
        corr_nonrandom sqrt rng hr p1 p2 rho selfN n m hm hvalid
      rw [hs] at h
      cases h
      exact ⟨j, rfl, rfl, hlen, hlt⟩
    · rw [correlatedSample_random sqrt rng p1 p2 rho hm hvalid] at h
      cases h
      exact ⟨_, rfl, rfl, hr.choice4_len _ m, hr.choice4_lt _ m⟩
  exact ⟨by rw [List.length_map, hlen], by rw [List.length_map, hlen],
    List.forall_mem_map.mpr fun y _ => Nat.mod_two_eq_zero_or_one y,
    List.forall_mem_map.mpr fun y hy => Nat.le_one_iff_eq_zero_or_eq_one.mp
      (Nat.le_of_lt_succ ((Nat.div_lt_iff_lt_mul two_pos).mpr (hlt y hy)))⟩

theorem marginal_clauses {m : ℕ} {p : ℚ} {r : List ℕ} (h1 : (m : ℚ) * p ≤ (r.count 1 : ℕ))
    (h2 : ((r.count 1 : ℕ) : ℚ) < m * p + 2) :
    marginalOK 3 m p r = true ∧ marginalTightOK 0 m p r = true := by
  have d1 : 0 ≤ ((r.count 1 : ℕ) : ℚ) - m * p := sub_nonneg.mpr h1
  have d2 : ((r.count 1 : ℕ) : ℚ) - m * p < 2 := sub_lt_iff_lt_add'.mpr h2
  have d3 : Spec.C20.absQ (((r.count 1 : ℕ) : ℚ) - m * p) ≤ 3 := by
    rw [Spec.C20.absQ, if_neg (not_lt.mpr d1)]
    exact (d2.trans (by norm_num)).le
  refine ⟨decide_eq_true d3, ?_⟩
  simp only [marginalTightOK, neg_zero, add_zero, Bool.and_eq_true, decide_eq_true_eq]
  exact ⟨d1, d2⟩

/-- **C20 (correlated pair, spec form).** For a valid joint distribution the model's non-random
sample satisfies the executable clauses with `eps = 0`: shape `(2, n)` of 0/1 values, both
marginals within 3 draws (indeed `0 ≤ ones - n p < 2`). -/
theorem C20_spec_corr (sqrt : ℚ → ℚ) (rng : BernRng) (hr : rng.Lawful) (p1 p2 rho : ℚ)
    (selfN n : Option ℕ) (m : ℕ) (hm : resolveN n selfN = .ok m)
    (hvalid : ∀ q ∈ correlatedJoint sqrt p1 p2 rho, 0 ≤ q) :
    ∃ r0 r1, correlatedSample sqrt rng p1 p2 rho selfN n false = .ok (r0, r1) ∧
      shapeOK m [r0, r1] = true ∧ marginalOK 3 m p1 r0 = true ∧ marginalOK 3 m p2 r1 = true ∧
      marginalTightOK 0 m p1 r0 = true ∧ marginalTightOK 0 m p2 r1 = true ∧
      jointSumOK 0 (correlatedJoint sqrt p1 p2 rho) = true ∧
      validOK (correlatedJoint sqrt p1 p2 rho) false = true := by
  obtain ⟨r0, r1, hs, _, _, a1, a2, b1, b2⟩ :=
    C20_marginals sqrt rng hr p1 p2 rho selfN n m hm hvalid
  obtain ⟨l0, l1, bin0, bin1⟩ := C20_shape sqrt rng hr p1 p2 rho selfN n false m hm r0 r1 hs
  refine ⟨r0, r1, hs, ?_, (marginal_clauses a1 a2).1, (marginal_clauses b1 b2).1,
    (marginal_clauses a1 a2).2,
    (marginal_clauses b1 b2).2, ?_, ?_⟩
  · simp only [shapeOK, List.length_cons, List.length_nil, List.all_cons, List.all_nil, l0, l1,
      binaryAll_of bin0, binaryAll_of bin1, decide_true, Bool.and_self]
  · simp only [jointSumOK, C20_joint_sum]
    exact near_refl 1
  · simp only [validOK, jointInvalid, (any_neg_eq_false_iff _).mpr hvalid, beq_self_eq_true]

example : ∃ (sqrt : ℚ → ℚ) (rng : BernRng) (p1 p2 rho : ℚ) (selfN n : Option ℕ) (m : ℕ),
    rng.Lawful ∧ resolveN n selfN = .ok m ∧ ∀ q ∈ correlatedJoint sqrt p1 p2 rho, 0 ≤ q :=
  ⟨fun _ => 0, BernRng.toy, 1 / 2, 1 / 2, 0, some 4, none, 4, BernRng.toy_lawful, rfl, by
    decide +kernel⟩

/-- an invalid parameter set exists as well (the ValueError branch is reachable) -/
example : jointInvalid (correlatedJoint (fun _ => 1) (9 / 10) (8 / 10) 1) = true := by
  decide +kernel

/-! ### further spec forms -/

theorem rejoin_map (j : List ℕ) : rejoin (j.map (· % 2)) (j.map (· / 2)) = j := by
  unfold rejoin
  induction j with
  | nil => rfl
  | cons x xs ih =>
    simp only [List.map_cons, List.zip_cons_cons, List.cons.injEq]
    exact ⟨Nat.mod_add_div x 2, ih⟩

/-- **C20 (cells, spec form).** In the model's non-random sample the joint cells `(0,0)`, `(1,0)`,
`(0,1)` occur exactly `⌊n q_i⌋` times (and `(1,1)` takes the remainder). -/
theorem C20_spec_cells (sqrt : ℚ → ℚ) (rng : BernRng) (hr : rng.Lawful) (p1 p2 rho : ℚ)
    (selfN n : Option ℕ) (m : ℕ) (hm : resolveN n selfN = .ok m)
    (hvalid : ∀ q ∈ correlatedJoint sqrt p1 p2 rho, 0 ≤ q) :
    ∃ r0 r1, correlatedSample sqrt rng p1 p2 rho selfN n false = .ok (r0, r1) ∧
      cellsOK 0 m (correlatedJoint sqrt p1 p2 rho) r0 r1 = true := by
  obtain ⟨q0, q1, q2, q3, a, b, c, e, j, hj, hs, ha, hb, hc, htot, hlen, _, _, hc0, hc1, hc2, _⟩ :=
    corr_nonrandom sqrt rng hr p1 p2 rho selfN n m hm hvalid
  refine ⟨_, _, hs, ?_⟩
  rw [hj]
  simp only [cellsOK, rejoin_map, hlen, hc0, hc1, hc2, decide_true, Bool.true_and,
    Bool.and_eq_true]
  exact ⟨⟨floorOK_floor _ _ ha, floorOK_floor _ _ hb⟩, floorOK_floor _ _ hc⟩

/-- **C20 (from_metrics, spec form).** The constructed model satisfies the executable clause
with `eps = 0`. -/
theorem C20_spec_from_metrics (N : StdNormal) (hN : N.RightInv) (fnr fpr : ℚ) (s1 s2 : ℤ)
    (σp σn : ℚ) (hf0 : 0 < fnr) (hf1 : fnr < 1) (hp0 : 0 < fpr) (hp1 : fpr < 1) (hs1 : 1 ≤ s1)
    (hs2 : 1 ≤ s2) (hσp : 0 < σp) (hσn : 0 < σn) :
    ∃ d nn, NormalDataset.fromMetrics N fnr fpr s1 s2 σp σn = .ok d ∧ d.n = some nn ∧
      fromMetricsOK 0 fnr fpr s1 s2 (d.fnr N 0) (d.fpr N 0) nn ((s1 : ℚ) / fnr).floor d.pPos
        = true := by
  obtain ⟨d, hd, h1, h2, hn, hp, hk1, hk2, _, _, _⟩ :=
    C20_from_metrics N hN fnr fpr s1 s2 σp σn hf0 hf1 hp0 hp1 hs1 hs2 hσp hσn
  refine ⟨d, _, hd, hn, ?_⟩
  have hne : (((((s1 : ℚ) / fnr).floor + ((s2 : ℚ) / fpr).floor : ℤ)) : ℚ) ≠ 0 := by
    exact Int.cast_ne_zero.mpr
      (add_pos (zero_lt_one.trans_le (hs1.trans hk1)) (zero_lt_one.trans_le (hs2.trans hk2))).ne'
  have hpp : d.pPos * (((((s1 : ℚ) / fnr).floor + ((s2 : ℚ) / fpr).floor : ℤ)) : ℚ) =
      ((((s1 : ℚ) / fnr).floor : ℤ) : ℚ) := by
    rw [hp, div_mul_cancel₀ _ hne]
  simp only [fromMetricsOK, h1, h2, near_refl, hpp, Bool.true_and, Bool.and_true, Bool.and_eq_true]
  exact ⟨floorOK_floor _ _ rfl, floorOK_floor _ _ (add_sub_cancel_left _ _)⟩

/-- **C20 (sample, spec form).** -/
theorem C20_spec_sample (d : NormalDataset) (rng : SampleRng) (hr : rng.Lawful) (n : Option ℤ)
    (pPos : Option ℚ) (m : ℕ) (hm : d.pickN n = some (m : ℤ)) :
    ∃ s, d.sample rng n pPos = .ok s ∧
      sampleOK m (rng.binomial m (d.pickP pPos)) d.scoreClass s.pos s.neg s.cfg.scoreClass = true := by
  obtain ⟨s, hs, h1, h2, _, h4, _⟩ := C20_sample_split d rng hr n pPos m hm
  have hk := hr.binomial_le m (d.pickP pPos)
  refine ⟨s, hs, ?_⟩
  simp only [sampleOK, h1, h2, h4, Bool.and_eq_true, decide_eq_true_eq, and_true, true_and]
  exact Nat.cast_sub hk

/-- **C20 (roc, spec form).** -/
theorem C20_spec_roc (N : StdNormal) (d : NormalDataset) (fnr fpr : Option (List ℚ)) (R : ROC)
    (h : d.roc N fnr fpr = .ok R) : rocOK 0 N d R = true := by
  obtain ⟨h1, h2, _, _⟩ := C20_roc_consistent N d fnr fpr R h
  unfold rocOK
  rw [← h1, ← h2, nearAll_refl, nearAll_refl]
  rfl

/-- **C20 (inverse, spec form).** Round trips through the model return the inputs. -/
theorem C20_spec_inverse (N : StdNormal) (hR : N.RightInv) (hL : N.LeftInv) (d : NormalDataset)
    (hp : 0 < d.sigmaPos) (hn : 0 < d.sigmaNeg) (rates thr : List ℚ)
    (hr : ∀ r ∈ rates, 0 < r ∧ r < 1) :
    inverseOK 0 rates (rates.map fun r => d.fnr N (d.thresholdAtFnr N r)) = true ∧
    inverseOK 0 rates (rates.map fun r => d.fpr N (d.thresholdAtFpr N r)) = true ∧
    inverseOK 0 thr (thr.map fun t => d.thresholdAtFnr N (d.fnr N t)) = true ∧
    inverseOK 0 thr (thr.map fun t => d.thresholdAtFpr N (d.fpr N t)) = true := by
  rw [map_eq_self fun r h => C20_inverse_fnr N hR d hp r (hr r h).1 (hr r h).2,
    map_eq_self fun r h => C20_inverse_fpr N hR d hn r (hr r h).1 (hr r h).2,
    map_eq_self fun t _ => C20_inverse_thr_fnr N hL d hp t, map_eq_self fun t _ =>
      C20_inverse_thr_fpr N hL d hn t]
  exact ⟨nearAll_refl _, nearAll_refl _, nearAll_refl _, nearAll_refl _⟩

/-- **C20 (inverse, spec form with a purely relative tolerance).** The round trips of the model
return the inputs exactly, so they also pass the relative form used for rates deep in a tail (1e-150
... 1e-6), where the absolute tolerance of `inverseOK` would accept anything. -/
theorem C20_spec_inverse_rel (N : StdNormal) (hR : N.RightInv) (d : NormalDataset)
    (hp : 0 < d.sigmaPos) (hn : 0 < d.sigmaNeg) (rates : List ℚ)
    (hr : ∀ r ∈ rates, 0 < r ∧ r < 1) :
    inverseRelOK 0 rates (rates.map fun r => d.fnr N (d.thresholdAtFnr N r)) = true ∧
    inverseRelOK 0 rates (rates.map fun r => d.fpr N (d.thresholdAtFpr N r)) = true := by
  rw [map_eq_self fun r h => C20_inverse_fnr N hR d hp r (hr r h).1 (hr r h).2,
    map_eq_self fun r h => C20_inverse_fpr N hR d hn r (hr r h).1 (hr r h).2]
  exact ⟨nearRelAll_refl _, nearRelAll_refl _⟩

example : (∀ r ∈ [(1 : ℚ) / 10 ^ 150, 1 / 10 ^ 6], 0 < r ∧ r < 1) := by
  intro r hr
  simp only [List.mem_cons, List.mem_nil_iff, or_false] at hr
  rcases hr with rfl | rfl <;> norm_num

end SA

/-
Bridge theorems for the decision tables regenerated from the source (`harness/dectables.py`,
`lean/SA/Model/DecTables.lean`).

`*_eq_model`  the denotation of the MODEL's row is the model's
              function, for all scores / thresholds / targets / easy counts / oracles.
`*_bridge`    if a translated row equals the model's row, the code-shaped function it describes
              equals the model's function for ALL inputs — so the C01 / C02 / C03 / C08 / C09 / C15
              theorems about the model apply to it (`cm_bridge_count` spells this out for C01).
`checkTables_sound`  what the generated theorem `checkTables translated = ⟨true, [], n⟩` gives: no
              row has the verdict `mismatch`.  `cmp_ok_iff`, `cmpWrap_ok_iff`: a row with verdict
              `ok` IS the model's row.
-/
import SA.Model.DecTables
import SA.Theorems.C01

namespace SA.DecTables
open SA

/-! ### (a) cm -/

theorem cmRow_eq_model (s : Scores) (t : ERat) : (cmRowModel s.cfg).eval s t = s.cm t := by
  obtain ⟨pos, neg, ep, en, ⟨sc, ec⟩⟩ := s
  cases sc <;> cases ec <;> rfl

theorem cm_bridge (row : CmRow) (cfg : Cfg) (h : row = cmRowModel cfg) (s : Scores) (hs : s.cfg = cfg)
    (t : ERat) : row.eval s t = s.cm t := by
  subst h; subst hs; exact cmRow_eq_model s t

/-- with the `is_sorted` contract, the code-shaped function of an accepted row counts by the
documented decision rule (C01) -/
theorem cm_bridge_count (row : CmRow) (cfg : Cfg) (h : row = cmRowModel cfg) (s : Scores)
    (hs : s.cfg = cfg) (hp : s.pos.Pairwise (· ≤ ·)) (hn : s.neg.Pairwise (· ≤ ·)) (t : ERat) :
    row.eval s t = countCM s.pos s.neg s.easyPos s.easyNeg s.cfg t := by
  rw [cm_bridge row cfg h s hs t]; exact cm_eq_countCM_of_sorted s hp hn t

example : ∃ (row : CmRow) (s : Scores), row = cmRowModel ⟨.neg, .pos⟩ ∧ s.cfg = ⟨.neg, .pos⟩ ∧
    s.pos.Pairwise (· ≤ ·) ∧ s.neg.Pairwise (· ≤ ·) ∧ s.pos ≠ [] ∧ s.easyPos = 2 :=
  ⟨cmRowModel ⟨.neg, .pos⟩, ⟨[1, 2], [0, 3], 2, 1, ⟨.neg, .pos⟩⟩, rfl, rfl, by decide +kernel, by decide +kernel,
    by simp, rfl⟩

/-! ### (b) swap -/

theorem swapRow_eq_model (s : Scores) : (swapRowModel s.cfg).eval s = s.swap := by
  obtain ⟨pos, neg, ep, en, ⟨sc, ec⟩⟩ := s
  cases sc <;> cases ec <;> rfl

theorem swap_bridge (row : SwapRow) (cfg : Cfg) (h : row = swapRowModel cfg) (s : Scores)
    (hs : s.cfg = cfg) : row.eval s = s.swap := by
  subst h; subst hs; exact swapRow_eq_model s

/-! ### (c) wrappers -/

theorem arrSel_eq_model (m : Metric) (s : Scores) : (Metric.arrSel m).eval s = s.metricArray m := by
  cases m <;> rfl

theorem hardPosRatioE_eq (s : Scores) (r : Rat) : hardPosRatioE.eval s r = s.hardPosRatio := by
  simp only [hardPosRatioE, RExp.eval, RExp.evalC, Scores.hardPosRatio, Nat.cast_pos, Nat.cast_add,
    Nat.cast_one,
    add_comm]

theorem hardNegRatioE_eq (s : Scores) (r : Rat) : hardNegRatioE.eval s r = s.hardNegRatio := by
  simp only [hardNegRatioE, RExp.eval, RExp.evalC, Scores.hardNegRatio, Nat.cast_pos, Nat.cast_add,
    Nat.cast_one,
    add_comm]

theorem nbEasyE_eq (s : Scores) (r : Rat) : nbEasyE.eval s r = (s.nbEasy : Rat) := by
  simp only [nbEasyE, RExp.eval, RExp.evalC, Scores.nbEasy, Nat.cast_add, add_comm]

theorem nbAllE_eq (s : Scores) (r : Rat) : nbAllE.eval s r = (s.nbAll : Rat) := by
  simp only [nbAllE, nbEasyE, RExp.eval, RExp.evalC, Scores.nbAll, Scores.nbEasy, Scores.nbHard,
    Nat.cast_add,
    add_comm]

theorem hardRatioE_eq (s : Scores) (r : Rat) : hardRatioE.eval s r = s.hardRatio := by
  have h1 := nbEasyE_eq s r
  have h2 := nbAllE_eq s r
  simp only [RExp.eval] at h1 h2
  simp only [hardRatioE, RExp.eval, RExp.evalC, h1, h2, Scores.hardRatio, Scores.easyRatio,
    Nat.cast_pos,
    Nat.cast_one, Nat.cast_zero]

/-- the rescaling expression of the model's row denotes `Scores.rescale` -/
theorem rescaleE_eq_model (m : Metric) (s : Scores) (r : Rat)
    : (rescaleE m).eval s r = s.rescale m r := by
  have h1 := hardPosRatioE_eq s r
  have h2 := hardNegRatioE_eq s r
  have h3 := nbAllE_eq s r
  have h4 := hardRatioE_eq s r
  simp only [RExp.eval] at h1 h2 h3 h4
  -- the translator writes the operands of `+`, `*`, `max` in its own canonical order
  cases m <;>
    simp only [rescaleE, RExp.eval, RExp.evalC, h1, h2, h3, h4, Scores.rescale, Scores.nbAllPos,
      Scores.nbAllNeg,
      Nat.cast_add, Nat.cast_one, Nat.cast_zero, max_comm, mul_comm]

theorem wrapRow_eq_model (n : WName) (ulp : Ulp) (s : Scores) (r : Rat) (m : Method) :
    (wrapRowModel n).eval ulp s r m = s.thresholdAt ulp n.metric r m := by
  unfold WrapRow.eval wrapRowModel Scores.thresholdAt
  simp only [arrSel_eq_model, rescaleE_eq_model, if_true]

theorem wrap_bridge (row : WrapRow) (n : WName) (h : row = wrapRowModel n) (ulp : Ulp) (s : Scores)
    (r : Rat) (m : Method) : row.eval ulp s r m = s.thresholdAt ulp n.metric r m := by
  subst h; exact wrapRow_eq_model n ulp s r m

/-! ### (d1) `_threshold_at_ratio` -/

theorem normRow_eq_model (k : NormKey) (ulp : Ulp) (scores : List Rat) (r : Rat) :
    (normRowModel k).eval ulp scores r =
      thresholdAtRatio ulp k.cfg scores r k.increasing k.ratioClass k.method := by
  -- only the two flags that decide the reflections of the target have to be split
  obtain ⟨inc, rc, ⟨sc, ec⟩, m⟩ := k
  cases inc <;> cases sc <;> rfl

theorem norm_bridge (row : NormRow) (k : NormKey) (h : row = normRowModel k) (ulp : Ulp)
    (scores : List Rat) (r : Rat) :
    row.eval ulp scores r = thresholdAtRatio ulp k.cfg scores r k.increasing k.ratioClass k.method := by
  subst h; exact normRow_eq_model k ulp scores r

/-! ### (d2) `_invert_increasing_function` -/

theorem invRow_eq_model (lc : Bool) (m : Method) (ulp : Ulp) (s : List Rat) (r : Rat) :
    (invRowModel lc m).eval ulp s r = invertIncreasing ulp s r lc m := by
  simp only [invertIncreasing, decide_eq_true_eq]
  cases lc <;> cases m <;> rfl

theorem inv_bridge (row : InvRow) (lc : Bool) (m : Method) (h : row = invRowModel lc m) (ulp : Ulp)
    (s : List Rat) (r : Rat) : row.eval ulp s r = invertIncreasing ulp s r lc m := by
  subst h; exact invRow_eq_model lc m ulp s r

/-- (c) + (d1) + (d2) composed: accepted rows for a wrapper, its normalisation and the inversion
describe exactly `Scores.thresholdAt` -/
theorem threshold_bridge (w : WrapRow) (n : WName) (hw : w = wrapRowModel n)
    (ulp : Ulp) (s : Scores) (r : Rat) (m : Method)
    (nr : NormRow) (hn : nr = normRowModel ⟨w.increasing, w.ratioClass, s.cfg, m⟩)
    (ir : InvRow) (hi : ir = invRowModel nr.leftCont nr.method) :
    (if (w.guard.eval s).length = 0 then Except.error Err.valueError
     else Except.ok (ir.eval ulp (w.arr.eval s) (flipN nr.flips (w.target.eval s r)))) =
      s.thresholdAt ulp n.metric r m := by
  rw [← wrap_bridge w n hw ulp s r m]
  subst hi
  unfold WrapRow.eval
  rw [invRow_eq_model]
  have := norm_bridge nr _ hn ulp (w.arr.eval s) (w.target.eval s r)
  unfold NormRow.eval at this
  rw [this]
  subst hw
  rfl

/-! ### (e) roc -/

/-- reversing twice is not reversing: `orient` reverses iff exactly one of its two conditions
holds -/
theorem orient_eq (x : XAxis) (sc : Label) (l : List Rat) :
    orient x sc l = if (x.decreasing != decide (sc = .neg)) then l.reverse else l := by
  unfold orient
  cases x.decreasing <;> cases sc <;> simp

theorem orientRow_eq_model (x : XAxis) (sc : Label) (l : List Rat) :
    orient x sc l = if (orientRowModel (some x) sc).reversed then l.reverse else l := by
  have hprobe : (orientRowModel (some x) sc).reversed = (x.decreasing != decide (sc = .neg)) := by
    show (orient x sc [0, 1] == [1, 0]) = _
    rw [orient_eq]
    cases (x.decreasing != decide (sc = .neg)) <;> rfl
  rw [hprobe, orient_eq]

theorem orient_bridge (row : OrientRow) (x : XAxis) (sc : Label) (h : row = orientRowModel (some x) sc)
    (l : List Rat) : (if row.reversed then l.reverse else l) = orient x sc l := by
  subst h; exact (orientRow_eq_model x sc l).symm

theorem rocRow_eq_model (u : Ulp) (s : Scores) (fnr fpr thresholds : Option (List Rat))
    (nbPoints : Option Nat) (xAxis : String) :
    roc u s fnr fpr thresholds nbPoints xAxis =
      match findSupportThresholds u s fnr fpr thresholds nbPoints xAxis with
      | .error e => .error e
      | .ok ts => .ok (rocRowModel.eval s ts) := by
  unfold roc
  cases findSupportThresholds u s fnr fpr thresholds nbPoints xAxis <;> rfl

/-! ### what the generated theorem gives -/

theorem ite_ok_iff {p : Prop} [Decidable p] {v : Verdict} (hv : v ≠ .ok) :
    (if p then Verdict.ok else v) = .ok ↔ p := by
  split_ifs with h
  · exact iff_of_true rfl h
  · exact iff_of_false hv h

theorem cmp_ok_iff {α : Type} [DecidableEq α] (model r : α) : cmp model (some r) = .ok ↔ r = model :=
  ite_ok_iff (by decide)

theorem cmpWrap_ok_iff (model r : WrapRow) : cmpWrap model (some r) = .ok ↔ r = model :=
  ite_ok_iff (by split_ifs <;> decide)

theorem exists_mem_zipIdx {α : Type} {l : List α} {a : α} (h : a ∈ l) : ∃ i, (a, i) ∈ l.zipIdx := by
  rw [← List.zipIdx_map_fst 0 l] at h
  obtain ⟨⟨a', i⟩, hp, rfl⟩ := List.mem_map.1 h
  exact ⟨i, hp⟩

theorem no_mismatch_of_bad_nil (vss : List (List Verdict))
    (h : ((vss.zipIdx.map fun p => tally p.2 p.1).flatMap fun p => p.1) = []) :
    ∀ vs ∈ vss, ∀ v ∈ vs, v ≠ .mismatch := by
  intro vs hvs v hv hm
  subst hm
  obtain ⟨i, hi⟩ := exists_mem_zipIdx hvs
  obtain ⟨j, hj⟩ := exists_mem_zipIdx hv
  have h1 : (tally i vs).1 = [] := List.flatMap_eq_nil_iff.1 h _ (List.mem_map.2 ⟨_, hi, rfl⟩)
  exact absurd (List.filter_eq_nil_iff.1 (List.map_eq_nil_iff.1 h1) _ hj) (by simp)

/-- `checkTables t = ⟨true, [], n⟩` (the generated theorem): no row of any table is a mismatch -/
theorem checkTables_sound (t : Translated) (n : Nat) (h : checkTables t = ⟨true, [], n⟩) :
    ∀ vs ∈ verdicts t, ∀ v ∈ vs, v ≠ .mismatch :=
  no_mismatch_of_bad_nil _ (congrArg Result.bad h)

end SA.DecTables

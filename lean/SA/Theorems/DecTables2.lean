/-
Bridge theorems for the decision tables of `harness/dectables2.py` / `lean/SA/Model/DecTables2.lean`
(C11 / C12 / C13 / C18 / C19).

`*_eq_model`   the denotation of the MODEL's row is the model's function, for all inputs. `*_bridge`
a translated row equal to the model's row denotes the model's function. `QExp.eqv_sound`
expressions accepted modulo commutativity have the same value for every environment.
`checkTables2_sound`  what the generated theorem gives: no row has the verdict `mismatch`.
-/
import SA.Model.DecTables2
import SA.Theorems.DecTables

namespace SA.DecTables2
open SA SA.DecTables

/-! ### (f) C11 -/

theorem samplingMethod_ne_dynamic (s : Scores) (c : BootCfg) : samplingMethod s c ≠ .dynamic := by
  unfold samplingMethod
  by_cases h : c.method ≠ .dynamic
  · rw [if_pos h]; exact h
  · rw [if_neg h]
    split <;> simp

theorem smallCond_evalC (lp ln : Nat) : smallCond.evalC lp ln = true ↔
    lp < singlePassSampleThreshold ∨ ln < singlePassSampleThreshold := by
  show (decide (ln < singlePassSampleThreshold) || decide (lp < singlePassSampleThreshold)) = true
    ↔ _
  rw [Bool.or_eq_true, decide_eq_true_iff, decide_eq_true_iff, or_comm]

/-- `_sampling_method`: the model's row denotes `samplingMethod` -/
theorem smRow_eq_model (s : Scores) (c : BootCfg) :
    (smRowModel (MKey.ofSM c.method) c.smoothing).eval s = MKey.ofSM (samplingMethod s c) := by
  unfold samplingMethod smRowModel SmRow.eval
  cases c.method <;> try rfl
  cases c.smoothing
  · simp only [MKey.ofSM, SmRow.evalC, smallCond_evalC, ne_eq, not_true_eq_false, if_false,
      Bool.false_eq_true,
      or_false]
    split_ifs <;> rfl
  · simp only [MKey.ofSM, SmRow.evalC, ne_eq, not_true_eq_false, if_false, if_true, or_true]

theorem sm_bridge (row : SmRow) (c : BootCfg) (h : row = smRowModel (MKey.ofSM c.method) c.smoothing)
    (s : Scores) : row.eval s = MKey.ofSM (samplingMethod s c) := by
  subst h; exact smRow_eq_model s c

/-- dispatch of `bootstrap_sample`: the model's row for the resolved method denotes
`bootstrapSample` -/
theorem bsRow_eq_model (s : Scores) (c : BootCfg) (st : RngState) :
    (bsRowModel (MKey.ofSM (samplingMethod s c)) c.smoothing (StratKey.ofBool c.byLabel)
      c.ratio.isSome).eval s c st = bootstrapSample s c st := by
  have hd := samplingMethod_ne_dynamic s c
  unfold bootstrapSample
  cases hm : samplingMethod s c with
  | dynamic => exact absurd hm hd
  | replacement =>
    cases hb : c.byLabel <;> cases hs : c.smoothing <;> rfl
  | singlePass =>
    cases hb : c.byLabel <;> cases hs : c.smoothing <;> rfl
  | proportion =>
    cases hr : c.ratio with
    | none => rfl
    | some ratio =>
      simp only [bsRowModel, MKey.ofSM, Option.isSome, if_true, BsRow.eval, hr]
      rfl
  | unknown => rfl

theorem bs_bridge (row : BsRow) (s : Scores) (c : BootCfg)
    (h : row = bsRowModel (MKey.ofSM (samplingMethod s c)) c.smoothing (StratKey.ofBool c.byLabel) c.ratio.isSome)
    (st : RngState) : row.eval s c st = bootstrapSample s c st := by
  subst h; exact bsRow_eq_model s c st

/-- the two C11 tables composed: accepted rows describe `bootstrapSample` -/
theorem bootstrap_bridge (sm : SmRow) (c : BootCfg) (hsm : sm = smRowModel (MKey.ofSM c.method) c.smoothing)
    (s : Scores) (row : BsRow)
    (h : row = bsRowModel (sm.eval s) c.smoothing (StratKey.ofBool c.byLabel) c.ratio.isSome)
    (st : RngState) : row.eval s c st = bootstrapSample s c st := by
  rw [sm_bridge sm c hsm s] at h
  exact bs_bridge row s c h st

example : ∃ (sm : SmRow) (c : BootCfg) (s : Scores) (row : BsRow),
    sm = smRowModel (MKey.ofSM c.method) c.smoothing ∧
    row = bsRowModel (sm.eval s) c.smoothing (StratKey.ofBool c.byLabel) c.ratio.isSome ∧
    c.method = .dynamic ∧ s.pos ≠ [] :=
  ⟨_, ⟨.dynamic, true, false, none, fun r n => r * n⟩, ⟨[1, 2], [0], 1, 0, ⟨.pos, .pos⟩⟩, _, rfl, rfl, rfl, by simp⟩

/-- a stratification value other than `"by_label"` is treated as no stratification -/
theorem bsRowModel_other (m : MKey) (sm rg : Bool) : bsRowModel m sm .other rg = bsRowModel m sm .none rg := rfl

/-! ### expressions -/

theorem QExp.eqv_sound (a b : QExp) (h : a.eqv b = true) (env : QEnv) : a.eval env = b.eval env := by
  fun_induction QExp.eqv a b with
  | case1 x y | case2 x y => rw [eq_of_beq h]
  | case3 a b c d ih4 ih3 ih2 ih1 | case4 a b c d ih4 ih3 ih2 ih1 =>
    simp only [Bool.or_eq_true, Bool.and_eq_true] at h
    rcases h with ⟨h1, h2⟩ | ⟨h1, h2⟩
    · simp only [QExp.eval, ih4 h1, ih3 h2]
    · simp only [QExp.eval, ih2 h1, ih1 h2]
      first | exact Rat.add_comm _ _ | exact Rat.mul_comm _ _
  | case5 a b c d ih2 ih1 | case6 a b c d ih2 ih1 =>
    rw [Bool.and_eq_true] at h
    simp only [QExp.eval, ih2 h.1, ih1 h.2]
  | case7 a c ih => simp only [QExp.eval, ih h]
  | case8 => cases h

/-- verdict `ok` of an expression field: same value as the model's expression, for every
environment -/
theorem cmpQ_ok_sound (model got : QExp) (h : cmpQ model got = .ok) (env : QEnv) :
    got.eval env = model.eval env := by
  unfold cmpQ at h
  by_cases he : got.eqv model = true
  · exact QExp.eqv_sound got model he env
  · by_cases hp : got.agreesOnProbes model = true <;> simp [he, hp] at h

/-! ### (g) C13 -/

/-- the levels of the quantile method -/
theorem alphaE_eq_model (env : QEnv) :
    alphaLoE.eval env = env.alpha / 2 ∧ alphaHiE.eval env = 1 - env.alpha / 2 := by
  constructor <;> simp [alphaLoE, alphaHiE, QExp.eval, QEnv.get]

/-- BC: for finite `z0`, `z_alpha` the model's expression is `adjustedZ .bc` -/
theorem bcE_eq_model (a z0 za alpha : Rat) :
    ERat.fin (bcE.eval ⟨alpha, z0, za, a⟩) = adjustedZ .bc a (.fin z0) (.fin za) := by
  simp [bcE, QExp.eval, QEnv.get, adjustedZ, ERat.add, ERat.double]

/-- BCa: for finite `z0`, `z_alpha` the model's expression is `adjustedZ .bca` -/
theorem bcaE_eq_model (a z0 za alpha : Rat) :
    ERat.fin (bcaE.eval ⟨alpha, z0, za, a⟩) = adjustedZ .bca a (.fin z0) (.fin za) := by
  simp [bcaE, sE, QExp.eval, QEnv.get, adjustedZ]

/-- a translated level accepted by `cmpQ` denotes the model's adjusted level (finite case) -/
theorem level_bridge (m : BootMethod) (model got : QExp)
    (hm : (m = .bc ∧ model = bcE) ∨ (m = .bca ∧ model = bcaE))
    (h : cmpQ model got = .ok) (a z0 za alpha : Rat) :
    ERat.fin (got.eval ⟨alpha, z0, za, a⟩) = adjustedZ m a (.fin z0) (.fin za) := by
  rw [cmpQ_ok_sound model got h]
  rcases hm with ⟨rfl, rfl⟩ | ⟨rfl, rfl⟩
  · exact bcE_eq_model a z0 za alpha
  · exact bcaE_eq_model a z0 za alpha

theorem p0Row_eq_model (vals : List (Option Rat)) (thetaHat : Rat) :
    p0RowModel.eval vals thetaHat = fracLe vals thetaHat := by
  simp [P0Row.eval, p0RowModel, fracLe, CmpOp.eval]

private theorem powN3 (x : Rat) : powN x 3 = x * x * x := by
  simp [powN]

private theorem powN2 (x : Rat) : powN x 2 = x * x := by
  simp [powN]

theorem accRow_eq_model (pow15 : Rat → Rat) (vals : List (Option Rat)) (thetaHat : Rat) :
    accRowModel.eval pow15 vals thetaHat = acceleration pow15 vals thetaHat := by
  simp only [AccRow.eval, accRowModel, acceleration, powN3, powN2, if_true]
  rfl

/-! ### (h) C19 -/

theorem fraudRow_eq_model (genuines frauds : List Rat) (easyG easyF : Nat) (sc : DocLabel) :
    (fraudRowModel sc).eval genuines frauds easyG easyF = FraudScores.make genuines frauds easyG easyF sc := by
  unfold FraudRow.eval fraudRowModel FraudScores.make
  simp only [selDoc, List.any_cons, List.any_nil, Bool.or_false, Bool.or_eq_true, ite_or]
  rfl

theorem fraud_bridge (row : FraudRow) (sc : DocLabel) (h : row = fraudRowModel sc)
    (genuines frauds : List Rat) (easyG easyF : Nat) :
    row.eval genuines frauds easyG easyF = FraudScores.make genuines frauds easyG easyF sc := by
  subst h; exact fraudRow_eq_model genuines frauds easyG easyF sc

/-! ### (i) C12 -/

theorem gsmRow_eq_model (g : GScores) (c : GBootCfg) :
    (gsmRowModel ⟨MKey.ofSM c.method, c.strat⟩).evalC g.pos.length g.neg.length =
      MKey.ofSM (g.samplingMethod c) := by
  unfold GScores.samplingMethod gsmRowModel
  cases c.method <;> try rfl
  simp only [MKey.ofSM, ne_eq, not_true_eq_false, if_false]
  split_ifs <;> simp [SmRow.evalC, smallCond_evalC, *]

theorem gsamplingMethod_ne_dynamic (g : GScores) (c : GBootCfg)
    : g.samplingMethod c ≠ .dynamic := by
  unfold GScores.samplingMethod
  by_cases h : c.method ≠ .dynamic
  · rw [if_pos h]; exact h
  · rw [if_neg h]
    split
    · simp
    · split <;> simp

theorem gsRow_eq_model (g : GScores) (c : GBootCfg) (st : RngState) :
    (gsRowModel ⟨MKey.ofSM (g.samplingMethod c), c.smoothing, c.strat⟩).eval g st = g.bootstrapSample c st := by
  have hd := gsamplingMethod_ne_dynamic g c
  unfold GScores.bootstrapSample gsRowModel
  cases hs : c.smoothing
  · cases hm : g.samplingMethod c with
    | dynamic => exact absurd hm hd
    | replacement => cases hst : c.strat <;> rfl
    | singlePass => cases hst : c.strat <;> rfl
    | proportion => rfl
    | unknown => rfl
  · rfl

theorem gs_bridge (row : GsRow) (g : GScores) (c : GBootCfg)
    (h : row = gsRowModel ⟨MKey.ofSM (g.samplingMethod c), c.smoothing, c.strat⟩) (st : RngState) :
    row.eval g st = g.bootstrapSample c st := by
  subst h; exact gsRow_eq_model g c st

/-! ### (j) C18 -/

theorem nmRow_eq_model (col : List (Option Rat)) (overall : Option Rat) :
    (nmRowModel .byOverall).eval col overall = .ok (normaliseCol .byOverall col overall) ∧
    (nmRowModel .byMin).eval col overall = .ok (normaliseCol .byMin col overall) ∧
    (nmRowModel .other).eval col overall = .error .valueError := ⟨rfl, rfl, rfl⟩

/-- the `other` row is the model's `parseNormMode` on a string that is not a mode name (one probe
string) -/
theorem nmRow_other_eq_model : parseNormMode (some "no-such-mode") = .error .valueError := by decide

/-! ### what the generated theorem gives -/

/-- `checkTables2 t = ⟨true, [], n⟩` (the generated theorem): no row of any table is a mismatch -/
theorem checkTables2_sound (t : Translated2) (n : Nat) (h : checkTables2 t = ⟨true, [], n⟩) :
    ∀ vs ∈ verdicts2 t, ∀ v ∈ vs, v ≠ .mismatch :=
  no_mismatch_of_bad_nil _ (congrArg Result.bad h)

/-- verdict `ok` of the plain tables: the translated row IS the model's row -/
theorem cmpSm_ok_iff (model r : SmRow) : cmpSm model (some r) = .ok ↔ r = model :=
  ite_ok_iff (by split_ifs <;> decide)

theorem cmpBs_ok_iff (model r : BsRow) : cmpBs model (some r) = .ok ↔ r = model :=
  ite_ok_iff (by split <;> decide)

end SA.DecTables2

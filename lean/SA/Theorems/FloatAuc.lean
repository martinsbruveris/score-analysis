/-
C07, floating point: the trapezoid part of `Scores.auc` (scores.py:839-860) evaluated with a
rounding after every operation NumPy performs, against the exact model `Scores.auc`.

Float model (`SA/Model/FloatSum.lean`), for every `fl`, `u` with `Fl fl u` (`|fl v - v| ≤ u |v|`):
* every rate is ONE rounded quotient `fl (count / N)` (`np.divide` of two exactly represented
  integers), the limits are `fl lower`, `fl upper` (the identity for limits that are doubles);
* `np.diff(x)`: `fl (x1 - x0)`; `y[1:] + y[:-1]`: `fl (y1 + y0)`; the product; `/ 2.0`: one `fl` each;
* `.sum()`: ANY summation order (`SumTree` whose leaves are a permutation of the term positions:
  left-to-right, NumPy's pairwise summation with unrolled accumulators, blocked reductions, ...);
  the bound depends on the number of terms only;
* `np.abs`, the reversal, `searchsorted`, the window cut, `np.concatenate`: no rounding.

Statements:
* `trapTerm_fl_error`     one term, inputs carrying one rounding each
* `trapezoid_fl_error`    `|trapezoidFl - trapezoid| ≤ ((1+u)^(n-1) - 1) Σ(|T_i| + e_i) + Σ e_i`
* `auc_fl_error_pow`, `aucEpsPow_le_aucEps`, **`auc_fl_error`**: the same after `np.abs`, and with the
  executable bound `aucEps`: `(n-1) u / (1 - (n-1) u)` in place of `(1+u)^(n-1) - 1`
  (`gamPow_le_gamK`) and the closed form `e_i ≤ (1+u)^4 u (K_i + u K2_i)` of the term errors
  (`trapTermErr_le`), so that the driver only adds up small rationals
* `fl_lt_iff`, `fl_le_iff`  separated values compare the same way after rounding
* `Scores.auc_eq_arrays`, **`Scores.auc_fl_error`**: `Scores.aucFl` against `Scores.auc` under the
  executable guard `aucCmpOK` (every comparison of the code is between separated values)
* `Scores.aucFl_id`       with `fl = id` the float version is the exact model
-/
import SA.Proofs.FloatSum
import Mathlib.Data.List.GetD
import SA.Proofs.Quantile
import SA.Theorems.C07

namespace SA

/-! ## A. one term -/

theorem trapTermErr_nonneg {u : ℚ} (hu : 0 ≤ u) (x0 x1 y0 y1 : ℚ) :
    0 ≤ trapTermErr u x0 x1 y0 y1 := by
  have hin : ∀ a b : ℚ, 0 ≤ u * fabs a + u * fabs b := fun a b =>
    add_nonneg (mul_nonneg hu (fabs_nonneg a)) (mul_nonneg hu (fabs_nonneg b))
  have hd := roundErr_nonneg (v := x1 - x0) hu (hin x1 x0)
  have hs := roundErr_nonneg (v := y0 + y1) hu (hin y1 y0)
  exact roundErr_nonneg hu (div_nonneg (roundErr_nonneg hu (add_nonneg (add_nonneg
    (mul_nonneg hd (fabs_nonneg _)) (mul_nonneg hs (fabs_nonneg _))) (mul_nonneg hd hs)))
    (by norm_num))

/-- **One term of `np.trapezoid`.** `fl (fl (fl (x1~ - x0~) * fl (y1~ + y0~)) / 2)` against
`(x1 - x0) * (y0 + y1) / 2` when each input carries one rounding. -/
theorem trapTerm_fl_error {fl : ℚ → ℚ} {u : ℚ} (h : Fl fl u) {x0 x1 y0 y1 x0t x1t y0t y1t : ℚ}
    (hx0 : |x0t - x0| ≤ u * |x0|) (hx1 : |x1t - x1| ≤ u * |x1|)
    (hy0 : |y0t - y0| ≤ u * |y0|) (hy1 : |y1t - y1| ≤ u * |y1|) :
    |trapTermFl fl x0t x1t y0t y1t - trapTerm x0 x1 y0 y1| ≤ trapTermErr u x0 x1 y0 y1 := by
  have hs := h.add_round hy1 hy0
  rw [add_comm y1 y0] at hs
  have h3 := h.round_err (div_pos_perturb two_pos (h.mul_round (h.sub_round hx1 hx0) hs))
  simp only [trapTermFl, trapTerm, trapTermErr, roundErr_eq, fabs_eq_abs]
  exact h3

/-! ## B. the list of terms, the sum -/

/-- `xt` is `x` with one rounding per entry -/
def RelClose (u : ℚ) (xt x : List ℚ) : Prop := List.Forall₂ (fun a' a => |a' - a| ≤ u * |a|) xt x

theorem relClose_map {fl : ℚ → ℚ} {u : ℚ} (h : Fl fl u) (x : List ℚ) : RelClose u (x.map fl) x := by
  unfold RelClose
  induction x with
  | nil => exact .nil
  | cons a x ih => exact .cons (h.rel a) ih

/-- the rounded terms are termwise within `trapTermErr` of the exact terms -/
theorem trapTerms_fl_close {fl : ℚ → ℚ} {u : ℚ} (h : Fl fl u) :
    ∀ (x y xt yt : List ℚ), RelClose u xt x → RelClose u yt y →
      List.Forall₂ (fun t' (p : ℚ × ℚ) => |t' - p.1| ≤ p.2) (trapTermsFl fl xt yt)
        (trapTE u x y) := by
  intro x y
  fun_induction trapTE u x y with
  | case1 x0 x1 xs y0 y1 ys ih =>
    intro xt yt hx hy
    rcases hx with _ | ⟨hx0, _ | ⟨hx1, hxr⟩⟩
    rcases hy with _ | ⟨hy0, _ | ⟨hy1, hyr⟩⟩
    exact .cons (trapTerm_fl_error h hx0 hx1 hy0 hy1) (ih _ _ (.cons hx1 hxr) (.cons hy1 hyr))
  | case2 x y hne =>
    -- the rounded lists have the shapes of `x`, `y`: no two leading entries on both sides
    intro xt yt hx hy
    rw [trapTermsFl]
    · exact .nil
    · rintro a0 a1 as b0 b1 bs rfl rfl
      rcases hx with _ | ⟨_, _ | ⟨_, _⟩⟩
      rcases hy with _ | ⟨_, _ | ⟨_, _⟩⟩
      exact hne _ _ _ _ _ _ rfl rfl

theorem sum_close : ∀ (tt : List ℚ) (P : List (ℚ × ℚ)),
    List.Forall₂ (fun t' (p : ℚ × ℚ) => |t' - p.1| ≤ p.2) tt P →
      |sumL tt - sumL (P.map (·.1))| ≤ sumErrTE P ∧ sumAbsL tt ≤ sumMagTE P ∧
        tt.length = P.length := by
  intro tt P hf
  induction hf with
  | nil => exact ⟨by rw [List.map_nil, sub_self, abs_zero]; exact le_refl 0, le_refl 0, rfl⟩
  | @cons t' p tt P hp _ ih =>
    obtain ⟨i1, i2, i3⟩ := ih
    simp only [sumL, List.map_cons, sumErrTE, sumAbsL, sumMagTE, List.length_cons, fabs_eq_abs]
    refine ⟨?_, ?_, by omega⟩
    · rw [add_sub_add_comm]
      exact (abs_add_le _ _).trans (add_le_add hp i1)
    · have := abs_sub_abs_le_abs_sub t' p.1
      linarith only [this, hp, i2]

theorem sumErrTE_nonneg {u : ℚ} (hu : 0 ≤ u) : ∀ x y : List ℚ, 0 ≤ sumErrTE (trapTE u x y) := by
  intro x y
  fun_induction trapTE u x y with
  | case1 x0 x1 xs y0 y1 ys ih =>
    simp only [sumErrTE]
    exact add_nonneg (trapTermErr_nonneg hu x0 x1 y0 y1) ih
  | case2 => exact le_refl 0

theorem sumMagTE_nonneg {u : ℚ} (hu : 0 ≤ u) : ∀ x y : List ℚ, 0 ≤ sumMagTE (trapTE u x y) := by
  intro x y
  fun_induction trapTE u x y with
  | case1 x0 x1 xs y0 y1 ys ih =>
    simp only [sumMagTE]
    exact add_nonneg (add_nonneg (fabs_nonneg _) (trapTermErr_nonneg hu x0 x1 y0 y1)) ih
  | case2 => exact le_refl 0

theorem trapezoid_eq_sum (u : ℚ) :
    ∀ x y : List ℚ, trapezoid x y = sumL ((trapTE u x y).map (·.1)) := by
  intro x y
  fun_induction trapTE u x y with
  | case1 x0 x1 xs y0 y1 ys ih =>
    simp only [trapezoid, List.map_cons, sumL, ih, trapTerm]
  | case2 x y hne =>
    simp only [List.map_nil, sumL]
    unfold trapezoid
    split
    · exact absurd rfl (hne _ _ _ _ _ _ rfl)
    · rfl

theorem trapTE_length (u : ℚ) : ∀ x y : List ℚ,
    (trapTE u x y).length = min x.length y.length - 1 := by
  intro x y
  fun_induction trapTE u x y with
  | case1 x0 x1 xs y0 y1 ys ih =>
    simp only [List.length_cons, ih]
    omega
  | case2 x y hne =>
    refine (Nat.sub_eq_zero_of_le ?_).symm
    match x, y, hne with
    | [], _, _ => exact (Nat.min_le_left _ _).trans (Nat.zero_le 1)
    | [_], _, _ => exact Nat.min_le_left _ _
    | _ :: _ :: _, [], _ => exact (Nat.min_le_right _ _).trans (Nat.zero_le 1)
    | _ :: _ :: _, [_], _ => exact Nat.min_le_right _ _
    | x0 :: x1 :: xs, y0 :: y1 :: ys, hne => exact absurd rfl (hne _ _ _ _ _ _ rfl)

/-- **`np.trapezoid` in floating point, any summation order.** -/
theorem trapezoid_fl_error {fl : ℚ → ℚ} {u : ℚ} (h : Fl fl u) (t : SumTree)
    (x y xt yt : List ℚ) (hx : RelClose u xt x) (hy : RelClose u yt y)
    (ht : t.leaves.Perm (List.range (trapTE u x y).length)) :
    |trapezoidFl fl t xt yt - trapezoid x y| ≤ aucEpsPow u x y := by
  obtain ⟨c1, c2, c3⟩ := sum_close _ _ (trapTerms_fl_close h x y xt yt hx hy)
  rw [← c3] at ht
  have e := SumTree.evalFl_error_perm h _ t ht
  rw [c3] at e
  unfold trapezoidFl aucEpsPow aucEpsWith
  simp only []
  rw [trapezoid_eq_sum u]
  set tt := trapTermsFl fl xt yt
  set P := trapTE u x y
  have g0 := gamPow_nonneg h.u_nonneg (P.length - 1)
  have e2 : gamPow u (P.length - 1) * sumAbsL tt ≤ gamPow u (P.length - 1) * sumMagTE P :=
    mul_le_mul_of_nonneg_left c2 g0
  have tri := abs_add_le (t.evalFl fl tt - sumL tt) (sumL tt - sumL (P.map (·.1)))
  rw [sub_add_sub_cancel] at tri
  linarith only [tri, e, e2, c1]

theorem absR_eq_abs (v : ℚ) : absR v = |v| := fabs_eq_abs v

/-- `np.abs(np.trapezoid(y, x))`, exact growth factor -/
theorem auc_fl_error_pow {fl : ℚ → ℚ} {u : ℚ} (h : Fl fl u) (t : SumTree)
    (x y xt yt : List ℚ) (hx : RelClose u xt x) (hy : RelClose u yt y)
    (ht : t.leaves.Perm (List.range (trapTE u x y).length)) :
    |absR (trapezoidFl fl t xt yt) - absR (trapezoid x y)| ≤ aucEpsPow u x y := by
  rw [absR_eq_abs, absR_eq_abs]
  exact le_trans (abs_abs_sub_abs_le_abs_sub _ _) (trapezoid_fl_error h t x y xt yt hx hy ht)

/-- the exact growth factor is at most the cheap one (for `(n-1) u < 1`) -/
theorem aucEpsPow_le_aucEpsTE {u : ℚ} (hu : 0 ≤ u) (x y : List ℚ)
    (hk : (((trapTE u x y).length - 1 : ℕ) : ℚ) * u < 1) : aucEpsPow u x y ≤ aucEpsTE u x y := by
  unfold aucEpsPow aucEpsTE aucEpsWith
  simp only []
  have := mul_le_mul_of_nonneg_right (gamPow_le_gamK hu _ hk) (sumMagTE_nonneg hu x y)
  linarith only [this]

/-- a term's error as a polynomial in `u`, `A = |x1| + |x0|`, `B = |y1| + |y0|`, `|D|`, `|S|` -/
theorem trapTermErr_eq (u x0 x1 y0 y1 : ℚ) : trapTermErr u x0 x1 y0 y1 =
    ((1 + u) ^ 4 * u * ((|x1| + |x0|) * |y0 + y1| + (|y1| + |y0|) * |x1 - x0| +
        u * ((|x1| + |x0|) * (|y1| + |y0|))) +
      u * ((2 + u) * ((1 + u) ^ 2 + 1)) * (|x1 - x0| * |y0 + y1|)) / 2 := by
  simp only [trapTermErr, roundErr_eq, fabs_eq_abs, abs_mul, abs_div, abs_two]
  ring

/-- **closed form of a term's error**: `trapTermErr ≤ (1+u)^4 u (K + u K2)`; the difference is
`u^2 |D| |S| (10 + 20 u + 15 u^2 + 4 u^3) / 2` -/
theorem trapTermErr_le {u : ℚ} (hu : 0 ≤ u) (x0 x1 y0 y1 : ℚ) :
    trapTermErr u x0 x1 y0 y1 ≤
      powN (1 + u) 4 * u * (trapTermK x0 x1 y0 y1 + u * trapTermK2 x0 x1 y0 y1) := by
  -- the two sides differ in the coefficient of `u |D| |S| / 2` only
  have hc : (2 + u) * ((1 + u) ^ 2 + 1) ≤ 4 * (1 + u) ^ 4 := by
    have e : 4 * (1 + u) ^ 4 - (2 + u) * ((1 + u) ^ 2 + 1) =
        u * (10 + 20 * u + 15 * u ^ 2 + 4 * u ^ 3) := by ring
    have : 0 ≤ u * (10 + 20 * u + 15 * u ^ 2 + 4 * u ^ 3) := by positivity
    exact sub_nonneg.mp (e ▸ this)
  have := mul_le_mul_of_nonneg_right hc
    (mul_nonneg hu (mul_nonneg (abs_nonneg (x1 - x0)) (abs_nonneg (y0 + y1))))
  rw [trapTermErr_eq, powN_eq]
  simp only [trapTermK, trapTermK2, fabs_eq_abs]
  generalize (2 + u) * ((1 + u) ^ 2 + 1) = c at this ⊢
  generalize (1 + u) ^ 4 = G at this ⊢
  generalize |x1 - x0| = D, |y0 + y1| = S at this ⊢
  generalize |x1| + |x0| = A, |y1| + |y0| = B
  linarith only [this]

theorem trapSums_bound {u : ℚ} (hu : 0 ≤ u) : ∀ x y : List ℚ,
    sumErrTE (trapTE u x y) ≤
        powN (1 + u) 4 * u * ((trapSums x y).2.1 + u * (trapSums x y).2.2) ∧
      sumMagTE (trapTE u x y) ≤ (trapSums x y).1 +
        powN (1 + u) 4 * u * ((trapSums x y).2.1 + u * (trapSums x y).2.2) := by
  intro x y
  fun_induction trapTE u x y with
  | case1 x0 x1 xs y0 y1 ys ih =>
    obtain ⟨i1, i2⟩ := ih
    have ht := trapTermErr_le hu x0 x1 y0 y1
    simp only [sumErrTE, sumMagTE, trapSums]
    exact ⟨by linarith only [i1, ht], by linarith only [i2, ht]⟩
  | case2 x y hne =>
    have : trapSums x y = (0, 0, 0) := by
      unfold trapSums
      split
      · exact absurd rfl (hne _ _ _ _ _ _ rfl)
      · rfl
    simp [this, sumErrTE, sumMagTE]

/-- **the proved bound is at most the executable one** -/
theorem aucEpsTE_le_aucEps {u : ℚ} (hu : 0 ≤ u) (x y : List ℚ)
    (hk : (((trapTE u x y).length - 1 : ℕ) : ℚ) * u < 1) : aucEpsTE u x y ≤ aucEps u x y := by
  obtain ⟨b1, b2⟩ := trapSums_bound hu x y
  unfold aucEpsTE aucEps aucEpsWith
  simp only []
  rw [trapTE_length] at hk ⊢
  have g0 := gamK_nonneg hu _ hk
  have := mul_le_mul_of_nonneg_left b2 g0
  linarith only [this, b1]

theorem aucEpsPow_le_aucEps {u : ℚ} (hu : 0 ≤ u) (x y : List ℚ)
    (hk : (((trapTE u x y).length - 1 : ℕ) : ℚ) * u < 1) : aucEpsPow u x y ≤ aucEps u x y :=
  le_trans (aucEpsPow_le_aucEpsTE hu x y hk) (aucEpsTE_le_aucEps hu x y hk)

/-- **`auc_fl_error`.** `np.abs(np.trapezoid(y~, x~))` computed in floating point — inputs with one
rounding each, four rounded operations per term, the terms added in ANY order — is within the
executable `aucEps u x y` of the exact value. -/
theorem auc_fl_error {fl : ℚ → ℚ} {u : ℚ} (h : Fl fl u) (t : SumTree)
    (x y xt yt : List ℚ) (hx : RelClose u xt x) (hy : RelClose u yt y)
    (ht : t.leaves.Perm (List.range (trapTE u x y).length))
    (hk : (((trapTE u x y).length - 1 : ℕ) : ℚ) * u < 1) :
    |absR (trapezoidFl fl t xt yt) - absR (trapezoid x y)| ≤ aucEps u x y :=
  le_trans (auc_fl_error_pow h t x y xt yt hx hy ht) (aucEpsPow_le_aucEps h.u_nonneg x y hk)

/-! ## C. comparisons on rounded values -/

/-- separated values keep their strict order under ANY rounding of the model -/
theorem fl_lt_iff {fl : ℚ → ℚ} {u : ℚ} (h : Fl fl u) {a b : ℚ} (hs : flSep u a b = true) :
    fl a < fl b ↔ a < b := by
  unfold flSep at hs
  simp only [Bool.or_eq_true, decide_eq_true_eq, fabs_eq_abs, mul_add] at hs
  rcases hs with rfl | hs
  · exact iff_of_false (lt_irrefl _) (lt_irrefl _)
  · exact lt_iff_of_sep (h.rel a) (h.rel b) hs

theorem flSep_symm (u a b : ℚ) : flSep u a b = flSep u b a := by
  unfold flSep
  rw [fabs_eq_abs (a - b), fabs_eq_abs (b - a), abs_sub_comm, add_comm (fabs a)]
  exact congrArg (· || _) (decide_eq_decide.mpr eq_comm)

theorem fl_le_iff {fl : ℚ → ℚ} {u : ℚ} (h : Fl fl u) {a b : ℚ} (hs : flSep u a b = true) :
    fl a ≤ fl b ↔ a ≤ b := by
  rw [flSep_symm] at hs
  have := fl_lt_iff h hs
  rw [← not_lt, ← not_lt, this]

theorem getD_map_fl {fl : ℚ → ℚ} {u : ℚ} (h : Fl fl u) (x : List ℚ) (i : ℕ) :
    (x.map fl).getD i 0 = fl (x.getD i 0) := by
  rw [← List.getD_map x 0 fl, h.zero]

/-- binary search depends only on the predicate's values along the array -/
theorem bisectAux_congr (p p' : ℚ → Bool) (a a' : List ℚ)
    (hp : ∀ i, i < a.length → p' (a'.getD i 0) = p (a.getD i 0)) (lo hi : ℕ)
    (hsz : hi ≤ a.length) : bisectAux p' a' lo hi = bisectAux p a lo hi := by
  fun_induction bisectAux p a lo hi with
  | case1 lo hi hlt mid hm ih =>
    rw [bisectAux, if_pos hlt, if_pos ((hp _ (by omega)).trans hm)]
    exact ih hsz
  | case2 lo hi hlt mid hm ih =>
    rw [bisectAux, if_pos hlt, if_neg (by rw [hp _ (by omega)]; exact hm)]
    exact ih (by omega)
  | case3 lo hi hlt => rw [bisectAux, if_neg hlt]

theorem bisect_map_fl {fl : ℚ → ℚ} {u : ℚ} (h : Fl fl u) (p p' : ℚ → Bool) (x : List ℚ)
    (hp : ∀ v ∈ x, p' (fl v) = p v) : bisect p' (x.map fl) = bisect p x := by
  unfold bisect
  rw [List.length_map]
  exact bisectAux_congr p p' x (x.map fl) (fun i hi => by
    rw [getD_map_fl h, List.getD_eq_getElem x 0 hi]
    exact hp _ (List.getElem_mem hi)) 0 x.length (le_refl _)

/-- **The window cut is the same on the rounded arrays**: under the guard every comparison has the
same outcome, so the float code hands `np.trapezoid` the roundings of the exact model's arrays. -/
theorem aucCut_map {fl : ℚ → ℚ} {u : ℚ} (h : Fl fl u) (x y : List ℚ) (lower upper : ℚ)
    (hg : aucCmpOK u x lower upper = true) :
    aucCut (x.map fl) (y.map fl) (fl lower) (fl upper) =
      ((aucCut x y lower upper).1.map fl, (aucCut x y lower upper).2.map fl) := by
  unfold aucCmpOK at hg
  simp only [Bool.and_eq_true, List.all_eq_true] at hg
  obtain ⟨g0, g1⟩ := hg
  have hrev : decide ((x.map fl).getD ((x.map fl).length - 1) 0 < (x.map fl).getD 0 0) =
      decide (x.getD (x.length - 1) 0 < x.getD 0 0) := by
    rw [List.length_map, getD_map_fl h, getD_map_fl h]
    exact decide_eq_decide.mpr (fl_lt_iff h g0)
  unfold aucCut
  simp only [hrev]
  rw [← List.map_reverse, ← List.map_reverse, ← apply_ite (List.map fl), ← apply_ite (List.map fl)]
  set rev := decide (x.getD (x.length - 1) 0 < x.getD 0 0)
  have hmem : ∀ v ∈ (if rev = true then x.reverse else x), v ∈ x := fun v hv => by
    split at hv
    · exact List.mem_reverse.mp hv
    · exact hv
  set x' := if rev = true then x.reverse else x
  set y' := if rev = true then y.reverse else y
  have bl : bisect (fun v => decide (v < fl lower)) (x'.map fl) =
      bisect (fun v => decide (v < lower)) x' :=
    bisect_map_fl h _ _ x' (fun v hv =>
      decide_eq_decide.mpr (fl_lt_iff h (g1 v (hmem v hv)).1))
  have br : bisect (fun v => decide (v ≤ fl upper)) (x'.map fl) =
      bisect (fun v => decide (v ≤ upper)) x' :=
    bisect_map_fl h _ _ x' (fun v hv =>
      decide_eq_decide.mpr (fl_le_iff h (g1 v (hmem v hv)).2))
  rw [bl, br, List.length_map]
  simp only [List.map_append, List.map_cons, List.map_nil, List.map_take, List.map_drop,
    getD_map_fl h]

/-! ## D. `Scores.auc` -/

theorem allSome_length :
    ∀ (l : List (Option ℚ)) (r : List ℚ), allSome l = some r → r.length = l.length
  | [], r, hr => by simp only [allSome, Option.some.injEq] at hr; subst hr; rfl
  | none :: _, r, hr => by simp [allSome] at hr
  | some a :: rest, r, hr => by
    simp only [allSome, Option.map_eq_some_iff] at hr
    obtain ⟨r', hr', rfl⟩ := hr
    simp [allSome_length rest r' hr']

theorem aucRates_length (ulp : Ulp) (s : Scores) (xm ym : Metric) (x y : List ℚ)
    (hr : s.aucRates ulp xm ym = some (x, y)) : y.length = x.length := by
  simp only [Scores.aucRates] at hr
  split at hr
  · rename_i x' y' hx hy
    simp only [Option.some.injEq, Prod.mk.injEq] at hr
    obtain ⟨rfl, rfl⟩ := hr
    rw [allSome_length _ _ hx, allSome_length _ _ hy, List.length_map, List.length_map]
  · exact absurd hr (by simp)

/-- rate arrays when both rates are given by total functions (both classes non-empty) -/
theorem aucRates_of_rates (u : Ulp) (s : Scores) (xm ym : Metric) (fx gy : ℚ → ℚ)
    (hx : ∀ t, (s.cm (.fin t)).rate xm = some (fx t))
    (hy : ∀ t, (s.cm (.fin t)).rate ym = some (gy t)) :
    s.aucRates u xm ym = some ((aucPoints u s).map fx, (aucPoints u s).map gy) := by
  unfold Scores.aucRates
  simp only [hx, hy, allSome_map_some]
  rfl

/-- the exact model is `np.abs(np.trapezoid(ys, xs))` of the arrays `aucArrays` -/
theorem Scores.auc_eq_arrays (ulp : Ulp) (s : Scores) (lower upper : ℚ) (xm ym : Metric) :
    s.auc ulp lower upper xm ym =
      (s.aucArrays ulp lower upper xm ym).map fun w => absR (trapezoid w.1 w.2) := by
  simp only [Scores.auc, Scores.aucArrays, Scores.aucRates, aucCut]
  generalize allSome (List.map (fun t => (s.cm (ERat.fin t)).rate xm) _) = ox
  generalize allSome (List.map (fun t => (s.cm (ERat.fin t)).rate ym) _) = oy
  rcases ox with _ | x <;> rcases oy with _ | y
  · rfl
  · rfl
  · rfl
  · simp only []
    split <;> rfl

theorem aucCut_fst_length (x y : List ℚ) (lower upper : ℚ) :
    ∃ k, k ≤ x.length ∧ (aucCut x y lower upper).1.length = k + 2 := by
  simp only [aucCut]
  refine ⟨_, ?_, by
    rw [List.singleton_append, List.length_append, List.length_cons, List.length_singleton]⟩
  refine (List.length_take_le' _ _).trans ?_
  rw [List.length_drop]
  refine (Nat.sub_le _ _).trans (le_of_eq ?_)
  split <;> simp

theorem aucCut_lengths (x y : List ℚ) (lower upper : ℚ) (hl : y.length = x.length) :
    (aucCut x y lower upper).2.length = (aucCut x y lower upper).1.length := by
  unfold aucCut
  simp only []
  have : (if decide (x.getD (x.length - 1) 0 < x.getD 0 0) = true then y.reverse else y).length =
      (if decide (x.getD (x.length - 1) 0 < x.getD 0 0) = true then x.reverse else x).length := by
    split <;> simp [hl]
  simp only [List.length_append, List.length_take, List.length_drop, List.length_cons,
    List.length_nil, this]

/-- **`Scores.auc` in floating point against the exact model.** For every rounding function of
the model, every summation order `order` and every `Scores` object whose rate comparisons are
between separated values (`aucCmpOK`, evaluated by the driver): the float evaluation returns a
number within `aucEps u xs ys` of the exact model's AUC, where `xs`, `ys` are the exact model's
window arrays. -/
theorem Scores.auc_fl_error {fl : ℚ → ℚ} {u : ℚ} (h : Fl fl u) (order : ℕ → SumTree)
    (horder : ∀ n, 0 < n → (order n).leaves.Perm (List.range n))
    (ulp : Ulp) (s : Scores) (lower upper : ℚ) (xm ym : Metric) (x y : List ℚ)
    (hr : s.aucRates ulp xm ym = some (x, y)) (hne : x.length ≠ 0)
    (hg : aucCmpOK u x lower upper = true)
    (hk : (x.length : ℚ) * u < 1) :
    ∃ A At, s.auc ulp lower upper xm ym = some A ∧
      s.aucFl fl order ulp lower upper xm ym = some At ∧
      s.aucArrays ulp lower upper xm ym = some (aucCut x y lower upper) ∧
      |At - A| ≤ aucEps u (aucCut x y lower upper).1 (aucCut x y lower upper).2 := by
  have hl := aucRates_length ulp s xm ym x y hr
  have hw := aucCut_map h x y lower upper hg
  have hlen := aucCut_lengths x y lower upper hl
  obtain ⟨k, hkx, hk2⟩ := aucCut_fst_length x y lower upper
  set w := aucCut x y lower upper
  have hA : s.aucArrays ulp lower upper xm ym = some w := by
    unfold Scores.aucArrays
    rw [hr]
    simp only [hne, if_false]
    rfl
  have hnt : (trapTE u w.1 w.2).length = w.1.length - 1 := by
    rw [trapTE_length, hlen, min_self]
  have hpos : 0 < w.1.length - 1 := by omega
  refine ⟨absR (trapezoid w.1 w.2), absR (trapezoidFl fl (order (w.1.length - 1)) (w.1.map fl)
    (w.2.map fl)), ?_, ?_, hA, ?_⟩
  · rw [Scores.auc_eq_arrays, hA]; rfl
  · unfold Scores.aucFl
    rw [hr]
    simp only [hne, if_false, hw, List.length_map]
  · refine SA.auc_fl_error h _ w.1 w.2 _ _ (relClose_map h _) (relClose_map h _) ?_ ?_
    · rw [hnt]; exact horder _ hpos
    · rw [hnt]
      have hc : (((w.1.length - 1 - 1 : ℕ) : ℚ)) ≤ (x.length : ℚ) := by
        exact_mod_cast (by omega : w.1.length - 1 - 1 ≤ x.length)
      exact lt_of_le_of_lt (mul_le_mul_of_nonneg_right hc h.u_nonneg) hk

/-- with `fl = id` the float version is the exact model -/
theorem Scores.aucFl_id (order : ℕ → SumTree)
    (horder : ∀ n, 0 < n → (order n).leaves.Perm (List.range n))
    (ulp : Ulp) (s : Scores) (lower upper : ℚ) (xm ym : Metric) (x y : List ℚ)
    (hr : s.aucRates ulp xm ym = some (x, y)) (hne : x.length ≠ 0) :
    s.aucFl id order ulp lower upper xm ym = s.auc ulp lower upper xm ym := by
  have hsep : ∀ a b : ℚ, flSep 0 a b = true := fun a b => by
    by_cases hab : a = b <;> simp [flSep, fabs_eq_abs, hab, sub_eq_zero]
  have hg : aucCmpOK 0 x lower upper = true := by
    simp only [aucCmpOK, hsep, Bool.and_self, List.all_eq_true, implies_true, Bool.true_and]
  obtain ⟨A, At, h1, h2, _, h4⟩ := Scores.auc_fl_error Fl_id order horder ulp s lower upper xm ym x y
    hr hne hg (by simp)
  have h0 : aucEps 0 (aucCut x y lower upper).1 (aucCut x y lower upper).2 = 0 := by
    simp only [aucEps, gamK, mul_zero, zero_mul, zero_div, add_zero]
  rw [h0] at h4
  have : At = A := sub_eq_zero.mp (abs_nonpos_iff.mp h4)
  rw [h1, h2, this]

/-! ## E. the hypotheses are jointly satisfiable (non-identity rounding, concrete data) -/

/-- double precision unit roundoff, every result rounded away from zero by the full amount -/
def aucExFl (x : ℚ) : ℚ := x * (1 + 1 / 2 ^ 53)

theorem aucExFl_model : Fl aucExFl (1 / 2 ^ 53) :=
  Fl_scale_up (1 / 2 ^ 53) (by norm_num) (by norm_num)

/-- `trapTerm_fl_error` / `trapezoid_fl_error` / `auc_fl_error`: a model that is not the identity,
rates with denominators 3 (not representable), the left-to-right order on three terms, and the
float result differs from the exact one -/
example : Fl aucExFl (1 / 2 ^ 53) ∧
    RelClose (1 / 2 ^ 53) ([0, 1 / 3, 2 / 3, 1].map aucExFl) [0, 1 / 3, 2 / 3, 1] ∧
    RelClose (1 / 2 ^ 53) ([1 / 3, 1 / 3, 1, 1].map aucExFl) [1 / 3, 1 / 3, 1, 1] ∧
    (seqTree 2).leaves.Perm
      (List.range (trapTE (1 / 2 ^ 53) [0, 1 / 3, 2 / 3, 1] [1 / 3, 1 / 3, 1, 1]).length) ∧
    (((trapTE (1 / 2 ^ 53) [0, 1 / 3, 2 / 3, 1] [1 / 3, 1 / 3, 1, 1]).length - 1 : ℕ) : ℚ) *
      (1 / 2 ^ 53) < 1 ∧
    trapezoidFl aucExFl (seqTree 2) ([0, 1 / 3, 2 / 3, 1].map aucExFl)
      ([1 / 3, 1 / 3, 1, 1].map aucExFl) ≠ trapezoid [0, 1 / 3, 2 / 3, 1] [1 / 3, 1 / 3, 1, 1] := by
  refine ⟨aucExFl_model, relClose_map aucExFl_model _, relClose_map aucExFl_model _, ?_, ?_, ?_⟩
  · exact seqTree_perm 2
  · decide +kernel
  · decide +kernel

/-- the rate arrays of a concrete object: three positives, three negatives, one easy negative,
`±1/2` steps; TPR `count / 3` is not representable -/
theorem aucEx_rates :
    (⟨[1, 3, 5], [0, 2, 4], 0, 1, ⟨.pos, .pos⟩⟩ : Scores).aucRates Ulp.half .fpr .tpr =
      some ([3 / 4, 1 / 2, 1 / 2, 1 / 2, 1 / 2, 1 / 4, 1 / 4, 1 / 4, 1 / 4, 0, 0, 0],
        [1, 1, 1, 2 / 3, 2 / 3, 2 / 3, 2 / 3, 1 / 3, 1 / 3, 1 / 3, 1 / 3, 0]) := by
  set s : Scores := ⟨[1, 3, 5], [0, 2, 4], 0, 1, ⟨.pos, .pos⟩⟩ with hs
  have hp : s.pos.Pairwise (· ≤ ·) := by decide +kernel
  have hn : s.neg.Pairwise (· ≤ ·) := by decide +kernel
  have hx : ∀ t, (s.cm (.fin t)).rate .fpr = some (fpQ s t) := fun t => by
    rw [rate_fpr s hp hn]; rfl
  have hy : ∀ t, (s.cm (.fin t)).rate .tpr = some (tpQ s t) := fun t => by
    rw [rate_tpr s hp hn]; rfl
  have hpts : aucPoints Ulp.half s =
      [-1 / 2, 1 / 2, 1 / 2, 3 / 2, 3 / 2, 5 / 2, 5 / 2, 7 / 2, 7 / 2, 9 / 2, 9 / 2, 11 / 2] := by
    have hperm : ([-1 / 2, 1 / 2, 1 / 2, 3 / 2, 3 / 2, 5 / 2, 5 / 2, 7 / 2, 7 / 2, 9 / 2, 9 / 2,
        11 / 2] : List ℚ).Perm ((s.pos ++ s.neg).map Ulp.half.down ++ (s.pos ++ s.neg).map Ulp.half.up) := by
      decide +kernel
    unfold aucPoints
    rw [← sortQ_eq_of_perm _ _ hperm]
    unfold sortQ
    exact List.mergeSort_of_pairwise (by decide +kernel)
  rw [aucRates_of_rates Ulp.half s .fpr .tpr _ _ hx hy, hpts]
  decide +kernel

/-- `Scores.auc_fl_error`: that object, a partial window `[1/4, 3/4]` whose limits are rates of
the curve (equal values count as separated) and a window `[1/3, 0.7]` off the grid: the guard holds,
`len(x) u < 1`, and the left-to-right order is a summation order for every number of terms -/
example :
    (⟨[1, 3, 5], [0, 2, 4], 0, 1, ⟨.pos, .pos⟩⟩ : Scores).aucRates Ulp.half .fpr .tpr =
      some ([3 / 4, 1 / 2, 1 / 2, 1 / 2, 1 / 2, 1 / 4, 1 / 4, 1 / 4, 1 / 4, 0, 0, 0],
        [1, 1, 1, 2 / 3, 2 / 3, 2 / 3, 2 / 3, 1 / 3, 1 / 3, 1 / 3, 1 / 3, 0]) ∧
    ([3 / 4, 1 / 2, 1 / 2, 1 / 2, 1 / 2, 1 / 4, 1 / 4, 1 / 4, 1 / 4, 0, 0, 0] : List ℚ).length ≠ 0 ∧
    aucCmpOK (1 / 2 ^ 53) [3 / 4, 1 / 2, 1 / 2, 1 / 2, 1 / 2, 1 / 4, 1 / 4, 1 / 4, 1 / 4, 0, 0, 0]
      (1 / 4) (3 / 4) = true ∧
    aucCmpOK (1 / 2 ^ 53) [3 / 4, 1 / 2, 1 / 2, 1 / 2, 1 / 2, 1 / 4, 1 / 4, 1 / 4, 1 / 4, 0, 0, 0]
      (1 / 3) (7 / 10) = true ∧
    (([3 / 4, 1 / 2, 1 / 2, 1 / 2, 1 / 2, 1 / 4, 1 / 4, 1 / 4, 1 / 4, 0, 0, 0] : List ℚ).length : ℚ) *
      (1 / 2 ^ 53) < 1 ∧
    ∀ n, 0 < n → ((fun n => seqTree (n - 1)) n).leaves.Perm (List.range n) := by
  refine ⟨aucEx_rates, by decide +kernel, by decide +kernel, by decide +kernel, by decide +kernel, ?_⟩
  intro n hn
  have := seqTree_perm (n - 1)
  rwa [Nat.sub_add_cancel hn] at this

/-- the guard fails where it should: a limit closer to a rate than the two roundings together
(`1/2 + 2^-54` against the rate `1/2`) -/
example : aucCmpOK (1 / 2 ^ 53) [3 / 4, 1 / 2, 1 / 4, 0] (1 / 2 + 1 / 2 ^ 54) (3 / 4) = false := by
  decide +kernel

/-- a worked instance of the bound: the four-point curve above, `u = 2^-53`: about `7.1 u` for an
area of `2/3` (the differences `1/3` of rounded abscissae of size up to 1 amplify the input roundings) -/
example : aucEps (1 / 2 ^ 53) [0, 1 / 3, 2 / 3, 1] [1 / 3, 1 / 3, 1, 1] < 8 * (1 / 2 ^ 53) := by
  decide +kernel

end SA

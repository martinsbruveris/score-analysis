/-
Floating-point error bounds for the two interpolation formulas (C02 / C09 / C15 / C17), under the
standard model `Fl fl u` (`SA/Proofs/FloatModel.lean`): every arithmetic operation returns
`fl` of the exact result, `|fl x - x| ≤ u * |x|`.

Statements (all for every `fl`, `u` with `Fl fl u`):

* `interp_fl_error`         `|fl(fl(la*a) + fl(fl(1-la)*b)) - (la*a + (1-la)*b)|
                               ≤ ((1+u)^3 - 1) * max |a| |b|` for `0 ≤ la ≤ 1`
                             (`interp_fl_error_gen`: any `la`, sharper, weights kept)
* `interp_fl_error_perturbed`  the same with a weight `la'`, `|la' - la| ≤ d`:
                             additional `d * |a - b|`
* `interp_fl_bracket`       `min a b - eps ≤ t~ ≤ max a b + eps`  (the "few ulp" clause of C02)
* `target_fl_error`, `weight_fl_error`  the index target `fl(r' * N)` and the weight `fl(R - target)`
* `threshold_fl_error`      float `_invert_increasing_function` against the exact model
                             `invertIncreasing`, WHEN both are interior and pick the same two
                             neighbours
* `threshold_fl_error_checked`  the same with the two hypotheses replaced by the executable guards
                             `flInterior`, `flSameCell` (evaluated by the driver)
* `threshold_fl_error_lip`  without the same-neighbours hypothesis, for a sorted list
* `threshold_fl_bracket`    the float threshold lies between the two neighbours up to the bound
* `FExpr.evalFl_error`      running error bound for arithmetic expressions; `ratioE_val`,
                             `thresholdAt_fl_error`: the whole way from the requested target of
                             `threshold_at_<metric>` to the returned threshold
* `segPoint_fl_error`       the segment formula of `invert_pl_function`
* `*_id`                    with `fl = id` the float versions are the exact models
-/
import SA.Proofs.FloatModel
import SA.Proofs.ThrLipschitz
import SA.Theorems.C17

namespace SA

/-! ## A. the convex combination -/

/-- **General weights.** No assumption on `la`; each product keeps its own weight. -/
theorem interp_fl_error_gen {fl : ℚ → ℚ} {u : ℚ} (h : Fl fl u) (la a b : ℚ) :
    |interpEval fl la a b - (la * a + (1 - la) * b)| ≤
      ((1 + u) ^ 2 - 1) * (|la| * |a|) + ((1 + u) ^ 3 - 1) * (|1 - la| * |b|) := by
  -- the second product carries two roundings, the sum one more on both
  have hq := h.mul_round (h.rel (1 - la)) (exact_err b)
  have hs := h.add_round (h.mul_err la a) hq
  have hT := mul_le_mul_of_nonneg_left (abs_add_le (la * a) ((1 - la) * b)) h.u_nonneg
  simp only [zero_mul, mul_zero, add_zero, abs_mul] at hs hT
  unfold interpEval
  linarith only [hs, hT]

/-- the executable `interpErrW` is the right-hand side of `interp_fl_error_gen` -/
theorem interpErrW_eq (u la a b : ℚ) : interpErrW u la a b =
    ((1 + u) ^ 2 - 1) * (|la| * |a|) + ((1 + u) ^ 3 - 1) * (|1 - la| * |b|) := by
  unfold interpErrW
  rw [gam2_eq, gam3_eq, fabs_eq_abs, fabs_eq_abs, fabs_eq_abs, fabs_eq_abs]

theorem interpErr_eq (u a b : ℚ) : interpErr u a b = ((1 + u) ^ 3 - 1) * max |a| |b| := by
  unfold interpErr
  rw [gam3_eq, fabs_eq_abs, fabs_eq_abs]

theorem interpEpsW_eq (u d a b : ℚ) : interpEpsW u d a b =
    d * |a - b| + ((1 + u) ^ 3 - 1) * ((1 + 2 * d) * max |a| |b|) := by
  unfold interpEpsW
  rw [gam3_eq, fabs_eq_abs, fabs_eq_abs, fabs_eq_abs]

/-- weights bounded by `wa`, `wb`: `≤ ((1+u)^3 - 1) * (wa + wb) * max |a| |b|` -/
private theorem interpErrW_le {u la a b wa wb : ℚ} (hu : 0 ≤ u) (ha : |la| ≤ wa)
    (hb : |1 - la| ≤ wb) :
    ((1 + u) ^ 2 - 1) * (|la| * |a|) + ((1 + u) ^ 3 - 1) * (|1 - la| * |b|) ≤
      ((1 + u) ^ 3 - 1) * ((wa + wb) * max |a| |b|) := by
  have g23 : (1 + u) ^ 2 - 1 ≤ (1 + u) ^ 3 - 1 :=
    sub_le_sub_right (pow_le_pow_right₀ (le_add_of_nonneg_right hu) (by norm_num)) 1
  have h1 : |la| * |a| ≤ wa * max |a| |b| :=
    mul_le_mul ha (le_max_left _ _) (abs_nonneg _) ((abs_nonneg _).trans ha)
  have h2 : |1 - la| * |b| ≤ wb * max |a| |b| :=
    mul_le_mul hb (le_max_right _ _) (abs_nonneg _) ((abs_nonneg _).trans hb)
  rw [add_mul, mul_add]
  exact add_le_add
    ((mul_le_mul_of_nonneg_right g23 (mul_nonneg (abs_nonneg _) (abs_nonneg _))).trans
      (mul_le_mul_of_nonneg_left h1 (gam3_eq u ▸ gam3_nonneg hu)))
    (mul_le_mul_of_nonneg_left h2 (gam3_eq u ▸ gam3_nonneg hu))

/-- **Perturbed weight.** The weight actually used, `la'`, is within `d` of the exact weight
`la ∈ [0, 1]` (it comes from `right_idx - fl (r * N)`): the distance to the exact
interpolation grows by `d * |a - b|`. -/
theorem interp_fl_error_perturbed {fl : ℚ → ℚ} {u : ℚ} (h : Fl fl u) (la la' d a b : ℚ)
    (h0 : 0 ≤ la) (h1 : la ≤ 1) (hd : |la' - la| ≤ d) :
    |interpEval fl la' a b - (la * a + (1 - la) * b)| ≤
      d * |a - b| + ((1 + u) ^ 3 - 1) * ((1 + 2 * d) * max |a| |b|) := by
  obtain ⟨hd1, hd2⟩ := abs_le.mp hd
  have ha : |la'| ≤ la + d :=
    abs_le.mpr ⟨by linarith only [hd1, h0], by linarith only [hd2]⟩
  have hb : |1 - la'| ≤ (1 - la) + d :=
    abs_le.mpr ⟨by linarith only [hd2, h1], by linarith only [hd1]⟩
  have e2 := (interp_fl_error_gen h la' a b).trans (interpErrW_le h.u_nonneg ha hb)
  have e3 : la + d + (1 - la + d) = 1 + 2 * d := by ring
  -- the exact interpolation moves by `(la' - la) (a - b)`
  have e4 : |(la' * a + (1 - la') * b) - (la * a + (1 - la) * b)| ≤ d * |a - b| := by
    have : (la' * a + (1 - la') * b) - (la * a + (1 - la) * b) = (la' - la) * (a - b) := by ring
    rw [this, abs_mul]
    exact mul_le_mul_of_nonneg_right hd (abs_nonneg _)
  rw [e3] at e2
  have tri := abs_sub_le (interpEval fl la' a b) (la' * a + (1 - la') * b) (la * a + (1 - la) * b)
  linarith only [tri, e2, e4]

theorem interp_fl_error_perturbed' {fl : ℚ → ℚ} {u : ℚ} (h : Fl fl u) (la la' d a b : ℚ)
    (h0 : 0 ≤ la) (h1 : la ≤ 1) (hd : |la' - la| ≤ d) :
    |interpEval fl la' a b - (la * a + (1 - la) * b)| ≤ interpEpsW u d a b := by
  rw [interpEpsW_eq]; exact interp_fl_error_perturbed h la la' d a b h0 h1 hd

/-- **`interp_fl_error`.** For a weight in `[0, 1]` the float evaluation of
`la * a + (1 - la) * b` is within `((1+u)^3 - 1) * max |a| |b|` (about `3u` times the larger
neighbour, i.e. one and a half of its ulps for `u = 2^-53`) of the exact value. -/
theorem interp_fl_error {fl : ℚ → ℚ} {u : ℚ} (h : Fl fl u) (la a b : ℚ) (h0 : 0 ≤ la)
    (h1 : la ≤ 1) :
    |interpEval fl la a b - (la * a + (1 - la) * b)| ≤ ((1 + u) ^ 3 - 1) * max |a| |b| := by
  have := interp_fl_error_perturbed h la la 0 a b h0 h1 (exact_err la)
  rwa [zero_mul, zero_add, mul_zero, add_zero, one_mul] at this

/-- the bound of `interp_fl_error` is the executable `interpErr` -/
theorem interp_fl_error' {fl : ℚ → ℚ} {u : ℚ} (h : Fl fl u) (la a b : ℚ) (h0 : 0 ≤ la)
    (h1 : la ≤ 1) :
    |interpEval fl la a b - (la * a + (1 - la) * b)| ≤ interpErr u a b := by
  rw [interpErr_eq]; exact interp_fl_error h la a b h0 h1

theorem convex_between (la a b : ℚ) (h0 : 0 ≤ la) (h1 : la ≤ 1) :
    min a b ≤ la * a + (1 - la) * b ∧ la * a + (1 - la) * b ≤ max a b := by
  rcases le_total a b with h | h
  · rw [min_eq_left h, max_eq_right h]
    exact convexComb_between h h0 h1
  · rw [min_eq_right h, max_eq_left h, add_comm]
    simpa only [sub_sub_cancel] using
      convexComb_between h (sub_nonneg.mpr h1) (sub_le_self 1 h0)

theorem bracket_of_close {v c e lo hi : ℚ} (hv : |v - c| ≤ e) (hc : lo ≤ c ∧ c ≤ hi) :
    lo - e ≤ v ∧ v ≤ hi + e := by
  obtain ⟨h1, h2⟩ := abs_le.mp hv
  constructor <;> linarith [hc.1, hc.2]

/-- **Bracket ("few ulp").** The float interpolation lies between the two neighbours up to the
error bound, for the exact weight and for a perturbed one. -/
theorem interp_fl_bracket {fl : ℚ → ℚ} {u : ℚ} (h : Fl fl u) (la la' d a b : ℚ)
    (h0 : 0 ≤ la) (h1 : la ≤ 1) (hd : |la' - la| ≤ d) :
    min a b - interpEpsW u d a b ≤ interpEval fl la' a b ∧
      interpEval fl la' a b ≤ max a b + interpEpsW u d a b :=
  bracket_of_close (interp_fl_error_perturbed' h la la' d a b h0 h1 hd) (convex_between la a b h0 h1)

/-- the bracket with the exact weight: `min a b - ((1+u)^3-1) max|a||b| ≤ t~ ≤ max a b + ...` -/
theorem interp_fl_bracket_exact {fl : ℚ → ℚ} {u : ℚ} (h : Fl fl u) (la a b : ℚ)
    (h0 : 0 ≤ la) (h1 : la ≤ 1) :
    min a b - ((1 + u) ^ 3 - 1) * max |a| |b| ≤ interpEval fl la a b ∧
      interpEval fl la a b ≤ max a b + ((1 + u) ^ 3 - 1) * max |a| |b| :=
  bracket_of_close (interp_fl_error h la a b h0 h1) (convex_between la a b h0 h1)

theorem interpEpsW_mono {u d d' a b : ℚ} (hu : 0 ≤ u) (hd : d ≤ d') :
    interpEpsW u d a b ≤ interpEpsW u d' a b := by
  rw [interpEpsW_eq, interpEpsW_eq]
  have hM0 : 0 ≤ max |a| |b| := (abs_nonneg a).trans (le_max_left _ _)
  exact add_le_add (mul_le_mul_of_nonneg_right hd (abs_nonneg _))
    (mul_le_mul_of_nonneg_left (mul_le_mul_of_nonneg_right (by linarith) hM0)
      (gam3_eq u ▸ gam3_nonneg hu))

/-! ## B. index target, weight, threshold -/

/-- `fl (rt - fl (1/n))` against `r - 1/n` -/
theorem shift_fl_error {fl : ℚ → ℚ} {u : ℚ} (h : Fl fl u) (n : ℕ) (lc : Bool) (r rt dr : ℚ)
    (hdr : |rt - r| ≤ dr) :
    |(if lc then rt else fl (rt - fl (1 / (n : ℚ)))) - (if lc then r else r - 1 / (n : ℚ))| ≤
      shiftErr u n lc r dr := by
  unfold shiftErr
  cases lc
  · have hm := h.rel (1 / (n : ℚ))
    rw [abs_of_nonneg (by positivity : (0 : ℚ) ≤ 1 / (n : ℚ))] at hm
    simpa only [Bool.false_eq_true, if_false, fabs_eq_abs] using h.sub_round hdr hm
  · simpa only [if_true] using hdr

theorem shiftErr_nonneg {fl : ℚ → ℚ} {u : ℚ} (h : Fl fl u) (n : ℕ) (lc : Bool) (r rt dr : ℚ)
    (hdr : |rt - r| ≤ dr) : 0 ≤ shiftErr u n lc r dr :=
  le_trans (abs_nonneg _) (shift_fl_error h n lc r rt dr hdr)

/-- **Index target.** `target~ = fl (r'~ * N)` against `target = r' * N`. -/
theorem target_fl_error {fl : ℚ → ℚ} {u : ℚ} (h : Fl fl u) (s : List ℚ) (lc : Bool)
    (r rt dr : ℚ) (hdr : |rt - r| ≤ dr) :
    |indexTargetFl fl s rt lc - indexTarget s r lc| ≤ targetErr u s.length lc r dr := by
  unfold indexTargetFl indexTarget targetErr
  have := h.mul_round (shift_fl_error h s.length lc r rt dr hdr) (exact_err (s.length : ℚ))
  simpa only [zero_mul, mul_zero, add_zero, Nat.abs_cast, fabs_eq_abs] using this

theorem targetErr_nonneg {fl : ℚ → ℚ} {u : ℚ} (h : Fl fl u) (s : List ℚ) (lc : Bool)
    (r rt dr : ℚ) (hdr : |rt - r| ≤ dr) : 0 ≤ targetErr u s.length lc r dr :=
  le_trans (abs_nonneg _) (target_fl_error h s lc r rt dr hdr)

theorem targetErr_exact (u : ℚ) (n : ℕ) (r : ℚ) : targetErr u n true r 0 = u * |r * (n : ℚ)| := by
  unfold targetErr shiftErr
  simp only [if_true, zero_mul, zero_add, add_zero, fabs_eq_abs]

/-- **Weight.** `la' = fl (R - target~)` against `la = R - target ∈ [0, 1]`. -/
theorem weight_fl_error {fl : ℚ → ℚ} {u : ℚ} (h : Fl fl u) (R x xt dt : ℚ) (h0 : 0 ≤ R - x)
    (h1 : R - x ≤ 1) (hx : |xt - x| ≤ dt) : |fl (R - xt) - (R - x)| ≤ weightErr u dt := by
  have := h.sub_round (exact_err R) hx
  rw [abs_of_nonneg h0, zero_add] at this
  unfold weightErr
  have := mul_le_mul_of_nonneg_left (add_le_add_right h1 dt) h.u_nonneg
  linarith

theorem interp_eq_eval (s : List ℚ) (x : ℚ) :
    interp s x = (((ceilQ x : ℤ) : ℚ) - x) * s.getD (clampIdx x.floor s.length) 0 +
      (1 - (((ceilQ x : ℤ) : ℚ) - x)) * s.getD (clampIdx (ceilQ x) s.length) 0 := rfl

theorem interpFl_eq_eval (fl : ℚ → ℚ) (s : List ℚ) (x : ℚ) :
    interpFl fl s x = interpEval fl (fl (((ceilQ x : ℤ) : ℚ) - x))
      (s.getD (clampIdx x.floor s.length) 0) (s.getD (clampIdx (ceilQ x) s.length) 0) := rfl

theorem invertIncreasingFl_interior (fl : ℚ → ℚ) (ulp : Ulp) (s : List ℚ) (r : ℚ) (lc : Bool)
    (h1 : r < 1) (h0 : 0 < (if lc then r else fl (r - fl (1 / (s.length : ℚ))))) :
    invertIncreasingFl fl ulp s r lc .linear = interpFl fl s (indexTargetFl fl s r lc) := by
  unfold invertIncreasingFl indexTargetFl interpFl
  have h1' : ¬ (1 ≤ r) := by linarith
  have h0' : ¬ ((if lc = true then r else fl (r - fl (1 / (s.length : ℚ)))) ≤ 0) := by linarith
  simp only [h1', decide_false, Bool.false_eq_true, if_false, h0']

/-- **Float interpolation at one index target** (only the weight `right_idx - target` and the
convex combination are rounded): the weight error is at most `u`. -/
theorem interpFl_error {fl : ℚ → ℚ} {u : ℚ} (h : Fl fl u) (s : List ℚ) (x : ℚ) :
    |interpFl fl s x - interp s x| ≤ interpEpsW u u (s.getD (clampIdx x.floor s.length) 0)
      (s.getD (clampIdx (ceilQ x) s.length) 0) := by
  rw [interpFl_eq_eval, interp_eq_eval]
  obtain ⟨w0, w1⟩ := la_range x
  refine interp_fl_error_perturbed' h _ _ u _ _ w0 w1.le ((h.rel _).trans ?_)
  rw [abs_of_nonneg w0]
  exact mul_le_of_le_one_right h.u_nonneg w1.le

/-- **`threshold_fl_error`.** `_invert_increasing_function` (method `linear`) computed in
floating point from a ratio `rt` within `dr` of the exact ratio `r`, against the exact model,
for interior targets (neither special case, on either side) WHEN BOTH PICK THE SAME TWO
NEIGHBOURS (the float index target has the floor and ceiling of the exact one):

`|t~ - t| ≤ d * |a - b| + ((1+u)^3 - 1) * (1 + 2 d) * max |a| |b|`, `d = dt + u (1 + dt)`,
`dt = targetErr` (`= u * r * N` for an exact unshifted ratio). -/
theorem threshold_fl_error {fl : ℚ → ℚ} {u : ℚ} (h : Fl fl u) (ulp : Ulp) (s : List ℚ)
    (r rt dr : ℚ) (lc : Bool) (hdr : |rt - r| ≤ dr)
    (h1 : r < 1) (h0 : 0 < (if lc then r else r - 1 / (s.length : ℚ)))
    (h1t : rt < 1) (h0t : 0 < (if lc then rt else fl (rt - fl (1 / (s.length : ℚ)))))
    (hfloor : (indexTargetFl fl s rt lc).floor = (indexTarget s r lc).floor)
    (hceil : ceilQ (indexTargetFl fl s rt lc) = ceilQ (indexTarget s r lc)) :
    |invertIncreasingFl fl ulp s rt lc .linear - invertIncreasing ulp s r lc .linear| ≤
      interpEpsR u s.length lc r dr
        (s.getD (clampIdx (indexTarget s r lc).floor s.length) 0)
        (s.getD (clampIdx (ceilQ (indexTarget s r lc)) s.length) 0) := by
  rw [invertIncreasingFl_interior fl ulp s rt lc h1t h0t, invertIncreasing_interior ulp s r lc h1 h0,
    interpFl_eq_eval, interp_eq_eval, hfloor, hceil]
  obtain ⟨w0, w1⟩ := la_range (indexTarget s r lc)
  exact interp_fl_error_perturbed' h _ _ _ _ _ w0 w1.le
    (weight_fl_error h _ _ _ _ w0 w1.le (target_fl_error h s lc r rt dr hdr))

theorem interpEpsR_eq (u : ℚ) (n : ℕ) (lc : Bool) (r dr a b : ℚ) :
    interpEpsR u n lc r dr a b =
      (targetErr u n lc r dr + u * (1 + targetErr u n lc r dr)) * |a - b| +
        ((1 + u) ^ 3 - 1) *
          ((1 + 2 * (targetErr u n lc r dr + u * (1 + targetErr u n lc r dr))) * max |a| |b|) := by
  unfold interpEpsR weightErr
  rw [interpEpsW_eq]

/-- `interpEps u n r a b`: exact ratio, no shift; the weight error is
`u r N + u (1 + u r N)` -/
theorem interpEps_eq (u : ℚ) (n : ℕ) (r a b : ℚ) :
    interpEps u n r a b =
      (u * |r * (n : ℚ)| + u * (1 + u * |r * (n : ℚ)|)) * |a - b| +
        ((1 + u) ^ 3 - 1) *
          ((1 + 2 * (u * |r * (n : ℚ)| + u * (1 + u * |r * (n : ℚ)|))) * max |a| |b|) := by
  unfold interpEps
  rw [interpEpsR_eq, targetErr_exact]

/-- with an exactly known ratio and no shift the bound of `threshold_fl_error` is `interpEps` -/
theorem threshold_fl_error_exact {fl : ℚ → ℚ} {u : ℚ} (h : Fl fl u) (ulp : Ulp) (s : List ℚ)
    (r : ℚ) (h1 : r < 1) (h0 : 0 < r)
    (hfloor : (indexTargetFl fl s r true).floor = (indexTarget s r true).floor)
    (hceil : ceilQ (indexTargetFl fl s r true) = ceilQ (indexTarget s r true)) :
    |invertIncreasingFl fl ulp s r true .linear - invertIncreasing ulp s r true .linear| ≤
      interpEps u s.length r
        (s.getD (clampIdx (indexTarget s r true).floor s.length) 0)
        (s.getD (clampIdx (ceilQ (indexTarget s r true)) s.length) 0) := by
  unfold interpEps
  exact threshold_fl_error h ulp s r r 0 true (by simp) h1 (by simpa using h0) h1
    (by simpa using h0) hfloor hceil

/-- **Bracket for the float threshold**: between the two neighbours up to the bound. -/
theorem threshold_fl_bracket {fl : ℚ → ℚ} {u : ℚ} (h : Fl fl u) (ulp : Ulp) (s : List ℚ)
    (r rt dr : ℚ) (lc : Bool) (hdr : |rt - r| ≤ dr)
    (h1 : r < 1) (h0 : 0 < (if lc then r else r - 1 / (s.length : ℚ)))
    (h1t : rt < 1) (h0t : 0 < (if lc then rt else fl (rt - fl (1 / (s.length : ℚ)))))
    (hfloor : (indexTargetFl fl s rt lc).floor = (indexTarget s r lc).floor)
    (hceil : ceilQ (indexTargetFl fl s rt lc) = ceilQ (indexTarget s r lc)) :
    let a := s.getD (clampIdx (indexTarget s r lc).floor s.length) 0
    let b := s.getD (clampIdx (ceilQ (indexTarget s r lc)) s.length) 0
    min a b - interpEpsR u s.length lc r dr a b ≤ invertIncreasingFl fl ulp s rt lc .linear ∧
      invertIncreasingFl fl ulp s rt lc .linear ≤ max a b + interpEpsR u s.length lc r dr a b := by
  intro a b
  have e := threshold_fl_error h ulp s r rt dr lc hdr h1 h0 h1t h0t hfloor hceil
  rw [invertIncreasing_interior ulp s r lc h1 h0, interp_eq_eval] at e
  obtain ⟨w0, w1⟩ := la_range (indexTarget s r lc)
  exact bracket_of_close e (convex_between _ a b w0 w1.le)

/-! ## B'. the two hypotheses as executable guards; the bound without the same-neighbours
hypothesis -/

/-- the margin of `flInterior` keeps both computations away from the two special cases -/
theorem interior_of_guard {fl : ℚ → ℚ} {u : ℚ} (h : Fl fl u) (n : ℕ) (lc : Bool) (r rt dr : ℚ)
    (hdr : |rt - r| ≤ dr) (hg : flInterior u n lc r dr = true) :
    r < 1 ∧ 0 < (if lc then r else r - 1 / (n : ℚ)) ∧ rt < 1 ∧
      0 < (if lc then rt else fl (rt - fl (1 / (n : ℚ)))) := by
  unfold flInterior at hg
  simp only [Bool.and_eq_true, decide_eq_true_eq] at hg
  obtain ⟨g1, g2⟩ := hg
  obtain ⟨_, hr⟩ := abs_le.mp hdr
  have hs := shift_fl_error h n lc r rt dr hdr
  refine ⟨by linarith only [g1, (abs_nonneg _).trans hdr], ?_,
    by linarith only [g1, hr], ?_⟩
  · exact ((abs_nonneg _).trans hs).trans_lt g2
  · linarith only [g2, (abs_le.mp hs).1]

/-- closer to `x` than `x` is to any integer: same floor and ceiling -/
theorem same_cell_of_close (x xt dt : ℚ) (hx : |xt - x| ≤ dt) (hd : dt < fracDist x) :
    xt.floor = x.floor ∧ ceilQ xt = ceilQ x := by
  unfold fracDist at hd
  have d1 : dt < x - (⌊x⌋ : ℚ) := hd.trans_le (min_le_left _ _)
  have d2 : dt < (⌊x⌋ : ℚ) + 1 - x := hd.trans_le (min_le_right _ _)
  obtain ⟨hl, hr⟩ := abs_le.mp hx
  -- both lie strictly inside the cell `(⌊x⌋, ⌊x⌋ + 1)`
  have cell : ∀ z : ℚ, (⌊x⌋ : ℚ) < z → z < (⌊x⌋ : ℚ) + 1 → ⌊z⌋ = ⌊x⌋ ∧ ⌈z⌉ = ⌊x⌋ + 1 :=
    fun z h1 h2 => ⟨Int.floor_eq_iff.mpr ⟨h1.le, h2⟩,
      Int.ceil_eq_iff.mpr ⟨by push_cast; linarith only [h1], by push_cast; linarith only [h2]⟩⟩
  have hdt : 0 ≤ dt := (abs_nonneg _).trans hx
  obtain ⟨f1, c1⟩ := cell xt (by linarith only [hl, d1]) (by linarith only [hr, d2])
  obtain ⟨f2, c2⟩ := cell x (by linarith only [hdt, d1]) (by linarith only [hdt, d2])
  exact ⟨f1.trans f2.symm, by rw [ceilQ_eq, ceilQ_eq, c1, c2]⟩

/-- **`threshold_fl_error` with checked hypotheses.** `flInterior` and `flSameCell` are evaluated
by the driver on the exact quantities; they imply the four interior hypotheses and the
same-neighbours hypothesis of `threshold_fl_error` for EVERY rounding function of the model. -/
theorem threshold_fl_error_checked {fl : ℚ → ℚ} {u : ℚ} (h : Fl fl u) (ulp : Ulp) (s : List ℚ)
    (r rt dr : ℚ) (lc : Bool) (hdr : |rt - r| ≤ dr)
    (hint : flInterior u s.length lc r dr = true) (hcell : flSameCell u s lc r dr = true) :
    |invertIncreasingFl fl ulp s rt lc .linear - invertIncreasing ulp s r lc .linear| ≤
      interpEpsR u s.length lc r dr
        (s.getD (clampIdx (indexTarget s r lc).floor s.length) 0)
        (s.getD (clampIdx (ceilQ (indexTarget s r lc)) s.length) 0) := by
  obtain ⟨h1, h0, h1t, h0t⟩ := interior_of_guard h s.length lc r rt dr hdr hint
  unfold flSameCell at hcell
  simp only [decide_eq_true_eq] at hcell
  obtain ⟨hf, hc⟩ := same_cell_of_close _ _ _ (target_fl_error h s lc r rt dr hdr) hcell
  exact threshold_fl_error h ulp s r rt dr lc hdr h1 h0 h1t h0t hf hc

/-! ### the executable accumulators `maxGapL`, `maxAbsL` of the bound -/

theorem maxGapAux_eq : ∀ (l : List ℚ) (m : ℚ), 0 ≤ m → maxGapAux m l = max m (c06d_maxGap l)
  | [], m, hm => by simp only [maxGapAux, c06d_maxGap]; exact (max_eq_left hm).symm
  | [_], m, hm => by simp only [maxGapAux, c06d_maxGap]; exact (max_eq_left hm).symm
  | a :: b :: r, m, hm => by
    simp only [maxGapAux, c06d_maxGap]
    rw [maxGapAux_eq (b :: r) _ (le_trans hm (le_max_left _ _)), max_assoc]

theorem maxGapL_eq (l : List ℚ) : maxGapL l = c06d_maxGap l := by
  unfold maxGapL
  rw [maxGapAux_eq l 0 (le_refl 0)]
  exact max_eq_right (c06d_maxGap_nonneg l)

theorem maxAbsAux_ge : ∀ (l : List ℚ) (m : ℚ), m ≤ maxAbsAux m l
  | [], m => le_refl m
  | v :: vs, m => by
    simp only [maxAbsAux]
    exact le_trans (le_max_left _ _) (maxAbsAux_ge vs _)

theorem maxAbsAux_mono : ∀ (l : List ℚ) (m m' : ℚ), m ≤ m' → maxAbsAux m l ≤ maxAbsAux m' l
  | [], m, m', h => h
  | v :: vs, m, m', h => by
    simp only [maxAbsAux]
    exact maxAbsAux_mono vs _ _ (max_le_max_right _ h)

theorem maxAbsL_nonneg (l : List ℚ) : 0 ≤ maxAbsL l := maxAbsAux_ge l 0

theorem abs_getD_le_maxAbsAux : ∀ (l : List ℚ) (m : ℚ) (i : ℕ), 0 ≤ m → |l.getD i 0| ≤ maxAbsAux m l
  | [], m, i, hm => by simpa [maxAbsAux] using hm
  | v :: vs, m, 0, hm => by
    simp only [List.getD_cons_zero, maxAbsAux]
    rw [← fabs_eq_abs]
    exact le_trans (le_max_right _ _) (maxAbsAux_ge vs _)
  | v :: vs, m, i + 1, hm => by
    simp only [List.getD_cons_succ, maxAbsAux]
    exact abs_getD_le_maxAbsAux vs _ i (le_trans hm (le_max_left _ _))

theorem abs_getD_le_maxAbsL (l : List ℚ) (i : ℕ) : |l.getD i 0| ≤ maxAbsL l :=
  abs_getD_le_maxAbsAux l 0 i (le_refl 0)

theorem interpEpsW_le_of_abs_le {u d a b M : ℚ} (hu : 0 ≤ u) (hd : 0 ≤ d) (ha : |a| ≤ M)
    (hb : |b| ≤ M) : interpEpsW u d a b ≤ (2 * d + gam3 u * (1 + 2 * d)) * M := by
  rw [interpEpsW_eq, ← gam3_eq]
  have t1 := mul_le_mul_of_nonneg_left ((abs_sub a b).trans (add_le_add ha hb)) hd
  have t2 := mul_le_mul_of_nonneg_left
    (mul_le_mul_of_nonneg_left (max_le ha hb) (by linarith only [hd] : 0 ≤ 1 + 2 * d))
    (gam3_nonneg hu)
  linarith only [t1, t2]

/-- **Without the same-neighbours hypothesis.** For a sorted list the float threshold is within
`maxGap * dt + (2u + ((1+u)^3 - 1)(1 + 2u)) * max|s|` of the exact one: the float interpolation
is exact up to the weight rounding at ITS index target, and the exact interpolation is Lipschitz
in the index target.  (Covers targets on or next to a grid point `k/N`, where the float index
target may fall into the neighbouring cell.) -/
theorem threshold_fl_error_lip {fl : ℚ → ℚ} {u : ℚ} (h : Fl fl u) (ulp : Ulp) (s : List ℚ)
    (hs : s.Pairwise (· ≤ ·)) (hne : s.length ≠ 0)
    (r rt dr : ℚ) (lc : Bool) (hdr : |rt - r| ≤ dr)
    (hint : flInterior u s.length lc r dr = true) :
    |invertIncreasingFl fl ulp s rt lc .linear - invertIncreasing ulp s r lc .linear| ≤
      interpEpsLip u s (targetErr u s.length lc r dr) := by
  obtain ⟨h1, h0, h1t, h0t⟩ := interior_of_guard h s.length lc r rt dr hdr hint
  rw [invertIncreasingFl_interior fl ulp s rt lc h1t h0t, invertIncreasing_interior ulp s r lc h1 h0]
  have e1 := (interpFl_error h s (indexTargetFl fl s rt lc)).trans
    (interpEpsW_le_of_abs_le h.u_nonneg h.u_nonneg (abs_getD_le_maxAbsL s _)
      (abs_getD_le_maxAbsL s _))
  have e2 := (c06d_interp_abs_lip s hs hne (indexTarget s r lc) (indexTargetFl fl s rt lc)).trans
    (mul_le_mul_of_nonneg_left (target_fl_error h s lc r rt dr hdr) (c06d_maxGap_nonneg s))
  have tri := abs_sub_le (interpFl fl s (indexTargetFl fl s rt lc))
    (interp s (indexTargetFl fl s rt lc)) (interp s (indexTarget s r lc))
  unfold interpEpsLip interpEpsLipG
  rw [maxGapL_eq]
  linarith only [e1, e2, tri]

/-! ## C. expressions: the requested target's way to `_invert_increasing_function` -/

/-- **Running error bound.** For every expression whose divisors are safely non-zero
(`FExpr.ok`), the value computed with rounding after every operation is within `FExpr.err` of
the exact value. -/
theorem FExpr.evalFl_error {fl : ℚ → ℚ} {u : ℚ} (h : Fl fl u) :
    ∀ e : FExpr, e.ok u = true → |e.evalFl fl - e.val| ≤ e.err u
  | .lit c, _ => by simp [FExpr.evalFl, FExpr.val, FExpr.err]
  | .add x y, hok => by
    simp only [FExpr.ok, Bool.and_eq_true] at hok
    simp only [FExpr.evalFl, FExpr.val, FExpr.err, roundErr_eq]
    exact h.add_round (FExpr.evalFl_error h x hok.1) (FExpr.evalFl_error h y hok.2)
  | .sub x y, hok => by
    simp only [FExpr.ok, Bool.and_eq_true] at hok
    simp only [FExpr.evalFl, FExpr.val, FExpr.err, roundErr_eq]
    exact h.sub_round (FExpr.evalFl_error h x hok.1) (FExpr.evalFl_error h y hok.2)
  | .mul x y, hok => by
    simp only [FExpr.ok, Bool.and_eq_true] at hok
    simp only [FExpr.evalFl, FExpr.val, FExpr.err, roundErr_eq, fabs_eq_abs]
    exact h.mul_round (FExpr.evalFl_error h x hok.1) (FExpr.evalFl_error h y hok.2)
  | .div x y, hok => by
    simp only [FExpr.ok, Bool.and_eq_true, decide_eq_true_eq, fabs_eq_abs] at hok
    simp only [FExpr.evalFl, FExpr.val, FExpr.err, roundErr_eq, fabs_eq_abs]
    exact h.div_round (FExpr.evalFl_error h x hok.1.1) (FExpr.evalFl_error h y hok.1.2) hok.2
  | .maxE x y, hok => by
    simp only [FExpr.ok, Bool.and_eq_true] at hok
    exact max_perturb (FExpr.evalFl_error h x hok.1) (FExpr.evalFl_error h y hok.2)
  | .minE x y, hok => by
    simp only [FExpr.ok, Bool.and_eq_true] at hok
    exact min_perturb (FExpr.evalFl_error h x hok.1) (FExpr.evalFl_error h y hok.2)

theorem FExpr.evalFl_id : ∀ e : FExpr, e.evalFl id = e.val
  | .lit _ => rfl
  | .add x y | .sub x y | .mul x y | .div x y | .maxE x y | .minE x y => by
    simp only [FExpr.evalFl, FExpr.val, id, FExpr.evalFl_id x, FExpr.evalFl_id y]

theorem hardPosRatioE_val (s : Scores) : s.hardPosRatioE.val = s.hardPosRatio := by
  unfold Scores.hardPosRatioE Scores.hardPosRatio
  split <;> simp only [FExpr.val]

theorem hardNegRatioE_val (s : Scores) : s.hardNegRatioE.val = s.hardNegRatio := by
  unfold Scores.hardNegRatioE Scores.hardNegRatio
  split <;> simp only [FExpr.val]

theorem hardRatioE_val (s : Scores) : s.hardRatioE.val = s.hardRatio := by
  unfold Scores.hardRatioE Scores.hardRatio Scores.easyRatio
  split <;> simp only [FExpr.val]

theorem rescaleE_val (s : Scores) (metric : Metric) (r : ℚ) :
    (s.rescaleE metric r).val = s.rescale metric r := by
  cases metric <;>
    simp only [Scores.rescaleE, Scores.rescale, FExpr.val, hardPosRatioE_val, hardNegRatioE_val,
      hardRatioE_val]

theorem normaliseE_val (cfg : Cfg) (e : FExpr) (increasing : Bool) :
    (normaliseE cfg e increasing).val = if evenFlips cfg increasing then e.val else 1 - e.val := by
  unfold normaliseE evenFlips
  obtain ⟨sc, ec⟩ := cfg
  cases increasing <;> cases sc <;> simp [FExpr.val]

theorem ratioE_val (s : Scores) (metric : Metric) (r : ℚ) :
    (s.ratioE metric r).val = normTarget s metric r := by
  unfold Scores.ratioE normTarget
  rw [normaliseE_val, rescaleE_val]

theorem thresholdAtFl_eq (fl : ℚ → ℚ) (ulp : Ulp) (s : Scores) (metric : Metric) (r : ℚ) :
    s.thresholdAtFl fl ulp metric r .linear =
      invertIncreasingFl fl ulp (s.metricArray metric) ((s.ratioE metric r).evalFl fl)
        (normLc s.cfg metric.increasing metric.ratioClass) .linear := by
  unfold Scores.thresholdAtFl
  simp only [normalise_lc, normalise_method]
  split <;> rfl

/-- **From the requested target to the threshold.** `threshold_at_<metric>(r0)` (method
`linear`) computed in floating point — rescaling for easy samples, the `1 - r` normalisations,
the shift, the index target, the weight and the convex combination all rounded — against the
exact model, under the three executable checks `FExpr.ok`, `flInterior`, `flSameCell`. -/
theorem thresholdAt_fl_error {fl : ℚ → ℚ} {u : ℚ} (h : Fl fl u) (ulp : Ulp) (s : Scores)
    (metric : Metric) (r0 : ℚ) (hne : (s.metricArray metric).length ≠ 0)
    (hok : (s.ratioE metric r0).ok u = true)
    (hint : flInterior u (s.metricArray metric).length
      (normLc s.cfg metric.increasing metric.ratioClass) (normTarget s metric r0)
      ((s.ratioE metric r0).err u) = true)
    (hcell : flSameCell u (s.metricArray metric)
      (normLc s.cfg metric.increasing metric.ratioClass) (normTarget s metric r0)
      ((s.ratioE metric r0).err u) = true) :
    ∃ t, s.thresholdAt ulp metric r0 .linear = .ok t ∧
      |s.thresholdAtFl fl ulp metric r0 .linear - t| ≤
        interpEpsR u (s.metricArray metric).length
          (normLc s.cfg metric.increasing metric.ratioClass) (normTarget s metric r0)
          ((s.ratioE metric r0).err u)
          ((s.metricArray metric).getD (clampIdx (indexTarget (s.metricArray metric)
            (normTarget s metric r0) (normLc s.cfg metric.increasing metric.ratioClass)).floor
            (s.metricArray metric).length) 0)
          ((s.metricArray metric).getD (clampIdx (ceilQ (indexTarget (s.metricArray metric)
            (normTarget s metric r0) (normLc s.cfg metric.increasing metric.ratioClass)))
            (s.metricArray metric).length) 0) := by
  refine ⟨_, thresholdAt_linear ulp s metric r0 hne, ?_⟩
  rw [thresholdAtFl_eq]
  exact threshold_fl_error_checked h ulp _ _ _ _ _
    (ratioE_val s metric r0 ▸ FExpr.evalFl_error h _ hok) hint hcell

/-- the same without the same-neighbours check, for a sorted score array -/
theorem thresholdAt_fl_error_lip {fl : ℚ → ℚ} {u : ℚ} (h : Fl fl u) (ulp : Ulp) (s : Scores)
    (metric : Metric) (r0 : ℚ) (hne : (s.metricArray metric).length ≠ 0)
    (hs : (s.metricArray metric).Pairwise (· ≤ ·))
    (hok : (s.ratioE metric r0).ok u = true)
    (hint : flInterior u (s.metricArray metric).length
      (normLc s.cfg metric.increasing metric.ratioClass) (normTarget s metric r0)
      ((s.ratioE metric r0).err u) = true) :
    ∃ t, s.thresholdAt ulp metric r0 .linear = .ok t ∧
      |s.thresholdAtFl fl ulp metric r0 .linear - t| ≤
        interpEpsLip u (s.metricArray metric)
          (targetErr u (s.metricArray metric).length
            (normLc s.cfg metric.increasing metric.ratioClass) (normTarget s metric r0)
            ((s.ratioE metric r0).err u)) := by
  refine ⟨_, thresholdAt_linear ulp s metric r0 hne, ?_⟩
  rw [thresholdAtFl_eq]
  exact threshold_fl_error_lip h ulp _ hs hne _ _ _ _
    (ratioE_val s metric r0 ▸ FExpr.evalFl_error h _ hok) hint

/-! ## D. the segment formula of `invert_pl_function` -/

/-- the weight `fl (fl (t - y0) / fl (y1 - y0))` of a crossing segment has RELATIVE error at
most `(1+u)^2 / (1-u) - 1`: the two differences are of exactly known floats -/
theorem segWeight_fl_error {fl : ℚ → ℚ} {u : ℚ} (h : Fl fl u) (y0 y1 t : ℚ)
    (hc : isCrossing y0 y1 t = true) :
    |fl (fl (t - y0) / fl (y1 - y0)) - (t - y0) / (y1 - y0)| ≤
      gamDiv u * ((t - y0) / (y1 - y0)) := by
  obtain ⟨hne, l0, _⟩ := crossing_la y0 y1 t hc
  have := h.div_rel (t - y0) (y1 - y0) (sub_ne_zero.mpr hne.symm)
  rwa [abs_of_nonneg l0] at this

/-- **`segPoint_fl_error`.** One crossing segment of `invert_pl_function`:
`la = (t - y[j]) / (y[j+1] - y[j])`, `z = (1 - la) * x[j] + la * x[j+1]`, every operation
rounded, against the exact model `segPoint`:
`|z~ - z| ≤ g * |x1 - x0| + ((1+u)^3 - 1) * (1 + 2 g) * max |x0| |x1|`, `g = (1+u)^2/(1-u) - 1`. -/
theorem segPoint_fl_error {fl : ℚ → ℚ} {u : ℚ} (h : Fl fl u) (x y : List ℚ) (t : ℚ) (j : ℕ)
    (hc : isCrossing (y.getD j 0) (y.getD (j + 1) 0) t = true) :
    |segPointFl fl x y t j - segPoint x y t j| ≤ plEps u (x.getD j 0) (x.getD (j + 1) 0) := by
  obtain ⟨_, l0, l1⟩ := crossing_la _ _ t hc
  have hw := (segWeight_fl_error h _ _ t hc).trans
    (mul_le_of_le_one_right (gamDiv_nonneg h.u_nonneg h.u_lt_one) l1.le)
  -- the convex combination of `x[j+1]`, `x[j]` with a weight within `gamDiv u` of the exact one
  have e := interp_fl_error_perturbed' h _ _ (gamDiv u) (x.getD (j + 1) 0) (x.getD j 0) l0 l1.le hw
  unfold interpEval at e
  unfold plEps segPointFl segPoint
  rwa [add_comm (fl (_ * x.getD (j + 1) 0)), add_comm (_ * x.getD (j + 1) 0)] at e

theorem plEps_eq (u x0 x1 : ℚ) : plEps u x0 x1 =
    ((1 + u) ^ 2 / (1 - u) - 1) * |x1 - x0| +
      ((1 + u) ^ 3 - 1) * ((1 + 2 * ((1 + u) ^ 2 / (1 - u) - 1)) * max |x1| |x0|) := by
  unfold plEps
  rw [interpEpsW_eq, gamDiv_eq]

/-- bracket for the float crossing point: inside the segment up to the bound -/
theorem segPoint_fl_bracket {fl : ℚ → ℚ} {u : ℚ} (h : Fl fl u) {x y : List ℚ} (hxy : PLInput x y)
    (t : ℚ) (j : ℕ) (hj : j ∈ crossIdx y t) :
    x.getD j 0 - plEps u (x.getD j 0) (x.getD (j + 1) 0) ≤ segPointFl fl x y t j ∧
      segPointFl fl x y t j < x.getD (j + 1) 0 + plEps u (x.getD j 0) (x.getD (j + 1) 0) := by
  obtain ⟨_, hc⟩ := (mem_crossIdx y t j).mp hj
  obtain ⟨s1, s2, _, _⟩ := segPoint_spec hxy t j hj
  obtain ⟨e1, e2⟩ := abs_le.mp (segPoint_fl_error h x y t j hc)
  exact ⟨by linarith only [e1, s1], by linarith only [e2, s2]⟩

/-! ## E. consistency: with `fl = id` the float versions are the exact models -/

theorem invertIncreasingFl_id (ulp : Ulp) (s : List ℚ) (r : ℚ) (lc : Bool) (m : Method) :
    invertIncreasingFl id ulp s r lc m = invertIncreasing ulp s r lc m := rfl

theorem segPointFl_id (x y : List ℚ) (t : ℚ) (j : ℕ) : segPointFl id x y t j = segPoint x y t j :=
  rfl

theorem thresholdAtFl_id (ulp : Ulp) (s : Scores) (metric : Metric) (r : ℚ)
    (hne : (s.metricArray metric).length ≠ 0) :
    s.thresholdAt ulp metric r .linear = .ok (s.thresholdAtFl id ulp metric r .linear) := by
  rw [thresholdAt_linear ulp s metric r hne, thresholdAtFl_eq, FExpr.evalFl_id, ratioE_val,
    invertIncreasingFl_id]

/-! ## F. the hypotheses are jointly satisfiable (non-identity roundings, concrete data) -/

/-- double precision unit roundoff, results rounded away from zero by the full relative amount -/
def exFl (x : ℚ) : ℚ := x * (1 + 1 / 2 ^ 53)

theorem exFl_model : Fl exFl (1 / 2 ^ 53) := Fl_scale_up (1 / 2 ^ 53) (by norm_num) (by norm_num)

theorem exFl_ne_id : exFl 1 ≠ 1 := by unfold exFl; norm_num

/-- `interp_fl_error`, `interp_fl_error_perturbed`, `interp_fl_bracket`: a model, a weight in
`[0,1]` and a perturbed weight -/
example : Fl exFl (1 / 2 ^ 53) ∧ (0 : ℚ) ≤ 1 / 3 ∧ (1 / 3 : ℚ) ≤ 1 ∧
    |exFl (1 / 3) - 1 / 3| ≤ (1 / 2 ^ 53 : ℚ) := by
  refine ⟨exFl_model, by norm_num, by norm_num, ?_⟩
  unfold exFl; rw [abs_le]; constructor <;> norm_num

/-- `threshold_fl_error` / `threshold_fl_bracket` without shift: four scores, target ratio
`3/10` (index target `6/5`, neighbours `s[1] = 2`, `s[2] = 4`); the rounded index target
`6/5 * (1 + 2^-53)` stays in the same cell -/
example : Fl exFl (1 / 2 ^ 53) ∧ |(3 / 10 : ℚ) - 3 / 10| ≤ 0 ∧ (3 / 10 : ℚ) < 1 ∧
    0 < (if true then (3 / 10 : ℚ) else 3 / 10 - 1 / (([1, 2, 4, 8] : List ℚ).length : ℚ)) ∧
    0 < (if true then (3 / 10 : ℚ)
      else exFl (3 / 10 - exFl (1 / (([1, 2, 4, 8] : List ℚ).length : ℚ)))) ∧
    (indexTargetFl exFl [1, 2, 4, 8] (3 / 10) true).floor =
      (indexTarget [1, 2, 4, 8] (3 / 10) true).floor ∧
    ceilQ (indexTargetFl exFl [1, 2, 4, 8] (3 / 10) true) =
      ceilQ (indexTarget [1, 2, 4, 8] (3 / 10) true) ∧
    indexTargetFl exFl [1, 2, 4, 8] (3 / 10) true ≠ indexTarget [1, 2, 4, 8] (3 / 10) true := by
  refine ⟨exFl_model, by norm_num, by norm_num, by norm_num, by norm_num, ?_, ?_, ?_⟩ <;>
    decide +kernel

/-- the same with the shift by `1/N` and an inexact ratio (`dr = 2^-50`) -/
example : Fl exFl (1 / 2 ^ 53) ∧ |(3 / 10 + 1 / 2 ^ 51 : ℚ) - 3 / 10| ≤ 1 / 2 ^ 50 ∧
    (3 / 10 : ℚ) < 1 ∧
    0 < (if false then (3 / 10 : ℚ) else 3 / 10 - 1 / (([1, 2, 4, 8] : List ℚ).length : ℚ)) ∧
    (3 / 10 + 1 / 2 ^ 51 : ℚ) < 1 ∧
    0 < (if false then (3 / 10 + 1 / 2 ^ 51 : ℚ) else
      exFl (3 / 10 + 1 / 2 ^ 51 - exFl (1 / (([1, 2, 4, 8] : List ℚ).length : ℚ)))) ∧
    (indexTargetFl exFl [1, 2, 4, 8] (3 / 10 + 1 / 2 ^ 51) false).floor =
      (indexTarget [1, 2, 4, 8] (3 / 10) false).floor ∧
    ceilQ (indexTargetFl exFl [1, 2, 4, 8] (3 / 10 + 1 / 2 ^ 51) false) =
      ceilQ (indexTarget [1, 2, 4, 8] (3 / 10) false) := by
  refine ⟨exFl_model, ?_, by norm_num, ?_, by norm_num, ?_, ?_, ?_⟩
  · rw [abs_le]; constructor <;> norm_num
  all_goals decide +kernel

/-- `threshold_fl_error_checked`, `threshold_fl_error_lip`: the executable guards hold on the
same data (and the list is sorted and non-empty) -/
example : flInterior (1 / 2 ^ 53) ([1, 2, 4, 8] : List ℚ).length false (3 / 10) (1 / 2 ^ 50) = true ∧
    flSameCell (1 / 2 ^ 53) [1, 2, 4, 8] false (3 / 10) (1 / 2 ^ 50) = true ∧
    ([1, 2, 4, 8] : List ℚ).Pairwise (· ≤ ·) ∧ ([1, 2, 4, 8] : List ℚ).length ≠ 0 := by
  refine ⟨?_, ?_, ?_, ?_⟩ <;> decide +kernel

/-- the guard `flSameCell` fails exactly where it should: a target on the grid (`r = 1/2`,
index target `2`) -/
example : flSameCell (1 / 2 ^ 53) [1, 2, 4, 8] true (1 / 2) 0 = false := by decide +kernel

/-- `FExpr.evalFl_error`: the TPR rescaling `(0.9 * 64 - 56) / 8` (8 scored, 56 easy positives):
the expression is `ok`, and its error bound is about `37 u` although the value is only `0.2` -/
example :
    (FExpr.div (.sub (.mul (.lit (9 / 10)) (.lit 64)) (.lit 56)) (.lit 8)).ok (1 / 2 ^ 53) = true ∧
    (FExpr.div (.sub (.mul (.lit (9 / 10)) (.lit 64)) (.lit 56)) (.lit 8)).val = 1 / 5 ∧
    36 * (1 / 2 ^ 53 : ℚ) * (1 / 5) <
      (FExpr.div (.sub (.mul (.lit (9 / 10)) (.lit 64)) (.lit 56)) (.lit 8)).err (1 / 2 ^ 53) := by
  refine ⟨?_, ?_, ?_⟩ <;> decide +kernel

/-- `thresholdAt_fl_error` / `thresholdAt_fl_error_lip`: an object with easy samples and a
non-default configuration; all three executable checks hold -/
example :
    let s : Scores := ⟨[1, 2, 4, 8], [0, 3], 3, 1, ⟨.neg, .pos⟩⟩
    (s.metricArray .tpr).length ≠ 0 ∧ (s.metricArray .tpr).Pairwise (· ≤ ·) ∧
    (s.ratioE .tpr (7 / 10)).ok (1 / 2 ^ 53) = true ∧
    flInterior (1 / 2 ^ 53) (s.metricArray .tpr).length
      (normLc s.cfg Metric.tpr.increasing Metric.tpr.ratioClass) (normTarget s .tpr (7 / 10))
      ((s.ratioE .tpr (7 / 10)).err (1 / 2 ^ 53)) = true ∧
    flSameCell (1 / 2 ^ 53) (s.metricArray .tpr)
      (normLc s.cfg Metric.tpr.increasing Metric.tpr.ratioClass) (normTarget s .tpr (7 / 10))
      ((s.ratioE .tpr (7 / 10)).err (1 / 2 ^ 53)) = true := by
  intro s
  refine ⟨?_, ?_, ?_, ?_, ?_⟩ <;> decide +kernel

/-- `segPoint_fl_error`, `segPoint_fl_bracket`: an input with a crossing segment -/
example : PLInput [0, 1, 3] [0, 2, 1] ∧ 0 ∈ crossIdx [0, 2, 1] (1 / 2) ∧
    isCrossing (([0, 2, 1] : List ℚ).getD 0 0) (([0, 2, 1] : List ℚ).getD 1 0) (1 / 2) = true ∧
    segPointFl exFl [0, 1, 3] [0, 2, 1] (1 / 2) 0 ≠ segPoint [0, 1, 3] [0, 2, 1] (1 / 2) 0 := by
  refine ⟨⟨by decide +kernel, rfl, ?_⟩, by decide +kernel, by decide +kernel, by decide +kernel⟩
  intro j hj
  have : j = 0 ∨ j = 1 := by simp at hj; omega
  rcases this with rfl | rfl <;> decide +kernel

/-- a worked instance of the bound: four scores, ratio `3/10`, `u = 2^-53`:
`interpEps < 17 u` (neighbours `2` and `4`; `ulp 4 = 8 u`, so about 2 ulp of the larger one) -/
example : interpEps (1 / 2 ^ 53) 4 (3 / 10) 2 4 < 17 * (1 / 2 ^ 53) := by decide +kernel

end SA

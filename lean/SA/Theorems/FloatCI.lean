/-
C04, floating point: `utils.binomial_ci` and the `*_ci` wrappers under the standard model
`Fl fl u`, with `np.sqrt` an oracle rounded once (see `SA/Model/FloatCI.lean` for the float model).

* `sqrt_perturb`     `0 ≤ a`, `0 < b`, `|a^2 - b^2| ≤ E < 2 b^2`  →  `|a - b| ≤ E / (2b - E/b)`
* `ci_sigma_error`   the float standard deviation `np.sqrt(v~)` against the exact side's `σ ≈ sqrt v`
* **`ci_fl_error`**  both limits of the float interval against the exact model `binomialCI`:
                     `|lo~ - lo| ≤ (ciEps ..).1`, `|hi~ - hi| ≤ (ciEps ..).2`, under the executable guard
                     `ciOKGuard` (evaluated by the driver)
* `ci_fl_error_wrappers`  the same for `tpr_ci`, `tnr_ci`, `fpr_ci`, `fnr_ci` of a matrix (class total = one
                     rounded addition of two cells)
* `ciFl_id`          with `fl = id` and the same square-root oracle the float version is the exact model
-/
import SA.Model.FloatCI
import SA.Theorems.FloatBounds
import SA.Theorems.C04

namespace SA

/-- two non-negative numbers whose squares are close are close -/
theorem sqrt_perturb {a b E : ℚ} (ha : 0 ≤ a) (hb : 0 < b) (hE : |a * a - b * b| ≤ E)
    (hEb : E < 2 * (b * b)) : |a - b| ≤ E / (2 * b - E / b) := by
  have e1 : |a - b| * (a + b) = |a * a - b * b| := by
    rw [← abs_of_pos (add_pos_of_nonneg_of_pos ha hb), ← abs_mul]
    congr 1
    ring
  -- any `0 < c ≤ a + b` gives `|a - b| ≤ E / c`: first `c = b`, then `c = 2 b - E / b`
  have key : ∀ c, 0 < c → c ≤ a + b → |a - b| ≤ E / c := fun c hc hca =>
    (le_div_iff₀ hc).mpr
      ((mul_le_mul_of_nonneg_left hca (abs_nonneg _)).trans (e1.le.trans hE))
  have s1 := key b hb (le_add_of_nonneg_left ha)
  have hD : 0 < 2 * b - E / b := by
    rw [sub_pos, div_lt_iff₀ hb, mul_assoc]
    exact hEb
  exact key _ hD (by linarith only [(abs_le.mp s1).1])

theorem ciErr_nonneg {fl : ℚ → ℚ} {u : ℚ} (h : Fl fl u) (e : FExpr) (hok : e.ok u = true) :
    0 ≤ e.err u := le_trans (abs_nonneg _) (FExpr.evalFl_error h e hok)

/-- **The float standard deviation.** `σ~ = np.sqrt(v~)` (non-negative, `|σ~^2 - v~| ≤ ((1+u)^2-1) v~`)
for a float radicand within `ev` of the exact radicand `v`, against `σ > 0` with
`|σ^2 - v| ≤ κ v`. -/
theorem ci_sigma_error {u kap v vt ev sig sigt : ℚ} (hu : 0 ≤ u) (hv : |vt - v| ≤ ev)
    (hs0 : 0 ≤ sigt) (hs : |sigt * sigt - vt| ≤ gam2 u * vt)
    (hsig : 0 < sig) (hkap : |sig * sig - v| ≤ kap * v)
    (hE : ciSqErr u kap v ev < 2 * (sig * sig)) :
    |sigt - sig| ≤ ciSigErr sig (ciSqErr u kap v ev) := by
  have hv' := abs_le.mp hv
  have g0 := gam2_nonneg hu
  have h1 : gam2 u * vt ≤ gam2 u * (v + ev) := mul_le_mul_of_nonneg_left (by linarith only [hv'.2]) g0
  have hsq : |sigt * sigt - sig * sig| ≤ ciSqErr u kap v ev := by
    unfold ciSqErr
    have e : sigt * sigt - sig * sig = (sigt * sigt - vt) + (vt - v) + (v - sig * sig) := by ring
    rw [e]
    have t := abs_add_three (sigt * sigt - vt) (vt - v) (v - sig * sig)
    rw [abs_sub_comm v] at t
    linarith only [t, hs, hv, hkap, h1]
  exact sqrt_perturb hs0 hsig hsq hE

/-- **`ci_fl_error`.** `utils.binomial_ci` for one entry, every arithmetic operation rounded and
`np.sqrt` an oracle rounded once, against the exact model `binomialCI z sq count nobs`; `σ = sq v`
is the exact side's square root of the exact radicand, accurate to `κ` (`|σ^2 - v| ≤ κ v`). -/
theorem ci_fl_error {fl sqf : ℚ → ℚ} {u : ℚ} (h : Fl fl u) (z kap : ℚ) (sq : ℚ → ℚ)
    (cE nE : FExpr)
    (hs0 : 0 ≤ sqf ((ciVarE cE nE).evalFl fl))
    (hs : |sqf ((ciVarE cE nE).evalFl fl) * sqf ((ciVarE cE nE).evalFl fl) -
      (ciVarE cE nE).evalFl fl| ≤ gam2 u * (ciVarE cE nE).evalFl fl)
    (hg : ciOKGuard u kap (sq (ciVarE cE nE).val) cE nE = true) :
    ∃ lo hi, binomialCI z sq cE.val nE.val = some (lo, hi) ∧
      |(ciFl fl sqf z cE nE).1 - lo| ≤ (ciEps u kap z (sq (ciVarE cE nE).val) cE nE).1 ∧
      |(ciFl fl sqf z cE nE).2 - hi| ≤ (ciEps u kap z (sq (ciVarE cE nE).val) cE nE).2 := by
  unfold ciOKGuard at hg
  simp only [Bool.and_eq_true, decide_eq_true_eq, fabs_eq_abs] at hg
  obtain ⟨⟨⟨⟨hok, hsig⟩, hkap⟩, hev⟩, hE⟩ := hg
  have hok' := hok
  simp only [ciVarE, FExpr.ok, Bool.and_eq_true, decide_eq_true_eq, fabs_eq_abs] at hok'
  obtain ⟨⟨⟨hpok, _⟩, hnok⟩, hnerr⟩ := hok'
  have hn0 : nE.val ≠ 0 := by
    intro e0
    have := ciErr_nonneg h nE hnok
    rw [e0, abs_zero] at hnerr
    linarith
  have hp := FExpr.evalFl_error h (ciPE cE nE) hpok
  have hv := FExpr.evalFl_error h (ciVarE cE nE) hok
  have hsg := ci_sigma_error h.u_nonneg hv hs0 hs hsig hkap hE
  set sig := sq (ciVarE cE nE).val
  set sigt := sqf ((ciVarE cE nE).evalFl fl)
  set esig := ciSigErr sig (ciSqErr u kap (ciVarE cE nE).val ((ciVarE cE nE).err u))
  -- dist = fl (z * σ~)
  have hzs : |z * sigt - z * sig| ≤ |z| * esig := by
    rw [← mul_sub, abs_mul]
    exact mul_le_mul_of_nonneg_left hsg (abs_nonneg z)
  have hd := h.round_err hzs
  have hlo := h.sub_round hp hd
  have hhi := h.add_round hp hd
  refine ⟨(ciPE cE nE).val - z * sig, (ciPE cE nE).val + z * sig, ?_, ?_, ?_⟩
  · unfold binomialCI divQ
    simp only [hn0, if_false]
    rfl
  · simp only [ciFl, ciEps, ciDistErr, FExpr.roundErr, fabs_eq_abs]
    exact hlo
  · simp only [ciFl, ciEps, ciDistErr, FExpr.roundErr, fabs_eq_abs]
    exact hhi

/-- under the guard the float radicand is non-negative: `np.sqrt` is applied inside its domain (the
hypotheses on `sqf` in `ci_fl_error` are those of a correctly rounded square root there) -/
theorem ci_radicand_nonneg {fl : ℚ → ℚ} {u : ℚ} (h : Fl fl u) (kap sig : ℚ) (cE nE : FExpr)
    (hg : ciOKGuard u kap sig cE nE = true) : 0 ≤ (ciVarE cE nE).evalFl fl := by
  unfold ciOKGuard at hg
  simp only [Bool.and_eq_true, decide_eq_true_eq] at hg
  obtain ⟨⟨⟨⟨hok, _⟩, _⟩, hev⟩, _⟩ := hg
  have hv := abs_le.mp (FExpr.evalFl_error h (ciVarE cE nE) hok)
  linarith [hv.1]

/-- **The four wrappers** `tpr_ci`, `tnr_ci`, `fpr_ci`, `fnr_ci` of metrics.py: `count` is a cell,
`nobs` the class total `np.sum(matrix[..., r, :])`, one rounded addition of two cells; the exact
model's interval is `m.tprCI` etc. (`CMq.ciExprs` lists the four pairs in that order). -/
theorem ci_fl_error_wrappers {fl sqf : ℚ → ℚ} {u : ℚ} (h : Fl fl u) (z kap : ℚ) (sq : ℚ → ℚ)
    (m : CMq) (cE nE : FExpr) (hmem : (cE, nE) ∈ m.ciExprs)
    (hs0 : 0 ≤ sqf ((ciVarE cE nE).evalFl fl))
    (hs : |sqf ((ciVarE cE nE).evalFl fl) * sqf ((ciVarE cE nE).evalFl fl) -
      (ciVarE cE nE).evalFl fl| ≤ gam2 u * (ciVarE cE nE).evalFl fl)
    (hg : ciOKGuard u kap (sq (ciVarE cE nE).val) cE nE = true) :
    ∃ lo hi, some (lo, hi) ∈ [m.tprCI z sq, m.tnrCI z sq, m.fprCI z sq, m.fnrCI z sq] ∧
      binomialCI z sq cE.val nE.val = some (lo, hi) ∧
      |(ciFl fl sqf z cE nE).1 - lo| ≤ (ciEps u kap z (sq (ciVarE cE nE).val) cE nE).1 ∧
      |(ciFl fl sqf z cE nE).2 - hi| ≤ (ciEps u kap z (sq (ciVarE cE nE).val) cE nE).2 := by
  obtain ⟨lo, hi, e, b1, b2⟩ := ci_fl_error h z kap sq cE nE hs0 hs hg
  refine ⟨lo, hi, ?_, e, b1, b2⟩
  simp only [CMq.ciExprs, List.mem_cons, Prod.mk.injEq, List.not_mem_nil, or_false] at hmem
  rcases hmem with ⟨rfl, rfl⟩ | ⟨rfl, rfl⟩ | ⟨rfl, rfl⟩ | ⟨rfl, rfl⟩ <;>
    simp only [FExpr.val] at e <;>
    simp [CMq.tprCI, CMq.tnrCI, CMq.fprCI, CMq.fnrCI, CMq.p, CMq.n, e]

/-- with `fl = id` and the same square-root oracle on both sides the float version is the exact
model -/
theorem ciFl_id (z : ℚ) (sq : ℚ → ℚ) (cE nE : FExpr) (hn : nE.val ≠ 0) :
    binomialCI z sq cE.val nE.val = some (ciFl id sq z cE nE) := by
  unfold binomialCI divQ ciFl
  simp only [hn, if_false, FExpr.evalFl_id, id]
  rfl

/-! ### the hypotheses are jointly satisfiable (non-identity rounding, concrete data) -/

/-- `sqrt (4/125) = 0.17888543819998317...` to about 20 digits -/
def ciExSig : ℚ := 25780108570222467867 / 144115188075855872000

/-- `tpr_ci`-like data: `count = 1`, `nobs = 2 + 3` (a rounded sum), `p = 1/5`, `v = 4/125`; the
rounding `exFl` (every result rounded up by the full relative amount, not the identity); the float
square root returns `σ (1 + u)`; the exact side's `σ` is accurate to `κ = 2^-60`; `z = 2`.
All hypotheses of `ci_fl_error` hold, and the float lower limit differs from the exact one. -/
example :
    let cE : FExpr := .lit 1
    let nE : FExpr := .add (.lit 2) (.lit 3)
    let sqf : ℚ → ℚ := fun _ => ciExSig * (1 + 1 / 2 ^ 53)
    let sq : ℚ → ℚ := fun _ => ciExSig
    Fl exFl (1 / 2 ^ 53) ∧ 0 ≤ sqf ((ciVarE cE nE).evalFl exFl) ∧
    |sqf ((ciVarE cE nE).evalFl exFl) * sqf ((ciVarE cE nE).evalFl exFl) -
      (ciVarE cE nE).evalFl exFl| ≤ gam2 (1 / 2 ^ 53) * (ciVarE cE nE).evalFl exFl ∧
    ciOKGuard (1 / 2 ^ 53) (1 / 2 ^ 60) (sq (ciVarE cE nE).val) cE nE = true ∧
    (ciVarE cE nE).val = 4 / 125 ∧
    (ciFl exFl sqf 2 cE nE).1 ≠ 1 / 5 - 2 * ciExSig := by
  intro cE nE sqf sq
  refine ⟨exFl_model, by decide +kernel, ?_, by decide +kernel, by decide +kernel, by decide +kernel⟩
  rw [← fabs_eq_abs]
  decide +kernel

/-- a worked instance of the bound on that data (`u = 2^-53`, `κ = 2^-60`, `z = 2`): both limits within
`3 u` (the limits are `-0.158` and `0.558`; the radicand carries about `6.5 u` relative error, the
standard deviation half of that plus its own rounding) -/
example : (ciEps (1 / 2 ^ 53) (1 / 2 ^ 60) 2 ciExSig (.lit 1) (.add (.lit 2) (.lit 3))).1 <
      3 * (1 / 2 ^ 53) ∧
    (ciEps (1 / 2 ^ 53) (1 / 2 ^ 60) 2 ciExSig (.lit 1) (.add (.lit 2) (.lit 3))).2 <
      3 * (1 / 2 ^ 53) := by
  constructor <;> decide +kernel

/-- the guard fails where it should: `count = nobs` (`p = 1`, radicand 0: no positive `σ`) -/
example : ciOKGuard (1 / 2 ^ 53) (1 / 2 ^ 60) 0 (.lit 5) (.add (.lit 2) (.lit 3)) = false := by
  decide +kernel

end SA

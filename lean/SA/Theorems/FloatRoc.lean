/-
C15, floating point: the support thresholds of `roc()` are `threshold_at_fnr` / `threshold_at_fpr`
results for supplied targets (exact doubles: `SA.thresholdAt_fl_error`) and for the targets
`np.linspace(0.0, 1.0, k)`, which are themselves rounded.  This file carries the bound over to
targets that are floating-point EXPRESSIONS, in particular `linspace[i] = fl (i * fl (1 / (k-1)))`.

* `linspaceEs_val`            the expressions denote the exact model's targets `linspace01 k`
* `ratioEx_val`, `ratioEx_lit`  the generalised target expression; a literal gives back `ratioE`
* `thresholdAtE_fl_error`     float threshold for a float-computed target against the exact model's
                              threshold at the exact target (same neighbours), `..._lip` (any cell)
* `C15_linspace_fl_error`     the default support points of `roc(nb_points = 2k)`: every entry of the
                              exact model's `thresholdAtArr (linspace01 k)` is within the bound of
                              the float computation on the float linspace entry
* `thresholdAtFlE_id`         with `fl = id` the float version is the exact model
-/
import SA.Model.FloatRoc
import SA.Theorems.FloatBounds
import SA.Theorems.C15

namespace SA

/-! ### the targets -/

theorem linspaceE_val (k i : ℕ) (hi : i < k) :
    (linspaceE k i).val = if k = 1 then 0 else (i : ℚ) / ((k - 1 : ℕ) : ℚ) := by
  unfold linspaceE
  by_cases h1 : k ≤ 1
  · have hk : k = 1 := by omega
    subst hk
    simp [FExpr.val]
  · simp only [h1, if_false]
    have hk : ¬ k = 1 := by omega
    simp only [hk, if_false]
    by_cases hl : i + 1 = k
    · simp only [hl, if_true, FExpr.val]
      have : ((k - 1 : ℕ) : ℚ) = (i : ℚ) := by
        have : k - 1 = i := by omega
        rw [this]
      rw [this, div_self]
      have : 0 < i := by omega
      exact_mod_cast this.ne'
    · simp only [hl, if_false, FExpr.val]
      ring

theorem linspaceEs_val (k : ℕ) : (linspaceEs k).map FExpr.val = linspace01 k := by
  unfold linspaceEs linspace01
  rw [List.map_map]
  by_cases hk : k = 1
  · subst hk
    simp [linspaceE, FExpr.val]
  · rw [if_neg hk]
    apply List.map_congr_left
    intro i hi
    have hi' : i < k := List.mem_range.mp hi
    simp only [Function.comp, linspaceE_val k i hi', hk, if_false]

/-- a target produced by `linspace` is within `(2u + u^2) * i/(k-1)` of `i/(k-1)`:
the running bound of `i * (1 / (k-1))` -/
theorem linspaceE_err (u : ℚ) (k i : ℕ) (h1 : 1 < k) (hl : i + 1 ≠ k) :
    (linspaceE k i).err u = u * |1 / ((k - 1 : ℕ) : ℚ)| * |(i : ℚ)| +
      u * (|(i : ℚ) * (1 / ((k - 1 : ℕ) : ℚ))| + u * |1 / ((k - 1 : ℕ) : ℚ)| * |(i : ℚ)|) := by
  unfold linspaceE
  have : ¬ k ≤ 1 := by omega
  simp only [this, if_false, hl, FExpr.err, FExpr.val, FExpr.roundErr, fabs_eq_abs, zero_mul,
    add_zero, zero_add, zero_div]

/-! ### the target's way to `_invert_increasing_function` -/

theorem rescaleEx_val (s : Scores) (metric : Metric) (e : FExpr) :
    (s.rescaleEx metric e).val = s.rescale metric e.val := by
  cases metric <;>
    simp only [Scores.rescaleEx, Scores.rescale, FExpr.val, hardPosRatioE_val, hardNegRatioE_val,
      hardRatioE_val]

theorem rescaleEx_lit (s : Scores) (metric : Metric) (r : ℚ) :
    s.rescaleEx metric (.lit r) = s.rescaleE metric r := by
  cases metric <;> rfl

/-- for an exactly known double the generalised expression is the one of `thresholdAt_fl_error` -/
theorem ratioEx_lit (s : Scores) (metric : Metric) (r : ℚ) :
    s.ratioEx metric (.lit r) = s.ratioE metric r := by
  unfold Scores.ratioEx Scores.ratioE
  rw [rescaleEx_lit]

theorem ratioEx_val (s : Scores) (metric : Metric) (e : FExpr) :
    (s.ratioEx metric e).val = normTarget s metric e.val := by
  unfold Scores.ratioEx normTarget
  rw [normaliseE_val, rescaleEx_val]

theorem thresholdAtFlE_eq (fl : ℚ → ℚ) (ulp : Ulp) (s : Scores) (metric : Metric) (e : FExpr) :
    s.thresholdAtFlE fl ulp metric e .linear =
      invertIncreasingFl fl ulp (s.metricArray metric) ((s.ratioEx metric e).evalFl fl)
        (normLc s.cfg metric.increasing metric.ratioClass) .linear := by
  unfold Scores.thresholdAtFlE
  simp only [normalise_lc, normalise_method]
  split <;> rfl

theorem thresholdAtFlE_lit (fl : ℚ → ℚ) (ulp : Ulp) (s : Scores) (metric : Metric) (r : ℚ)
    (m : Method) :
    s.thresholdAtFlE fl ulp metric (.lit r) m = s.thresholdAtFl fl ulp metric r m := by
  unfold Scores.thresholdAtFlE Scores.thresholdAtFl
  rw [ratioEx_lit]

/-- **`threshold_at_<metric>` on a float-computed target.** The target `e` is evaluated in
floating point (`e.evalFl fl`), then rescaled, normalised, shifted, turned into an index target,
a weight and a convex combination, every step rounded; the result is within `interpEpsR` of the
exact model's threshold at the EXACT target `e.val`, under the three executable checks. -/
theorem thresholdAtE_fl_error {fl : ℚ → ℚ} {u : ℚ} (h : Fl fl u) (ulp : Ulp) (s : Scores)
    (metric : Metric) (e : FExpr) (hne : (s.metricArray metric).length ≠ 0)
    (hok : (s.ratioEx metric e).ok u = true)
    (hint : flInterior u (s.metricArray metric).length
      (normLc s.cfg metric.increasing metric.ratioClass) (normTarget s metric e.val)
      ((s.ratioEx metric e).err u) = true)
    (hcell : flSameCell u (s.metricArray metric)
      (normLc s.cfg metric.increasing metric.ratioClass) (normTarget s metric e.val)
      ((s.ratioEx metric e).err u) = true) :
    ∃ t, s.thresholdAt ulp metric e.val .linear = .ok t ∧
      |s.thresholdAtFlE fl ulp metric e .linear - t| ≤
        interpEpsR u (s.metricArray metric).length
          (normLc s.cfg metric.increasing metric.ratioClass) (normTarget s metric e.val)
          ((s.ratioEx metric e).err u)
          ((s.metricArray metric).getD (clampIdx (indexTarget (s.metricArray metric)
            (normTarget s metric e.val) (normLc s.cfg metric.increasing metric.ratioClass)).floor
            (s.metricArray metric).length) 0)
          ((s.metricArray metric).getD (clampIdx (ceilQ (indexTarget (s.metricArray metric)
            (normTarget s metric e.val) (normLc s.cfg metric.increasing metric.ratioClass)))
            (s.metricArray metric).length) 0) := by
  refine ⟨_, thresholdAt_linear ulp s metric e.val hne, ?_⟩
  rw [thresholdAtFlE_eq]
  exact threshold_fl_error_checked h ulp _ _ _ _ _
    (ratioEx_val s metric e ▸ FExpr.evalFl_error h _ hok) hint hcell

/-- the same without the same-neighbours check, for a sorted score array -/
theorem thresholdAtE_fl_error_lip {fl : ℚ → ℚ} {u : ℚ} (h : Fl fl u) (ulp : Ulp) (s : Scores)
    (metric : Metric) (e : FExpr) (hne : (s.metricArray metric).length ≠ 0)
    (hs : (s.metricArray metric).Pairwise (· ≤ ·))
    (hok : (s.ratioEx metric e).ok u = true)
    (hint : flInterior u (s.metricArray metric).length
      (normLc s.cfg metric.increasing metric.ratioClass) (normTarget s metric e.val)
      ((s.ratioEx metric e).err u) = true) :
    ∃ t, s.thresholdAt ulp metric e.val .linear = .ok t ∧
      |s.thresholdAtFlE fl ulp metric e .linear - t| ≤
        interpEpsLip u (s.metricArray metric)
          (targetErr u (s.metricArray metric).length
            (normLc s.cfg metric.increasing metric.ratioClass) (normTarget s metric e.val)
            ((s.ratioEx metric e).err u)) := by
  refine ⟨_, thresholdAt_linear ulp s metric e.val hne, ?_⟩
  rw [thresholdAtFlE_eq]
  exact threshold_fl_error_lip h ulp _ hs hne _ _ _ _
    (ratioEx_val s metric e ▸ FExpr.evalFl_error h _ hok) hint

/-- **The default support points of `roc`.** Entry `i` of the exact model's
`threshold_at_<metric>(np.linspace(0, 1, k))` (`thresholdAtArr` on `linspace01 k`, the list
`defaultPoints` concatenates) against the float computation on the float linspace entry
`fl (i * fl (1 / (k-1)))`. -/
theorem C15_linspace_fl_error {fl : ℚ → ℚ} {u : ℚ} (h : Fl fl u) (ulp : Ulp) (s : Scores)
    (metric : Metric) (k i : ℕ) (hi : i < k) (ts : List ℚ)
    (hts : s.thresholdAtArr ulp metric (linspace01 k) .linear = .ok ts)
    (hs : (s.metricArray metric).Pairwise (· ≤ ·))
    (hok : (s.ratioEx metric (linspaceE k i)).ok u = true)
    (hint : flInterior u (s.metricArray metric).length
      (normLc s.cfg metric.increasing metric.ratioClass) (normTarget s metric (linspaceE k i).val)
      ((s.ratioEx metric (linspaceE k i)).err u) = true) :
    |s.thresholdAtFlE fl ulp metric (linspaceE k i) .linear - ts.getD i 0| ≤
      interpEpsLip u (s.metricArray metric)
        (targetErr u (s.metricArray metric).length
          (normLc s.cfg metric.increasing metric.ratioClass)
          (normTarget s metric (linspaceE k i).val) ((s.ratioEx metric (linspaceE k i)).err u)) := by
  obtain ⟨hne, rfl⟩ := thresholdAtArr_ok ulp s metric _ ts .linear hts
  obtain ⟨t, ht, hb⟩ := thresholdAtE_fl_error_lip h ulp s metric (linspaceE k i) hne hs hok hint
  -- entry `i` of the exact array is the exact threshold at the target `(linspaceE k i).val`
  have hi' : i < (linspace01 k).length := by
    rw [← linspaceEs_val]; simpa [linspaceEs] using hi
  have hget : (linspace01 k)[i] = (linspaceE k i).val := by
    simp [← linspaceEs_val, linspaceEs]
  unfold Scores.thresholdAt at ht
  rw [if_neg hne] at ht
  obtain rfl := Except.ok.inj ht
  rwa [List.getD_eq_getElem _ _ (by simpa using hi'), List.getElem_map, hget]

/-- with `fl = id` the float version is the exact model -/
theorem thresholdAtFlE_id (ulp : Ulp) (s : Scores) (metric : Metric) (e : FExpr)
    (hne : (s.metricArray metric).length ≠ 0) :
    s.thresholdAt ulp metric e.val .linear = .ok (s.thresholdAtFlE id ulp metric e .linear) := by
  rw [thresholdAt_linear ulp s metric e.val hne, thresholdAtFlE_eq, FExpr.evalFl_id, ratioEx_val,
    invertIncreasingFl_id]

/-! ### the hypotheses are jointly satisfiable -/

/-- a `linspace` entry that is NOT exact under the non-identity rounding `exFl`: `k = 4`, `i = 1`
(`1/3`), and its running error bound is about `2 u / 3` -/
example : (linspaceE 4 1).val = 1 / 3 ∧ (linspaceE 4 1).evalFl exFl ≠ 1 / 3 ∧
    (linspaceE 4 1).ok (1 / 2 ^ 53) = true ∧
    (linspaceE 4 1).err (1 / 2 ^ 53) < 3 * (1 / 2 ^ 53) * (1 / 3) := by
  refine ⟨?_, ?_, ?_, ?_⟩ <;> decide +kernel

/-- `thresholdAtE_fl_error` / `_lip` / `C15_linspace_fl_error`: an object with easy samples and a
non-default configuration, the FNR target `linspace(0, 1, 4)[1]`: all executable checks hold -/
example :
    let s : Scores := ⟨[1, 2, 4, 8], [0, 3], 3, 1, ⟨.neg, .pos⟩⟩
    (1 : ℕ) < 4 ∧ (s.metricArray .fnr).length ≠ 0 ∧ (s.metricArray .fnr).Pairwise (· ≤ ·) ∧
    (s.ratioEx .fnr (linspaceE 4 1)).ok (1 / 2 ^ 53) = true ∧
    flInterior (1 / 2 ^ 53) (s.metricArray .fnr).length
      (normLc s.cfg Metric.fnr.increasing Metric.fnr.ratioClass)
      (normTarget s .fnr (linspaceE 4 1).val)
      ((s.ratioEx .fnr (linspaceE 4 1)).err (1 / 2 ^ 53)) = true ∧
    flSameCell (1 / 2 ^ 53) (s.metricArray .fnr)
      (normLc s.cfg Metric.fnr.increasing Metric.fnr.ratioClass)
      (normTarget s .fnr (linspaceE 4 1).val)
      ((s.ratioEx .fnr (linspaceE 4 1)).err (1 / 2 ^ 53)) = true ∧
    (∃ ts, s.thresholdAtArr Ulp.half .fnr (linspace01 4) .linear = .ok ts) := by
  intro s
  refine ⟨by norm_num, ?_, ?_, ?_, ?_, ?_, ⟨_, rfl⟩⟩ <;> decide +kernel

end SA

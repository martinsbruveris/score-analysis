/-
C05, floating point: cells of a confusion matrix built from float weights
(`matrix[i][j] += weight` in input order) under the standard model `Fl fl u`.

* `cellSum_fl_error_pow`   `|cellSumFl fl ws - Σ w| ≤ ((1+u)^(k-1) - 1) Σ|w|` for a cell with `k` samples
* `wsumEpsPow_le_wsumEps`, **`cellSum_fl_error`**  the same with the executable `wsumEps`
* `accumulateFl_spec`      the float loop puts `cellSumFl` of the cell's weights (input order) into
                           every cell
* **`C05_weighted_fl_error`**  every cell of the float matrix is within `wsumEps` of the exact
                           model's cell (`accumulate`, i.e. `weightOf`)
* `accumulateFl_id`        with `fl = id` the float loop is the exact loop
-/
import SA.Model.FloatWSum
import SA.Proofs.FloatSum
import SA.Theorems.C05
import SA.Theorems.FloatBounds

namespace SA

/-! ### one cell -/

/-- **One cell, exact growth factor.** `k` weights added left to right to a zero accumulator:
`k - 1` rounded additions. -/
theorem cellSum_fl_error_pow {fl : ℚ → ℚ} {u : ℚ} (h : Fl fl u) (ws : List ℚ) :
    |cellSumFl fl ws - sumL ws| ≤ wsumEpsPow u ws := by
  unfold wsumEpsPow cellSumFl
  induction ws using List.reverseRecOn with
  | nil => simp [sumL, sumAbsL, gamPow_zero]
  | append_singleton ws w ih =>
    rw [List.foldl_append, List.foldl_cons, List.foldl_nil, sumL_append_single,
      sumAbsL_append_single, List.length_append, List.length_singleton, Nat.add_sub_cancel]
    set acc := List.foldl (addFl fl) 0 ws
    have hu := h.u_nonneg
    have hle : sumAbsL ws ≤ sumAbsL ws + |w| := le_add_of_nonneg_right (abs_nonneg w)
    have hg := gamPow_nonneg hu (ws.length - 1)
    -- the error so far, relative to the new majorant `Σ|w_i| + |w|`
    have ih' := ih.trans (mul_le_mul_of_nonneg_left hle hg)
    unfold addFl
    by_cases h0 : acc = 0
    · -- adding to an accumulator that is `0` is exact
      rw [if_pos h0, show w - (sumL ws + w) = acc - sumL ws by rw [h0]; ring]
      exact ih'.trans (mul_le_mul_of_nonneg_right (gamPow_mono hu (Nat.sub_le _ _))
        ((sumAbsL_nonneg ws).trans hle))
    · -- the accumulator is non-zero: at least one weight has been added
      have hk : ws.length = (ws.length - 1) + 1 := by
        rcases ws with _ | ⟨a, t⟩
        · exact absurd rfl h0
        · rfl
      rw [if_neg h0, hk, gamPow_succ]
      rw [← add_sub_add_right_eq_sub acc (sumL ws) w] at ih'
      exact h.round_rel ih' ((abs_add_le _ _).trans (add_le_add (abs_sumL_le ws) le_rfl))

/-- the proved bound is at most the executable one (for `(k-1) u < 1`) -/
theorem wsumEpsPow_le_wsumEps {u : ℚ} (hu : 0 ≤ u) (ws : List ℚ)
    (hk : ((ws.length - 1 : ℕ) : ℚ) * u < 1) : wsumEpsPow u ws ≤ wsumEps u ws :=
  mul_le_mul_of_nonneg_right (gamPow_le_gamK hu _ hk) (sumAbsL_nonneg ws)

/-- **`cellSum_fl_error`.** A cell with `k` samples, weights added in input order:
`|cell~ - Σ w| ≤ ((k-1) u / (1 - (k-1) u)) Σ|w|`. -/
theorem cellSum_fl_error {fl : ℚ → ℚ} {u : ℚ} (h : Fl fl u) (ws : List ℚ)
    (hk : ((ws.length - 1 : ℕ) : ℚ) * u < 1) : |cellSumFl fl ws - sumL ws| ≤ wsumEps u ws :=
  le_trans (cellSum_fl_error_pow h ws) (wsumEpsPow_le_wsumEps h.u_nonneg ws hk)

/-! ### the whole matrix -/

theorem weightOf_eq_sumL (samples : List Sample) (l p : ℕ) :
    Spec.C05.weightOf samples l p = sumL (cellWeights samples l p) := by
  induction samples with
  | nil => rfl
  | cons s r ih =>
    unfold cellWeights at ih ⊢
    simp only [Spec.C05.weightOf, List.filter_cons, ih]
    by_cases hc : s.label = l ∧ s.pred = p
    · simp [hc, sumL]
    · simp [hc]

/-- the float loop: every cell receives `cellSumFl`-style accumulation of its own weights, in
input order, on top of its initial content -/
theorem accumulateFl_spec (fl : ℚ → ℚ) (classes : List ℕ) (hnd : classes.Nodup)
    (samples : List Sample) (hin : ∀ s ∈ samples, s.label ∈ classes ∧ s.pred ∈ classes) (M0 : Mat) :
    ∃ M, accumulateFl fl classes samples M0 = .ok M ∧
      ∀ i j, i < classes.length → j < classes.length →
        M i j = (cellWeights samples (classes.getD i 0) (classes.getD j 0)).foldl (addFl fl)
          (M0 i j) := by
  induction samples generalizing M0 with
  | nil => exact ⟨M0, rfl, fun i j _ _ => by simp [cellWeights]⟩
  | cons s rest ih =>
    obtain ⟨hl, hp⟩ := hin s List.mem_cons_self
    obtain ⟨M, hM, hE⟩ := ih (fun s' hs' => hin s' (List.mem_cons_of_mem _ hs'))
      (addAtFl fl M0 (classes.idxOf s.label) (classes.idxOf s.pred) s.weight)
    refine ⟨M, ?_, fun i j hi hj => ?_⟩
    · simp only [accumulateFl, idxMap_nodup classes _ hnd hl, idxMap_nodup classes _ hnd hp, hM]
    · rw [hE i j hi hj]
      have e1 := idx_eq_iff classes hnd i hi s.label hl
      have e2 := idx_eq_iff classes hnd j hj s.pred hp
      unfold cellWeights
      by_cases hc : i = classes.idxOf s.label ∧ j = classes.idxOf s.pred
      · have hc' : s.label = classes.getD i 0 ∧ s.pred = classes.getD j 0 :=
          ⟨e1.mp hc.1, e2.mp hc.2⟩
        rw [List.filter_cons, if_pos (decide_eq_true hc'), List.map_cons, List.foldl_cons]
        simp only [addAtFl]
        rw [if_pos hc]
      · have hc' : ¬ (s.label = classes.getD i 0 ∧ s.pred = classes.getD j 0) :=
          fun hh => hc ⟨e1.mpr hh.1, e2.mpr hh.2⟩
        rw [List.filter_cons, if_neg (by rw [decide_eq_true_eq]; exact hc')]
        simp only [addAtFl]
        rw [if_neg hc]

/-- **`C05_weighted_fl_error`.** `ConfusionMatrix(labels, predictions, weights, classes)` with float
weights: the float loop and the exact loop return a matrix, and every cell is within `wsumEps`
(`k` = number of samples of that cell) of the exact model's cell. -/
theorem C05_weighted_fl_error {fl : ℚ → ℚ} {u : ℚ} (h : Fl fl u) (classes : List ℕ)
    (hnd : classes.Nodup) (samples : List Sample)
    (hin : ∀ s ∈ samples, s.label ∈ classes ∧ s.pred ∈ classes)
    (hk : (samples.length : ℚ) * u < 1) :
    ∃ Mt M, accumulateFl fl classes samples Mat.zero = .ok Mt ∧
      accumulate classes samples Mat.zero = .ok M ∧
      ∀ i j, i < classes.length → j < classes.length →
        M i j = Spec.C05.weightOf samples (classes.getD i 0) (classes.getD j 0) ∧
        |Mt i j - M i j| ≤
          wsumEps u (cellWeights samples (classes.getD i 0) (classes.getD j 0)) := by
  obtain ⟨Mt, hMt, hEt⟩ := accumulateFl_spec fl classes hnd samples hin Mat.zero
  obtain ⟨M, hM, hE⟩ := accumulate_spec classes hnd samples hin Mat.zero
  refine ⟨Mt, M, hMt, hM, fun i j hi hj => ?_⟩
  have e1 : M i j = Spec.C05.weightOf samples (classes.getD i 0) (classes.getD j 0) := by
    rw [hE i j hi hj]; simp [Mat.zero]
  refine ⟨e1, ?_⟩
  rw [hEt i j hi hj, e1, weightOf_eq_sumL]
  have hlen : (cellWeights samples (classes.getD i 0) (classes.getD j 0)).length ≤ samples.length := by
    unfold cellWeights
    rw [List.length_map]
    exact List.length_filter_le _ _
  refine cellSum_fl_error h _ (lt_of_le_of_lt (mul_le_mul_of_nonneg_right ?_ h.u_nonneg) hk)
  exact_mod_cast (by omega : (cellWeights samples (classes.getD i 0) (classes.getD j 0)).length - 1 ≤
    samples.length)

/-- with `fl = id` the float loop is the exact loop -/
theorem accumulateFl_id (classes : List ℕ) (samples : List Sample) (M0 : Mat) :
    accumulateFl id classes samples M0 = accumulate classes samples M0 := by
  have hadd : ∀ acc w : ℚ, addFl id acc w = acc + w := fun acc w => by
    unfold addFl
    split
    · rename_i h0; rw [h0, zero_add]
    · rfl
  have haddAt : ∀ (M : Mat) (i j : ℕ) (w : ℚ), addAtFl id M i j w = addAt M i j w :=
    fun M i j w => by funext a b; simp only [addAtFl, addAt, hadd]
  induction samples generalizing M0 with
  | nil => rfl
  | cons s rest ih =>
    simp only [accumulateFl, accumulate, haddAt, ih]
    rfl

/-! ### the hypotheses are jointly satisfiable (non-identity rounding, concrete data) -/

/-- `cellSum_fl_error`: three weights that are not representable, the rounding `exFl`
(every rounded result moved up by the full relative amount): the float cell differs from the exact
sum, `(k-1) u < 1`, and the bound is `2u/(1-2u) * 3/5 ≈ 1.2 u` -/
example : Fl exFl (1 / 2 ^ 53) ∧
    (((([1 / 10, 1 / 5, 3 / 10] : List ℚ).length - 1 : ℕ) : ℚ)) * (1 / 2 ^ 53) < 1 ∧
    cellSumFl exFl [1 / 10, 1 / 5, 3 / 10] ≠ sumL [1 / 10, 1 / 5, 3 / 10] ∧
    wsumEps (1 / 2 ^ 53) [1 / 10, 1 / 5, 3 / 10] < 13 / 10 * (1 / 2 ^ 53) := by
  refine ⟨exFl_model, ?_, ?_, ?_⟩ <;> decide +kernel

/-- `C05_weighted_fl_error`: three classes in a non-sorted order, five weighted samples, three of them
in the same cell -/
example :
    let classes : List ℕ := [7, 3, 5]
    let samples : List Sample := [⟨7, 3, 1 / 10⟩, ⟨3, 3, 1 / 5⟩, ⟨7, 3, 3 / 10⟩, ⟨5, 7, 2 / 3⟩, ⟨7, 3, 1 / 7⟩]
    classes.Nodup ∧ (∀ s ∈ samples, s.label ∈ classes ∧ s.pred ∈ classes) ∧
      (samples.length : ℚ) * (1 / 2 ^ 53) < 1 ∧
      cellWeights samples 7 3 = [1 / 10, 3 / 10, 1 / 7] := by
  intro classes samples
  refine ⟨by decide, by decide, by decide +kernel, by decide +kernel⟩

end SA
